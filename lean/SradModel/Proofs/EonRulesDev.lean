/-
The device task of the edge-node LTS (`stepDev`, `devBirth`, `devDeath`) in rule form: one rule per
branch, the guards as equations on fields of the state and of the device, the successor as a record
update. A proof that analyses a step goes through `DevStep.of_mem`; one that exhibits a step uses `DevStep.mem` (`DevStep.eq` where the step is wanted whole).
-/
import SradModel.Proofs.EonBasic

namespace Srad.Eon

/-- `Device::birth` on device `x` in state `s` -/
inductive DevBirth (s : St) (x : Dev) (bt : BT) (req : Option Nat) (dec : Dec) : St → List Obs → Prop
  | disabled : x.enabled = false ∨ x.registered = false → DevBirth s x bt req dec s []
  | already : x.enabled = true → x.registered = true → bt = .birth → x.flag = true → DevBirth s x bt req dec s []
  | noSeq (e) : x.enabled = true → x.registered = true → (bt = .birth → x.flag = false) →
      nextSeqIn s req = .error e → DevBirth s x bt req dec s []
  | handed : x.enabled = true → x.registered = true → (bt = .birth → x.flag = false) →
      s.online = true → s.birthed = true → (∀ e, req = some e → e = s.epoch) →
      DevBirth s x bt req dec
        { s with seq := (s.seq + 1) % 256,
                 calls := s.calls ++ [logged s { kind := .dbirth, dev := some x.name, seq := some ((s.seq + 1) % 256),
                                                 gFlag := x.flag } dec],
                 devs := setDev { x with flag := false,
                                         pc := afterCall (.waitBirth s.calls.length s.epoch) (.birthDone · s.epoch)
                                                 (outcome false dec) } s.devs }
        [.bDev x.name, .call s.calls.length .dbirth (some x.name) (some ((s.seq + 1) % 256)) none false (dec.eff false)]

theorem DevBirth.of_eq (s : St) (x : Dev) (bt : BT) (req : Option Nat) (dec : Dec) :
    DevBirth s x bt req dec (devBirth s x bt req dec).1 (devBirth s x bt req dec).2 := by
  unfold devBirth
  split
  · next h => exact .disabled (by simpa using h)
  · next h =>
    have he : x.enabled = true ∧ x.registered = true := by simpa using h
    split
    · next hb =>
      have hb : bt = .birth ∧ x.flag = true := by simpa using hb
      exact .already he.1 he.2 hb.1 hb.2
    · next hb =>
      have hf : bt = .birth → x.flag = false := by simpa using hb
      split
      · next e hn => exact .noSeq e he.1 he.2 hf hn
      · next s1 n hn =>
        -- rewritten while `s1` is a variable: once `s1 := { s with seq := n }` is put in, the two nested updates
        -- are flattened and `callRes_handOver` no longer matches
        simp only [handOver_eq, callRes_handOver]
        obtain ⟨rfl, rfl, ho, hbi, hq⟩ := nextSeqIn_ok hn
        have key := DevBirth.handed (dec := dec) he.1 he.2 hf ho hbi hq
        generalize outcome false dec = r at key ⊢
        cases r <;> exact key

theorem DevBirth.total (s : St) (x : Dev) (bt : BT) (req : Option Nat) (dec : Dec) :
    ∃ s' o, DevBirth s x bt req dec s' o := ⟨_, _, .of_eq s x bt req dec⟩

/-- `Device::death(pub)` on device `x` in state `s`; the task ends if `thenDone` -/
inductive DevDeath (s : St) (x : Dev) (pub thenDone : Bool) (dec : Dec) : St → List Obs → Prop
  | unbirthed : x.flag = false →
      DevDeath s x pub thenDone dec
        { s with devs := setDev { x with pc := if thenDone then .done else .idle } s.devs } []
  | silent : x.flag = true → pub = false →
      DevDeath s x pub thenDone dec
        { s with devs := setDev { x with flag := false, pc := if thenDone then .done else .idle } s.devs } []
  | noSeq (e) : x.flag = true → pub = true → nextSeqIn s (some x.epoch) = .error e →
      DevDeath s x pub thenDone dec
        { s with devs := setDev { x with flag := false, pc := if thenDone then .done else .idle } s.devs } []
  | handed : x.flag = true → pub = true → s.online = true → s.birthed = true → x.epoch = s.epoch →
      DevDeath s x pub thenDone dec
        { s with seq := (s.seq + 1) % 256,
                 calls := s.calls ++ [logged s { kind := .ddeath, dev := some x.name, seq := some ((s.seq + 1) % 256),
                                                 gFlag := true } dec],
                 devs := setDev { x with flag := false,
                                         pc := afterCall (.waitDeath s.calls.length thenDone)
                                                 (fun _ => if thenDone then .done else .idle) (outcome false dec) } s.devs }
        [.call s.calls.length .ddeath (some x.name) (some ((s.seq + 1) % 256)) none false (dec.eff false)]

theorem DevDeath.of_eq (s : St) (x : Dev) (pub thenDone : Bool) (dec : Dec) :
    DevDeath s x pub thenDone dec (devDeath s x pub thenDone dec).1 (devDeath s x pub thenDone dec).2 := by
  simp only [devDeath]
  split
  · next h => exact .unbirthed (by simpa using h)
  · next h =>
    have hfl : x.flag = true := by simpa using h
    split
    · next hp => exact .silent hfl (by simpa using hp)
    · next hp =>
      have hp : pub = true := by simpa using hp
      split
      · next e hn => exact .noSeq e hfl hp hn
      · next s1 n hn =>
        simp only [handOver_eq, callRes_handOver]
        obtain ⟨rfl, rfl, ho, hbi, hq⟩ := nextSeqIn_ok hn
        have key := DevDeath.handed (thenDone := thenDone) (dec := dec) hfl hp ho hbi (hq _ rfl)
        generalize outcome false dec = r at key ⊢
        cases r <;> exact key

theorem DevDeath.total (s : St) (x : Dev) (pub thenDone : Bool) (dec : Dec) :
    ∃ s' o, DevDeath s x pub thenDone dec s' o := ⟨_, _, .of_eq s x pub thenDone dec⟩

inductive DevStep (s : St) (u : Nat) (dec : Dec) : St → List Obs → Prop
  | nsBirth (x bt ep rest) {s' o} : findUid u s.devs = some x → x.pc = .idle → x.nsq = .birth bt ep :: rest →
      DevBirth { s with devs := setDev { x with nsq := rest } s.devs } { x with nsq := rest } bt (some ep) dec s' o →
      DevStep s u dec s' o
  | nsDeath (x rest) {s' o} : findUid u s.devs = some x → x.pc = .idle → x.nsq = .death :: rest →
      DevDeath { s with devs := setDev { x with nsq := rest } s.devs } { x with nsq := rest } false false dec s' o →
      DevStep s u dec s' o
  | nsRemoved (x rest) {s' o} : findUid u s.devs = some x → x.pc = .idle → x.nsq = .removed :: rest →
      DevDeath { s with devs := setDev { x with nsq := rest } s.devs } { x with nsq := rest } true true dec s' o →
      DevStep s u dec s' o
  | enable (x rest) {s' o} : findUid u s.devs = some x → x.pc = .idle → x.nsq = [] → x.hq = .enable :: rest →
      DevBirth { s with devs := setDev { x with hq := rest, enabled := true } s.devs }
        { x with hq := rest, enabled := true } .birth none dec s' o →
      DevStep s u dec s' o
  | disable (x rest) {s' o} : findUid u s.devs = some x → x.pc = .idle → x.nsq = [] → x.hq = .disable :: rest →
      DevDeath { s with devs := setDev { x with hq := rest, enabled := false } s.devs }
        { x with hq := rest, enabled := false } true false dec s' o →
      DevStep s u dec s' o
  | rebirth (x rest) {s' o} : findUid u s.devs = some x → x.pc = .idle → x.nsq = [] → x.hq = .rebirth :: rest →
      DevBirth { s with devs := setDev { x with hq := rest } s.devs } { x with hq := rest } .rebirth none dec s' o →
      DevStep s u dec s' o
  | dcmdBad (x rest) : findUid u s.devs = some x → x.pc = .idle → x.nsq = [] → x.hq = [] → x.mq = false :: rest →
      DevStep s u dec { s with devs := setDev { x with mq := rest } s.devs } []
  | dcmd (x rest) : findUid u s.devs = some x → x.pc = .idle → x.nsq = [] → x.hq = [] → x.mq = true :: rest →
      DevStep s u dec { s with devs := setDev { x with mq := rest, pc := .inCb } s.devs } [.cbDcmd x.name]
  | birthResolved (x id ep ok) : findUid u s.devs = some x → x.pc = .waitBirth id ep → callRes s id = some ok →
      DevStep s u dec { s with devs := setDev { x with pc := .birthDone ok ep } s.devs } []
  | birthOk (x ep) : findUid u s.devs = some x → x.pc = .birthDone true ep →
      DevStep s u dec { s with devs := setDev { x with flag := true, epoch := ep, pc := .idle } s.devs } []
  | birthFailed (x ep) : findUid u s.devs = some x → x.pc = .birthDone false ep →
      DevStep s u dec { s with devs := setDev { x with pc := .idle } s.devs } []
  | deathResolved (x id thenDone ok) : findUid u s.devs = some x → x.pc = .waitDeath id thenDone →
      callRes s id = some ok →
      DevStep s u dec { s with devs := setDev { x with pc := if thenDone then .done else .idle } s.devs } []
  | cbReturn (x) : findUid u s.devs = some x → x.pc = .inCb → s.devCbPark.contains x.name = false →
      DevStep s u dec { s with devs := setDev { x with pc := .idle } s.devs } []

theorem DevStep.of_mem {s : St} {u : Nat} {dec : Dec} {r : St × List Obs} (h : r ∈ stepDev s u dec) :
    DevStep s u dec r.1 r.2 := by
  unfold stepDev at h
  split at h
  · cases h
  next x hx =>
  split at h
  · next hpc =>
    split at h
    · next m rest hq =>
      split at h <;> cases List.mem_singleton.1 h
      · exact .nsBirth x _ _ rest hx hpc hq (DevBirth.of_eq ..)
      · exact .nsDeath x rest hx hpc hq (DevDeath.of_eq ..)
      · exact .nsRemoved x rest hx hpc hq (DevDeath.of_eq ..)
    next hn =>
    split at h
    · next m rest hq =>
      split at h <;> cases List.mem_singleton.1 h
      · exact .enable x rest hx hpc hn hq (DevBirth.of_eq ..)
      · exact .disable x rest hx hpc hn hq (DevDeath.of_eq ..)
      · exact .rebirth x rest hx hpc hn hq (DevBirth.of_eq ..)
    next hh =>
    split at h
    · next ts rest hq =>
      cases ts <;> cases List.mem_singleton.1 h
      · exact .dcmdBad x rest hx hpc hn hh hq
      · exact .dcmd x rest hx hpc hn hh hq
    · cases h
  · next id ep hpc =>
    split at h
    · next ok hr => cases List.mem_singleton.1 h; exact .birthResolved x id ep ok hx hpc hr
    · cases h
  · next ok ep hpc =>
    cases List.mem_singleton.1 h
    cases ok
    · exact .birthFailed x ep hx hpc
    · exact .birthOk x ep hx hpc
  · next id thenDone hpc =>
    split at h
    · next ok hr => cases List.mem_singleton.1 h; exact .deathResolved x id thenDone ok hx hpc hr
    · cases h
  · next hpc =>
    split at h
    · cases h
    · next hp => cases List.mem_singleton.1 h; exact .cbReturn x hx hpc (by simpa using hp)
  · cases h

theorem DevBirth.frame {s s' : St} {x bt req dec o} (h : DevBirth s x bt req dec s' o) :
    s' = { s with seq := s'.seq, calls := s'.calls, devs := s'.devs } := by cases h <;> rfl

theorem DevDeath.frame {s s' : St} {x pub td dec o} (h : DevDeath s x pub td dec s' o) :
    s' = { s with seq := s'.seq, calls := s'.calls, devs := s'.devs } := by cases h <;> rfl

/-- a device step runs `devBirth` or `devDeath` after an update of the device list, or only updates the device
list, silently or calling `on_dcmd` -/
theorem DevStep.split {s : St} {u : Nat} {dec : Dec} {motive : ∀ s' o, DevStep s u dec s' o → Prop}
    (birth : ∀ {x' x bt req s' o} (_ : DevBirth { s with devs := setDev x' s.devs } x bt req dec s' o) h, motive s' o h)
    (death : ∀ {x' x p t s' o} (_ : DevDeath { s with devs := setDev x' s.devs } x p t dec s' o) h, motive s' o h)
    (quiet : ∀ x' h, motive { s with devs := setDev x' s.devs } [] h)
    (cb : ∀ x' d h, motive { s with devs := setDev x' s.devs } [.cbDcmd d] h)
    {s' : St} {o : List Obs} (h : DevStep s u dec s' o) : motive s' o h := by
  cases h with
  | nsBirth _ _ _ _ _ _ _ h | enable _ _ _ _ _ _ h | rebirth _ _ _ _ _ _ h => exact birth h _
  | nsDeath _ _ _ _ _ h | nsRemoved _ _ _ _ _ h | disable _ _ _ _ _ _ h => exact death h _
  | dcmd => exact cb _ _ _
  | _ => exact quiet _ _

theorem DevStep.frame {s s' : St} {u dec o} (h : DevStep s u dec s' o) :
    s' = { s with seq := s'.seq, calls := s'.calls, devs := s'.devs } := by
  induction h using DevStep.split with
  | birth h | death h => exact h.frame
  | quiet | cb => rfl

theorem DevStep.obs_of_offline {s s' : St} {u dec o} (h : DevStep s u dec s' o) (ho : s.online = false) :
    o = [] ∨ ∃ d, o = [.cbDcmd d] := by
  have birth {t x bt req t' o} (h : DevBirth t x bt req dec t' o) (ho : t.online = false) : o = [] := by
    cases h with
    | handed _ _ _ h => exact nomatch ho.symm.trans h
    | _ => rfl
  have death {t x p d t' o} (h : DevDeath t x p d dec t' o) (ho : t.online = false) : o = [] := by
    cases h with
    | handed _ _ h => exact nomatch ho.symm.trans h
    | _ => rfl
  induction h using DevStep.split with
  | birth h => exact .inl (birth h ho)
  | death h => exact .inl (death h ho)
  | quiet => exact .inl rfl
  | cb _ d => exact .inr ⟨d, rfl⟩

theorem DevBirth.eq {s s' : St} {x : Dev} {bt : BT} {req : Option Nat} {dec : Dec} {o : List Obs}
    (h : DevBirth s x bt req dec s' o) : devBirth s x bt req dec = (s', o) := by
  cases h with
  | disabled h => rcases h with h | h <;> simp [devBirth, h]
  | already => simp [devBirth, *]
  | noSeq e he hr hf hn =>
    have hg : (bt == .birth && x.flag) = false := by cases bt <;> simp_all
    simp [devBirth, he, hr, hg, hn]
  | handed he hr hf ho hb hq =>
    have hg : (bt == .birth && x.flag) = false := by cases bt <;> simp_all
    cases hx : outcome false dec <;>
      simp [devBirth, he, hr, hg, nextSeqIn_granted ho hb hq, handOver_eq, callRes, logged, hx]

theorem DevDeath.eq {s s' : St} {x : Dev} {pub td : Bool} {dec : Dec} {o : List Obs}
    (h : DevDeath s x pub td dec s' o) : devDeath s x pub td dec = (s', o) := by
  cases h with
  | unbirthed h => simp [devDeath, h]
  | silent h hp => simp [devDeath, h, hp]
  | noSeq e h hp hn => simp [devDeath, h, hp, hn]
  | handed h hp ho hb he =>
    have hn := nextSeqIn_granted (req := some x.epoch) ho hb (fun _ h => (Option.some.inj h).symm.trans he)
    cases hx : outcome false dec <;> simp [devDeath, h, hp, hn, handOver_eq, callRes, logged, hx]

/-- a device task is deterministic: a rule instance is the whole step -/
theorem DevStep.eq {s s' : St} {u : Nat} {dec : Dec} {o : List Obs} (h : DevStep s u dec s' o) :
    stepDev s u dec = [(s', o)] := by
  cases h with
  | nsBirth _ _ _ _ hf hpc hq hb => simp only [stepDev, hf, hpc, hq, ← hb.eq]
  | nsDeath _ _ hf hpc hq hb | nsRemoved _ _ hf hpc hq hb => simp only [stepDev, hf, hpc, hq, ← hb.eq]
  | enable _ _ hf hpc hq hh hb | disable _ _ hf hpc hq hh hb | rebirth _ _ hf hpc hq hh hb =>
    simp only [stepDev, hf, hpc, hq, hh, ← hb.eq]
  | _ => simp_all [stepDev]

theorem DevStep.mem {s s' : St} {u : Nat} {dec : Dec} {o : List Obs} (h : DevStep s u dec s' o) :
    (s', o) ∈ stepDev s u dec :=
  h.eq ▸ List.mem_singleton_self _

end Srad.Eon
