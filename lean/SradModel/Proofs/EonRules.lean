/-
The edge-node LTS as one step relation. `Step s s' o` holds when some task or the environment takes `s`
to `s'` emitting the observations `o`; it is the union of the rule-form relations of the tasks.
Inductions over executions: `runActs_induct` from any start state (`Reaches.induct` from the initial one),
`runActs_induct_on` when something is assumed of every state visited, `IsMonitor.runActs` for a trace scanner
(`IsMonitor` is what the scanners of `Model/EonSpec` have in common) together with a relation to its state.
-/
import SradModel.Proofs.EonRulesNode
import SradModel.Proofs.EonRulesDev
import SradModel.Proofs.EonRulesUser

namespace Srad.Eon

inductive Step (s : St) : St → List Obs → Prop
  | stim (x) {s' o} : StimStep s x s' o → Step s s' o
  | loop {s' o} : LoopStep s s' o → Step s s' o
  | timeout {s' o} : TimeoutStep s s' o → Step s s' o
  | node (dec) {s' o} : NodeStep s dec s' o → Step s s' o
  | dev (u dec) {s' o} : DevStep s u dec s' o → Step s s' o
  | user (j dec) {s' o} : UserStep s j dec s' o → Step s s' o

theorem StimStep.of_runAct {s s' : St} {x : Stim} {o : List Obs} (h : runAct s (.stim x) = some (s', o)) :
    StimStep s x s' o := by
  have := StimStep.of_apply s x
  rwa [show applyStim s x = (s', o) from Option.some.inj h] at this

theorem Step.of_runAct {s s' : St} {a : Act} {o : List Obs} (h : runAct s a = some (s', o)) : Step s s' o := by
  cases a with
  | stim x => exact .stim x (.of_runAct h)
  | task t dec k =>
    have hm : (s', o) ∈ step s t dec := List.mem_of_getElem? h
    cases t with
    | loop => exact .loop (LoopStep.of_mem hm)
    | loopTimeout => exact .timeout (TimeoutStep.of_mem hm)
    | node => exact .node dec (NodeStep.of_mem hm)
    | dev u => exact .dev u dec (DevStep.of_mem hm)
    | user j => exact .user j dec (UserStep.of_mem hm)

theorem Step.calls_le {s s' : St} {o : List Obs} (h : Step s s' o) : s.calls.length ≤ s'.calls.length := by
  cases h with
  | stim _ h | timeout h | node _ h | user _ _ h => cases h <;> simp
  | loop h => rw [h.frame]; exact Nat.le_refl _
  | dev _ _ h =>
    induction h using DevStep.split with
    | birth h | death h => cases h <;> simp
    | quiet | cb => exact Nat.le_refl _

theorem runActs_cons {s s' : St} {a : Act} {as : List Act} {tr : List Obs} (h : runActs s (a :: as) = some (s', tr)) :
    ∃ s₁ o₁ o₂, runAct s a = some (s₁, o₁) ∧ runActs s₁ as = some (s', o₂) ∧ tr = o₁ ++ o₂ := by
  simp only [runActs] at h
  split at h
  · cases h
  · next s₁ o₁ h₁ =>
    split at h
    · cases h
    · next s₂ o₂ h₂ => cases h; exact ⟨s₁, o₁, o₂, h₁, h₂, rfl⟩

/-- `P` relates the state reached to the trace emitted since `pre`; `U` is assumed of every state visited -/
theorem runActs_induct_on {P : St → List Obs → Prop} {U : St → Prop}
    (hs : ∀ s tr s' o, U s → P s tr → Step s s' o → P s' (tr ++ o)) :
    ∀ (acts : List Act) {s₀ : St} {pre : List Obs} {s : St} {tr : List Obs}, P s₀ pre →
      (∀ p, p <+: acts → ∀ s1 t1, runActs s₀ p = some (s1, t1) → U s1) →
      runActs s₀ acts = some (s, tr) → P s (pre ++ tr) := by
  intro acts
  induction acts with
  | nil =>
    intro s₀ pre s tr h0 _ h
    obtain ⟨rfl, rfl⟩ : s₀ = s ∧ [] = tr := by simpa [runActs] using h
    simpa using h0
  | cons a as ih =>
    intro s₀ pre s tr h0 hU h
    obtain ⟨s₁, o₁, o₂, h₁, h₂, rfl⟩ := runActs_cons h
    rw [← List.append_assoc]
    refine ih (hs _ _ _ _ (hU [] List.nil_prefix s₀ [] rfl) h0 (.of_runAct h₁)) (fun p hp s1 t1 hr => ?_) h₂
    exact hU (a :: p) (List.cons_prefix_cons.2 ⟨rfl, hp⟩) s1 (o₁ ++ t1) (by simp [runActs, h₁, hr])

/-- `P` relates the state reached to the trace emitted since the start state -/
theorem runActs_induct {P : St → List Obs → Prop} {s₀ : St} (h0 : P s₀ [])
    (hs : ∀ s tr s' o, P s tr → Step s s' o → P s' (tr ++ o))
    (acts : List Act) {s : St} {tr : List Obs} (h : runActs s₀ acts = some (s, tr)) : P s tr := by
  simpa using runActs_induct_on (U := fun _ => True) (fun s tr s' o _ => hs s tr s' o) acts (pre := []) h0
    (fun _ _ _ _ _ => trivial) h

theorem Reaches.induct {cd : Nat} {P : St → List Obs → Prop} (h0 : P (init cd) [])
    (hs : ∀ s tr s' o, P s tr → Step s s' o → P s' (tr ++ o)) {s : St} {tr : List Obs}
    (h : Reaches cd s tr) : P s tr :=
  h.elim fun acts ha => runActs_induct h0 hs acts ha

section Monitor
variable {σ α : Type} {ok : σ → List α → Bool} {next : σ → α → σ}

/-- `ok` scans a trace with a state: it checks each observation in the state reached so far
(`ok q [o]`) and carries on from `next q o`. Every scanner of `Model/EonSpec` is one. -/
structure IsMonitor (ok : σ → List α → Bool) (next : σ → α → σ) : Prop where
  nil : ∀ q, ok q [] = true
  cons : ∀ q o t, ok q (o :: t) = (ok q [o] && ok (next q o) t)

theorem IsMonitor.append (m : IsMonitor ok next) (t₁ t₂ : List α) :
    ∀ q, ok q (t₁ ++ t₂) = (ok q t₁ && ok (t₁.foldl next q) t₂) := by
  induction t₁ with
  | nil => intro q; rw [m.nil, List.nil_append, List.foldl_nil, Bool.true_and]
  | cons o t ih =>
    intro q
    rw [List.cons_append, m.cons, ih, m.cons q o t, List.foldl_cons, Bool.and_assoc]

theorem append_of_cons {f : List α → Bool} (h0 : f [] = true) (hc : ∀ o t, f (o :: t) = (f [o] && f t))
    (a b : List α) : f (a ++ b) = (f a && f b) :=
  IsMonitor.append (ok := fun _ : Unit => f) (next := fun _ _ => ()) ⟨fun _ => h0, fun _ => hc⟩ a b ()

theorem IsMonitor.quiet (m : IsMonitor ok next) {q : σ} {t : List α}
    (h : ∀ o ∈ t, ok q [o] = true ∧ next q o = q) : ok q t = true ∧ t.foldl next q = q := by
  induction t with
  | nil => exact ⟨m.nil q, rfl⟩
  | cons o t ih =>
    obtain ⟨h1, h2⟩ := h o (List.mem_cons_self ..)
    rw [m.cons, h1, List.foldl_cons, h2]
    exact ih fun x hx => h x (List.mem_cons_of_mem _ hx)

/-! What `IsMonitor.runActs` asks of a step that emits `o` and ends in `s'`: the scanner in state `q` accepts `o`,
and the relation `R` holds again between `s'` and the scanner's new state. Observations in `p` are those the scanner
neither checks nor remembers. -/

theorem IsMonitor.pass_quiet (m : IsMonitor ok next) {p : α → Bool}
    (hp : ∀ x, p x = true → ∀ q, ok q [x] = true ∧ next q x = q) {β : Type} {R : β → σ → Prop} {q : σ} {s' : β}
    {o : List α} (ho : o.all p = true) (hR : R s' q) : ok q o = true ∧ R s' (o.foldl next q) := by
  obtain ⟨h1, h2⟩ := m.quiet (q := q) fun x hx => hp x (List.all_eq_true.1 ho x hx) q
  exact ⟨h1, h2.symm ▸ hR⟩

/-- one observation `x` that counts, among quiet ones -/
theorem IsMonitor.pass_around (m : IsMonitor ok next) {p : α → Bool}
    (hp : ∀ x, p x = true → ∀ q, ok q [x] = true ∧ next q x = q) {β : Type} {R : β → σ → Prop} {q : σ} {s' : β}
    {pre post : List α} {x : α} (hpre : pre.all p = true) (hx : ok q [x] = true) (hpost : post.all p = true)
    (hR : R s' (next q x)) : ok q (pre ++ x :: post) = true ∧ R s' ((pre ++ x :: post).foldl next q) := by
  obtain ⟨a1, a2⟩ := m.quiet (q := q) fun y hy => hp y (List.all_eq_true.1 hpre y hy) q
  obtain ⟨b1, b2⟩ := m.quiet (q := next q x) fun y hy => hp y (List.all_eq_true.1 hpost y hy) _
  rw [m.append, a1, a2, m.cons, hx, b1, List.foldl_append, a2, List.foldl_cons, b2]
  exact ⟨rfl, hR⟩

variable {ok₁ ok₂ : σ → List α → Bool}

/-- the cons equation of a scanner at an observation it checks: `a` is the check, `b` the scan of the rest -/
theorem cons_check (a b : Bool) : (a && b) = (a && true && b) := by rw [Bool.and_true]

theorem IsMonitor.and (m₁ : IsMonitor ok₁ next) (m₂ : IsMonitor ok₂ next) :
    IsMonitor (fun q t => ok₁ q t && ok₂ q t) next where
  nil q := by simp only [m₁.nil, m₂.nil, Bool.and_self]
  cons q o t := by
    simp only [m₁.cons q o t, m₂.cons q o t, Bool.and_assoc, Bool.and_left_comm]

end Monitor

theorem IsMonitor.runActs {ok : σ → List Obs → Bool} {next : σ → Obs → σ} (m : IsMonitor ok next)
    {R : St → σ → Prop}
    (hstep : ∀ {s q s' o}, R s q → Step s s' o → ok q o = true ∧ R s' (o.foldl next q))
    {s₀ : St} {q₀ : σ} (h0 : R s₀ q₀) {acts : List Act} {s : St} {tr : List Obs}
    (h : runActs s₀ acts = some (s, tr)) : ok q₀ tr = true ∧ R s (tr.foldl next q₀) := by
  refine runActs_induct (P := fun s tr => ok q₀ tr = true ∧ R s (tr.foldl next q₀)) ⟨m.nil _, h0⟩ ?_ acts h
  intro s tr s' o ⟨h1, h2⟩ hs
  obtain ⟨h3, h4⟩ := hstep h2 hs
  rw [m.append, h1, h3, List.foldl_append]
  exact ⟨rfl, h4⟩

theorem IsMonitor.prod {σ τ α : Type} {ok₁ : σ → List α → Bool} {n₁ : σ → α → σ} {ok₂ : τ → List α → Bool}
    {n₂ : τ → α → τ} (m₁ : IsMonitor ok₁ n₁) (m₂ : IsMonitor ok₂ n₂) :
    IsMonitor (fun (q : σ × τ) t => ok₁ q.1 t && ok₂ q.2 t) (fun q o => (n₁ q.1 o, n₂ q.2 o)) where
  nil q := by simp only [m₁.nil, m₂.nil, Bool.and_self]
  cons q o t := by simp only [m₁.cons q.1 o t, m₂.cons q.2 o t, Bool.and_assoc, Bool.and_left_comm]

/-! ### schedules -/

theorem runActs_append {s s1 s2 : St} {a b : List Act} {t1 t2 : List Obs}
    (h1 : runActs s a = some (s1, t1)) (h2 : runActs s1 b = some (s2, t2)) :
    runActs s (a ++ b) = some (s2, t1 ++ t2) := by
  induction a generalizing s t1 with
  | nil => simp [runActs] at h1; obtain ⟨rfl, rfl⟩ := h1; simpa using h2
  | cons x xs ih =>
    obtain ⟨s₃, o₃, o₄, h₃, h₄, rfl⟩ := runActs_cons h1
    simp [runActs, h₃, ih h₄]

theorem runActs_single {s s' : St} {a : Act} {o : List Obs} (h : runAct s a = some (s', o)) :
    runActs s [a] = some (s', o) := by
  simp [runActs, h]

/-- induction over a schedule all of whose actions satisfy `p`: `R s sched s' tr` relates start, schedule, end
and trace; the step sees the action taken -/
theorem runActs_sched_induct {p : Act → Prop} {R : St → List Act → St → List Obs → Prop} (nil : ∀ s, R s [] s [])
    (cons : ∀ {s a s₁ o₁ as s' o₂}, p a → runAct s a = some (s₁, o₁) → R s₁ as s' o₂ → R s (a :: as) s' (o₁ ++ o₂)) :
    ∀ (sched : List Act) {s s' : St} {tr : List Obs}, (∀ a ∈ sched, p a) → runActs s sched = some (s', tr) →
      R s sched s' tr := by
  intro sched
  induction sched with
  | nil => intro s s' tr _ h; cases h; exact nil s
  | cons a as ih =>
    intro s s' tr hall h
    obtain ⟨s₁, o₁, o₂, h₁, h₂, rfl⟩ := runActs_cons h
    exact cons (hall a (List.mem_cons_self ..)) h₁ (ih (fun b hb => hall b (List.mem_cons_of_mem _ hb)) h₂)

/-- as long as `T` does not hold some further piece of schedule keeps `I` and lowers `m`: induction on `m` -/
theorem extend_by_measure {p : Act → Prop} {I T : St → Prop} {m : St → Nat}
    (hstep : ∀ s, I s → ¬ T s → ∃ pre s₁ o₁, (∀ a ∈ pre, p a) ∧ runActs s pre = some (s₁, o₁) ∧ I s₁ ∧ m s₁ < m s)
    {s : St} (hi : I s) : ∃ sched s' tr', (∀ a ∈ sched, p a) ∧ runActs s sched = some (s', tr') ∧ T s' := by
  generalize hn : m s = n
  induction n using Nat.strongRecOn generalizing s with
  | _ n ih =>
    by_cases ht : T s
    · exact ⟨[], s, [], nofun, rfl, ht⟩
    · obtain ⟨pre, s₁, o₁, hpre, hr, hi₁, hlt⟩ := hstep s hi ht
      obtain ⟨sched, s₂, tr₂, hall, hrun, ht₂⟩ := ih _ (hn ▸ hlt) hi₁ rfl
      exact ⟨pre ++ sched, s₂, o₁ ++ tr₂, fun b hb => (List.mem_append.1 hb).elim (hpre b) (hall b),
        runActs_append hr hrun, ht₂⟩

theorem all_ures {p : Obs → Bool} (hp : ∀ j r, p (.ures j r) = true) (j : Nat) (r : Option Bool) :
    (afterCall [] (fun ok => [Obs.ures j (.ofAck ok)]) r).all p = true := by
  cases r <;> simp [afterCall, hp]

end Srad.Eon
