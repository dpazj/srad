/-
C06 — Host withholds data from stale nodes and devices.
The stores' answers travel with the messages (`Ans`), every step takes arbitrary clock readings:
the theorems hold for every store and every clock, except where `s.birthTs ≤ now` is assumed
explicitly (ClockCoherent: the node's clock is not ahead of the host's) — see K1 below.
-/
import SradModel.Proofs.Host

namespace Srad.Host

/-- every state reachable by any history satisfies the invariant -/
theorem C06_reachable_inv (c : Cfg) (evs : List Ev) (hwf : ∀ e ∈ evs, e.inp.WF) :
    HostInv (run c init evs).1 := by
  exact (run_spec c evs init init_inv hwf).1

/-- **First sentence.** In the effect trace of every history, each data effect on the node's
store is preceded, most recently among its lifecycle effects, by an accepted birth, and each
data effect on a device's store likewise for the node and for that device. -/
theorem C06_data_guarded (c : Cfg) (evs : List Ev) (hwf : ∀ e ∈ evs, e.inp.WF) :
    DataGuarded .stale (fun _ => .stale) (run c init evs).2 := by
  exact Guard_dataGuarded _ _ _ (run_spec c evs init init_inv hwf).2.guard

/-- what the actor records as lifecycle is what the stores were told -/
theorem C06_state_matches_trace (c : Cfg) (evs : List Ev) (hwf : ∀ e ∈ evs, e.inp.WF) :
    (run c init evs).1.life = nodeLife .stale (run c init evs).2 ∧
    ∀ d, devState (run c init evs).1 d = devLife d .stale (run c init evs).2 := by
  obtain ⟨h1, h2, _⟩ := (run_spec c evs init init_inv hwf).2
  exact ⟨h1.symm, fun d => (h2 d).symm⟩

/-- **Second sentence, NDEATH** (matching or not): afterwards the node and all devices are held
stale, and if the node was birthed its store and every device store were told so. -/
theorem C06_ndeath_marks_stale (c : Cfg) (s : St) (bd now wall : Nat) (hinv : HostInv s)
    (hclock : s.birthTs ≤ now) :
    (step c s (.ndeath bd) now wall).1.life = .stale ∧
    (∀ d ∈ (step c s (.ndeath bd) now wall).1.devices, d.2 = .stale) ∧
    (s.life = .birthed → Eff.nodeStale ∈ (step c s (.ndeath bd) now wall).2 ∧
      ∀ d ∈ s.devices, Eff.devStale d.1 ∈ (step c s (.ndeath bd) now wall).2) := by
  exact step_marks_of_body c s _ now wall (ndeath_body_marks c s bd now hinv hclock)

/-- **Second sentence, host offline.** -/
theorem C06_offline_marks_stale (c : Cfg) (s : St) (now wall : Nat) (hinv : HostInv s)
    (hclock : s.birthTs ≤ now) :
    (step c s .offline now wall).1.life = .stale ∧
    (∀ d ∈ (step c s .offline now wall).1.devices, d.2 = .stale) ∧
    (s.life = .birthed → Eff.nodeStale ∈ (step c s .offline now wall).2 ∧
      ∀ d ∈ s.devices, Eff.devStale d.1 ∈ (step c s .offline now wall).2) :=
  have h := setStale_marks s now hclock
  ⟨h.1, h.2.1 hinv.devices_stale, h.2.2⟩

/-- **Second sentence, rebirth request issued by the host**, whatever triggered it. -/
theorem C06_rebirth_marks_stale (c : Cfg) (s : St) (i : In) (now wall : Nat) (hinv : HostInv s)
    (hwf : i.WF) (hclock : s.birthTs ≤ now) (h : Eff.ncmd ∈ (step c s i now wall).2) :
    (step c s i now wall).1.life = .stale ∧
    (∀ d ∈ (step c s i now wall).1.devices, d.2 = .stale) ∧
    (s.life = .birthed → Eff.nodeStale ∈ (step c s i now wall).2 ∧
      ∀ d ∈ s.devices, Eff.devStale d.1 ∈ (step c s i now wall).2) := by
  exact rebirth_marks c s i now wall hinv hwf hclock h

/-- … and from then on no data reaches the node's store or any device store: a step taken in a
stale state emits no data effect at all (the next data effect needs an accepted NBIRTH first,
and by `C06_data_guarded` a device's needs its own DBIRTH). -/
theorem C06_stale_blocks_data (c : Cfg) (s : St) (i : In) (now wall : Nat) (hinv : HostInv s)
    (hst : s.life = .stale) :
    ∀ e ∈ (step c s i now wall).2, (∀ id, e ≠ Eff.nodeData id) ∧ (∀ d id, e ≠ Eff.devData d id) := by
  intro e he
  have := stale_no_data c s i now wall hst e he
  cases e <;> simp_all [Eff.isData]

/-- **Third sentence.** A message time-stamped before the current birth or before the last
staleness changes nothing and reaches no store. -/
theorem C06_old_message_discarded (c : Cfg) (s : St) (seq ts : Nat) (m : RMsg) (now wall : Nat)
    (h : ts < s.birthTs ∨ ts < s.staleTs) :
    step c s (.rmsg seq ts m) now wall = (s, []) := by
  simp [step, handleRMsg, h]

/-! ### K1 — the excluded point of `hclock`, exhibited (a finding, see KNOWN_FINDINGS.json):
with the node's clock ahead of the host's, an NDEATH is ignored and later data is applied. -/
example :
    let c : Cfg := exampleCfg none 0
    (run c init [⟨.nbirth 20000 3 1 .ok, 10000, 10000⟩, ⟨.ndeath 3, 10001, 10001⟩,
                 ⟨.rmsg 1 20001 (.ndata 2 .ok), 10002, 10002⟩]).2
      = [.nodeBirth 1 true, .nodeData 2] := by decide

example :
    let c : Cfg := exampleCfg (some 100) 0
    (run c init [⟨.nbirth 10 3 1 .ok, 10, 10⟩, ⟨.rmsg 1 11 (.dbirth 1 2 .ok), 11, 11⟩,
                 ⟨.rmsg 3 13 (.ddata 1 4 .ok), 12, 12⟩, ⟨.rmsg 2 12 (.ndata 3 .ok), 13, 13⟩,
                 ⟨.ndeath 3, 14, 14⟩, ⟨.rmsg 4 15 (.ndata 5 .ok), 15, 15⟩]).2
      = [.nodeBirth 1 true, .devCreated 1, .devBirth 1 2 true, .timerStart, .nodeData 3,
         .devData 1 4, .timerCancel, .nodeStale, .devStale 1, .ncmd] := by decide

end Srad.Host
