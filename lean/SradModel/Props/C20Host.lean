/-
C20, host sentence, the generic `Application` (srad-app/src/generic_app.rs, `Application::run` /
`handle_event`): "Cancelling a host application likewise publishes its offline STATE, disconnects and
makes its run loop return."

The certificate and the disconnect are `AppClient::cancel()` + `AppEventLoop::poll`, proved on the
event-loop model (`Props/C16.lean`: `C16_cancel_publishes_offline_then_disconnects`,
`C16_cancel_returns`: the event loop yields `Cancelled` after the final Offline or the bounded wait).
Here: what `Application::run` does with it (`Host.runStep`, `Model/Host.lean`). The point of the
theorems is what the run loop does NOT do when it is cancelled: it sends nothing to any node actor
and touches no store — a send into a node's bounded queue would wait for an actor that may itself be
waiting for the client (back-pressure on its rebirth NCMD), and the shutdown would hang on the client.
Tied to the real code by component `host` (`host cancel …` request lines: effects and the time until
`run()` has returned) and by the oracle clause `C20:host-run-returns` (cancel with node actors parked
in blocking client calls and their queues exactly full).
-/
import SradModel.Model.Host

namespace Srad.Host

/-- **`AppEvent::Cancelled` makes the run loop return, and does nothing else**: whatever the state of
the application (running or already waiting for the final Offline), the step has no effect on any
node or store, leaves every node actor's state and the online flag as they are, and the loop is
`returned`. -/
theorem C20H_cancelled_returns (c : Cfg) (r : RunApp) (now wall : Nat) :
    (runStep c r .cancelled now wall).1.phase = .returned ∧
    (runStep c r .cancelled now wall).2 = [] ∧
    (runStep c r .cancelled now wall).1.app = r.app := by
  cases r with
  | mk app phase => cases phase <;> simp [runStep]

/-- **taking the stop request does nothing to the nodes either**: no effect, same application state,
and a running loop is `stopping` afterwards -/
theorem C20H_stop_is_silent (c : Cfg) (r : RunApp) (now wall : Nat) :
    (runStep c r .stop now wall).2 = [] ∧ (runStep c r .stop now wall).1.app = r.app ∧
    (r.phase = .running → (runStep c r .stop now wall).1.phase = .stopping) := by
  cases r with
  | mk app phase => cases phase <;> simp [runStep]

/-- **while the host waits for the final Offline nothing is dispatched**: an event the client's event
loop yields in that phase — a node or device message, an invalid payload, Online, the Offline itself —
reaches no node actor: no effect, every node's state unchanged (only a reorder-timeout task of a
still living actor can act, `C20H_stopping_timer`) -/
theorem C20H_stopping_dispatches_nothing (c : Cfg) (r : RunApp) (i : AppIn) (now wall : Nat)
    (hp : r.phase = .stopping) (hi : ∀ n, i ≠ .timerFire n) :
    (runStep c r (.ev i) now wall).2 = [] ∧ (runStep c r (.ev i) now wall).1.app.nodes = r.app.nodes ∧
    (runStep c r (.ev i) now wall).1.phase = .stopping := by
  cases r with
  | mk app phase =>
    simp only at hp
    subst hp
    cases i with
    | timerFire n => exact absurd rfl (hi n)
    | _ => simp [runStep]

/-- the reorder-timeout task of a node completes while the host is stopping: exactly what it does in a
running host (`appStep`) -/
theorem C20H_stopping_timer (c : Cfg) (r : RunApp) (n : Nat) (now wall : Nat) (hp : r.phase = .stopping) :
    runStep c r (.ev (.timerFire n)) now wall =
      ({ r with app := (appStep c r.app (.timerFire n) now wall).1 }, (appStep c r.app (.timerFire n) now wall).2) := by
  cases r with
  | mk app phase =>
    simp only at hp
    subst hp
    simp [runStep]

/-- **once `run()` has returned nothing happens any more**: no input has any effect or changes
anything -/
theorem C20H_returned_is_final (c : Cfg) (r : RunApp) (i : RunIn) (now wall : Nat) (hp : r.phase = .returned) :
    runStep c r i now wall = (r, []) := by
  cases r with
  | mk app phase =>
    simp only at hp
    subst hp
    simp [runStep]

/-- … for whole histories: after the return every continuation is silent and leaves the state alone -/
theorem C20H_nothing_after_return (c : Cfg) (r : RunApp) (h : List (RunIn × Nat × Nat)) (hp : r.phase = .returned) :
    runAll c r h = (r, []) := by
  induction h with
  | nil => rfl
  | cons x t ih =>
    obtain ⟨i, now, wall⟩ := x
    simp [runAll, C20H_returned_is_final c r i now wall hp, ih]

/-- a stopping run loop through whatever the client's event loop yields, up to `Cancelled` -/
theorem stopping_tail (c : Cfg) (t2 : Nat) (evs : List (AppIn × Nat × Nat)) : ∀ (r : RunApp),
    r.phase = .stopping → (∀ x ∈ evs, ∀ n, x.1 ≠ .timerFire n) →
    (runAll c r (evs.map (fun x => (RunIn.ev x.1, x.2.1, x.2.2)) ++ [(RunIn.cancelled, t2, t2)])).1.phase = .returned ∧
    (runAll c r (evs.map (fun x => (RunIn.ev x.1, x.2.1, x.2.2)) ++ [(RunIn.cancelled, t2, t2)])).2 = [] ∧
    (runAll c r (evs.map (fun x => (RunIn.ev x.1, x.2.1, x.2.2)) ++ [(RunIn.cancelled, t2, t2)])).1.app.nodes = r.app.nodes := by
  induction evs with
  | nil =>
    intro r _ _
    have hc := C20H_cancelled_returns c r t2 t2
    simp [runAll, hc.1, hc.2.1, hc.2.2]
  | cons x t ih =>
    intro r hr hx
    obtain ⟨i, now, wall⟩ := x
    have hs := C20H_stopping_dispatches_nothing c r i now wall hr (fun n => hx (i, now, wall) (by simp) n)
    have ht := ih (runStep c r (.ev i) now wall).1 hs.2.2 (fun y hy n => hx y (by simp [hy]) n)
    simp only [List.map_cons, List.cons_append, runAll]
    refine ⟨ht.1, ?_, ?_⟩
    · rw [hs.1, ht.2.1]; rfl
    · rw [ht.2.2, hs.2.1]

/-- **cancel of a running host** (`cancelHist`): the stop request is taken, then — whatever the client's
event loop yields meanwhile (`evs`: anything but timeout tasks completing) — `Cancelled` arrives: the run
loop has returned, no store was touched, no NCMD was published, no node actor's state has changed. -/
theorem C20H_cancel_returns_silently (c : Cfg) (r : RunApp) (evs : List (AppIn × Nat × Nat))
    (t1 t2 : Nat) (hp : r.phase = .running) (hev : ∀ x ∈ evs, ∀ n, x.1 ≠ .timerFire n) :
    (runAll c r (cancelHist evs t1 t2)).1.phase = .returned ∧ (runAll c r (cancelHist evs t1 t2)).2 = [] ∧
    (runAll c r (cancelHist evs t1 t2)).1.app.nodes = r.app.nodes := by
  have h0 := C20H_stop_is_silent c r t1 t1
  have hk := stopping_tail c t2 evs (runStep c r .stop t1 t1).1 (h0.2.2 hp) hev
  simp only [cancelHist, runAll]
  refine ⟨hk.1, ?_, ?_⟩
  · rw [h0.1, hk.2.1]; rfl
  · rw [hk.2.2, h0.2.1]

private def exCfg : Cfg :=
  { invalidPayload := true, outOfSyncBdSeq := true, unknownNode := true, unknownDevice := true, unknownMetric := true,
    reorderFailure := true, recordedStateStale := true, reorderTimeout := some 100, cooldown := 0, resequence := true }

/-- a host holding node 1 birthed with device 1 birthed; cancel, an NDATA and the final Offline arrive
while it is stopping, then `Cancelled`: returned, no effect at all — in particular node 1 and its device
are NOT told that the host went offline (their stores keep what they hold), and a message delivered
afterwards does nothing -/
example :
    let r0 : RunApp := { app := { online := true } }
    let h : List (RunIn × Nat × Nat) :=
      [(.ev (.node 1 (.nbirth 1000 3 1 .ok)), 1000, 1000),
       (.ev (.node 1 (.rmsg 1 1001 (.dbirth 1 2 .ok))), 1001, 1001),
       (.stop, 1002, 1002),
       (.ev (.node 1 (.rmsg 2 1002 (.ndata 3 .ok))), 1002, 1002),
       (.ev .offline, 1003, 1003),
       (.cancelled, 1003, 1003),
       (.ev (.node 1 (.rmsg 2 1002 (.ndata 3 .ok))), 1004, 1004)]
    (runAll exCfg r0 h).1.phase = .returned ∧
    (runAll exCfg r0 h).2 = [.nodeCreated 1, .node 1 (.nodeBirth 1 true), .node 1 (.devCreated 1), .node 1 (.devBirth 1 2 true)] ∧
    ((runAll exCfg r0 h).1.app.nodes.map fun p => (p.1, p.2.life, p.2.devices)) = [(1, .birthed, [(1, .birthed)])] := by
  decide

end Srad.Host
