/-
The event-loop task, its shutdown timeout and the node task of the edge-node LTS in rule form: one
constructor per branch of `stepLoop` / `stepLoopTimeout` / `stepNode`, the guards as equations on fields
of `s`, the successor as a record update of `s`. A proof that analyses a step goes through `of_mem` and `cases`
on the rules; one that exhibits a step names the rule and uses `mem` (`NodeStep.eq` where the step is wanted whole).
-/
import SradModel.Proofs.EonBasic

namespace Srad.Eon

/-! ### the node task -/

inductive NodeStep (s : St) (dec : Dec) : St → List Obs → Prop
  | onlineStopping : s.node = .idle → s.cs = some .online → s.stopping = true →
      NodeStep s dec { s with cs := none } []
  | onlineDup : s.node = .idle → s.cs = some .online → s.stopping = false → s.online = true →
      NodeStep s dec { s with cs := none, online := true } []
  | onlineSub : s.node = .idle → s.cs = some .online → s.stopping = false → s.online = false →
      NodeStep s dec
        { s with cs := none, online := true,
                 calls := s.calls ++ [logged { s with online := true } { kind := .sub } dec],
                 node := afterCall (.waitSub s.calls.length) .subDone (outcome false dec) }
        [.call s.calls.length .sub none none none false (dec.eff false)]
  | offlineDup (o) : s.node = .idle → s.cs = some (.offline o) → s.online = false →
      NodeStep s dec { s with cs := none, oneshots := s.oneshots ++ [(o, none)] } []
  | offline (o) : s.node = .idle → s.cs = some (.offline o) → s.online = true →
      NodeStep s dec
        { s with cs := none, online := false, birthed := false, bdseq := (s.bdseq + 1) % 256,
                 devs := pushAll .death s.devs, oneshots := s.oneshots ++ [(o, some ((s.bdseq + 1) % 256))] } []
  | stopped : s.node = .idle → s.cs = some .stopped → NodeStep s dec { s with cs := none, node := .done } []
  | rebirthReq : s.node = .idle → s.cs = none → s.rebirthQ = true → s.birthed = true →
      NodeStep s dec { s with rebirthQ := false, node := .birthStart .rebirth none } []
  | rebirthReqDrop : s.node = .idle → s.cs = none → s.rebirthQ = true → s.birthed = false →
      NodeStep s dec { s with rebirthQ := false } []
  | ncmdBad (rb rest) : s.node = .idle → s.cs = none → s.rebirthQ = false → s.msgQ = (rb, false) :: rest →
      NodeStep s dec { s with msgQ := rest } []
  | ncmd (rb rest) : s.node = .idle → s.cs = none → s.rebirthQ = false → s.msgQ = (rb, true) :: rest →
      NodeStep s dec { s with msgQ := rest, node := .inCb rb } [.cbNcmd]
  | subResolved (id ok) : s.node = .waitSub id → callRes s id = some ok →
      NodeStep s dec { s with node := .subDone ok } []
  | subOk : s.node = .subDone true → NodeStep s dec { s with node := .birthStart .birth none } []
  | subFailed : s.node = .subDone false → NodeStep s dec { s with node := .idle } []
  | birthStart (bt fromCmd) : s.node = .birthStart bt fromCmd →
      NodeStep s dec
        { s with birthed := false, seq := 0, epoch := s.epoch + 1,
                 calls := s.calls ++ [logged { s with birthed := false } { kind := .nbirth, seq := some 0, bd := some s.bdseq } dec],
                 node := afterCall (.waitNb s.calls.length bt fromCmd) (.nbDone · bt fromCmd) (outcome false dec) }
        [.bNode, .call s.calls.length .nbirth none (some 0) (some s.bdseq) false (dec.eff false)]
  | nbResolved (id bt fromCmd ok) : s.node = .waitNb id bt fromCmd → callRes s id = some ok →
      NodeStep s dec { s with node := .nbDone ok bt fromCmd } []
  | nbOk (bt fromCmd) : s.node = .nbDone true bt fromCmd →
      NodeStep s dec
        { s with birthed := true, devs := pushAll (.birth bt s.epoch) s.devs,
                 lastRebirthReq := fromCmd.getD s.lastRebirthReq, node := .idle } []
  | nbFailed (bt fromCmd) : s.node = .nbDone false bt fromCmd →
      NodeStep s dec { s with lastRebirthReq := fromCmd.getD s.lastRebirthReq, node := .idle } []
  | cbNoRebirth : s.node = .inCb false → s.nodeCbPark = false → NodeStep s dec { s with node := .idle } []
  | cbCooldown : s.node = .inCb true → s.nodeCbPark = false → s.wall - s.lastRebirthReq < s.cooldown →
      NodeStep s dec { s with node := .idle } []
  | cbRebirth : s.node = .inCb true → s.nodeCbPark = false → ¬ s.wall - s.lastRebirthReq < s.cooldown →
      s.birthed = true → NodeStep s dec { s with node := .birthStart .rebirth (some s.wall) } []
  | cbUnbirthed : s.node = .inCb true → s.nodeCbPark = false → ¬ s.wall - s.lastRebirthReq < s.cooldown →
      s.birthed = false → NodeStep s dec { s with lastRebirthReq := s.wall, node := .idle } []

theorem NodeStep.of_mem {s : St} {dec : Dec} {r : St × List Obs} (h : r ∈ stepNode s dec) :
    NodeStep s dec r.1 r.2 := by
  simp only [stepNode, nodeBirthStart, handOver_eq, Bool.not_eq_true'] at h
  split at h
  next hpc =>
    split at h
    next hcs =>
      split at h
      · obtain rfl := List.mem_singleton.1 h
        exact .onlineStopping hpc hcs ‹_›
      split at h
      · obtain rfl := List.mem_singleton.1 h
        exact .onlineDup hpc hcs (Bool.of_not_eq_true ‹_›) ‹_›
      · have hr := NodeStep.onlineSub (dec := dec) hpc hcs (Bool.of_not_eq_true ‹_›) (Bool.of_not_eq_true ‹_›)
        simp only [callRes, List.getElem?_concat_length, Option.bind_some, logged_res] at h
        cases hx : outcome false dec <;> rw [hx] at h hr <;> obtain rfl := List.mem_singleton.1 h <;> exact hr
    next o hcs =>
      split at h
      · obtain rfl := List.mem_singleton.1 h
        exact .offlineDup o hpc hcs ‹_›
      · obtain rfl := List.mem_singleton.1 h
        exact .offline o hpc hcs (Bool.of_not_eq_false ‹_›)
    next hcs =>
      obtain rfl := List.mem_singleton.1 h
      exact .stopped hpc hcs
    next hcs =>
      split at h
      · split at h
        · obtain rfl := List.mem_singleton.1 h
          exact .rebirthReq hpc hcs ‹_› ‹_›
        · obtain rfl := List.mem_singleton.1 h
          exact .rebirthReqDrop hpc hcs ‹_› (Bool.of_not_eq_true ‹_›)
      · split at h
        next rb ts rest hq =>
          -- the model spells the callback branch twice (parked or not): the step is the same
          cases ts <;> simp only [↓reduceIte, ite_self] at h <;>
            obtain rfl := List.mem_singleton.1 h
          · exact .ncmdBad rb rest hpc hcs (Bool.of_not_eq_true ‹_›) hq
          · exact .ncmd rb rest hpc hcs (Bool.of_not_eq_true ‹_›) hq
        · cases h
  next id hpc =>
    split at h
    next ok hres =>
      obtain rfl := List.mem_singleton.1 h
      exact .subResolved id ok hpc hres
    · cases h
  next ok hpc =>
    cases ok <;> simp only [Bool.false_eq_true, ↓reduceIte] at h <;> obtain rfl := List.mem_singleton.1 h
    · exact .subFailed hpc
    · exact .subOk hpc
  next bt fromCmd hpc =>
    have hr := NodeStep.birthStart (dec := dec) bt fromCmd hpc
    simp only [callRes, List.getElem?_concat_length, Option.bind_some, logged_res] at h
    cases hx : outcome false dec <;> rw [hx] at h hr <;> obtain rfl := List.mem_singleton.1 h <;> exact hr
  next id bt fromCmd hpc =>
    split at h
    next ok hres =>
      obtain rfl := List.mem_singleton.1 h
      exact .nbResolved id bt fromCmd ok hpc hres
    · cases h
  next ok bt fromCmd hpc =>
    obtain rfl := List.mem_singleton.1 h
    cases ok <;> cases fromCmd
    · exact .nbFailed bt none hpc
    · exact .nbFailed bt (some _) hpc
    · exact .nbOk bt none hpc
    · exact .nbOk bt (some _) hpc
  next rb hpc =>
    split at h
    · cases h
    have hp := Bool.of_not_eq_true ‹_›
    split at h
    next hrb =>
      subst hrb
      obtain rfl := List.mem_singleton.1 h
      exact .cbNoRebirth hpc hp
    obtain rfl := Bool.of_not_eq_false ‹_›
    split at h
    · obtain rfl := List.mem_singleton.1 h
      exact .cbCooldown hpc hp ‹_›
    split at h
    · obtain rfl := List.mem_singleton.1 h
      exact .cbRebirth hpc hp ‹_› ‹_›
    · obtain rfl := List.mem_singleton.1 h
      exact .cbUnbirthed hpc hp ‹_› (Bool.of_not_eq_true ‹_›)
  · cases h

/-! ### the event-loop task -/

inductive LoopHandle (s : St) : Ev → St → Prop
  | online : s.cs = none → LoopHandle s .online { s with cs := some .online, loop := .sel }
  | onlineBusy (m) : s.cs = some m → LoopHandle s .online { s with loop := .sendCs .online }
  | offline : s.cs = none →
      LoopHandle s .offline
        { s with nextOneshot := s.nextOneshot + 1, cs := some (.offline s.nextOneshot), loop := .awaitWill s.nextOneshot }
  | offlineBusy (m) : s.cs = some m →
      LoopHandle s .offline { s with nextOneshot := s.nextOneshot + 1, loop := .sendCs (.offline s.nextOneshot) }
  | ncmd (rb ts) : LoopHandle s (.ncmd rb ts) { s with msgQ := s.msgQ ++ [(rb, ts)], loop := .sel }
  | dcmd (d ts x) : s.devs.find? (fun x => x.name == d && x.registered && x.pc != .done) = some x →
      LoopHandle s (.dcmd d ts) { s with devs := setDev { x with mq := x.mq ++ [ts] } s.devs, loop := .sel }
  | dcmdUnknown (d ts) : s.devs.find? (fun x => x.name == d && x.registered && x.pc != .done) = none →
      LoopHandle s (.dcmd d ts) { s with loop := .sel }
  | other : LoopHandle s .other { s with loop := .sel }

theorem LoopHandle.of_eq (s : St) (e : Ev) : LoopHandle s e (loopHandle s e) := by
  unfold loopHandle
  split
  · split
    · exact .online ‹_›
    · exact .onlineBusy _ ‹_›
  · simp only [newOneshot]
    split
    · exact .offline ‹_›
    · exact .offlineBusy _ ‹_›
  · exact .ncmd _ _
  · split
    · exact .dcmd _ _ _ ‹_›
    · exact .dcmdUnknown _ _ ‹_›
  · exact .other

/-- the shutdown phase (`stop*`) and the forced `on_offline` after its timeout (`force*`) end the same way,
so they share the rules `lastWill*` -/
inductive LoopStep (s : St) : St → List Obs → Prop
  | start : s.loop = .start →
      LoopStep s { s with running := true, will := some s.bdseq, loop := .sel } [.will s.bdseq]
  | stopReq : s.loop = .sel ∨ s.loop = .polling → s.stop = true →
      LoopStep s { s with stop := false, loop := .stopCheck, stopDeadline := some (s.wall + 1000) } []
  | poll : s.loop = .sel → LoopStep s { s with loop := .polling } [.poll]
  | polled (e rest s') : s.loop = .polling → s.inbox = e :: rest → LoopHandle { s with inbox := rest } e s' →
      LoopStep s s' [.polled e.name]
  | sendCs (m) : s.loop = .sendCs m → s.cs = none → (∀ o, m ≠ .offline o) →
      LoopStep s { s with cs := some m, loop := .sel } []
  | sendCsOffline (o) : s.loop = .sendCs (.offline o) → s.cs = none →
      LoopStep s { s with cs := some (.offline o), loop := .awaitWill o } []
  | will (o bd) : s.loop = .awaitWill o → reply? s o = some (some bd) →
      LoopStep s { s with will := some bd, loop := .sel } [.will bd]
  | willDropped (o) : s.loop = .awaitWill o → reply? s o = some none → LoopStep s { s with loop := .sel } []
  | stopOffline : s.loop = .stopCheck → s.online = false → LoopStep s { s with loop := .sendStopped } []
  | stopPoll : s.loop = .stopCheck → s.online = true → LoopStep s { s with loop := .stopPolling } [.poll]
  | stopPolledOffline (rest) : s.loop = .stopPolling → s.inbox = .offline :: rest → s.cs = none →
      LoopStep s
        { s with inbox := rest, nextOneshot := s.nextOneshot + 1, cs := some (.offline s.nextOneshot),
                 loop := .stopAwaitWill s.nextOneshot } [.polled .offline]
  | stopPolledOfflineBusy (rest m) : s.loop = .stopPolling → s.inbox = .offline :: rest → s.cs = some m →
      LoopStep s { s with inbox := rest, nextOneshot := s.nextOneshot + 1, loop := .stopSendCs s.nextOneshot }
        [.polled .offline]
  | stopPolled (e rest) : s.loop = .stopPolling → s.inbox = e :: rest → e ≠ .offline →
      LoopStep s { s with inbox := rest, loop := .stopCheck } [.polled e.name]
  | stopSendCs (o) : s.loop = .stopSendCs o → s.cs = none →
      LoopStep s { s with cs := some (.offline o), loop := .stopAwaitWill o } []
  | forceSendCs (o) : s.loop = .forceSendCs o → s.cs = none →
      LoopStep s { s with cs := some (.offline o), loop := .forceAwaitWill o } []
  | lastWill (o bd) : s.loop = .stopAwaitWill o ∨ s.loop = .forceAwaitWill o → reply? s o = some (some bd) →
      LoopStep s { s with will := some bd, loop := .sendStopped } [.will bd]
  | lastWillDropped (o) : s.loop = .stopAwaitWill o ∨ s.loop = .forceAwaitWill o → reply? s o = some none →
      LoopStep s { s with loop := .sendStopped } []
  | sendStopped : s.loop = .sendStopped → s.cs = none →
      LoopStep s { s with cs := some .stopped, running := false, loop := .done } [.runReturned]

theorem LoopStep.of_mem {s : St} {r : St × List Obs} (h : r ∈ stepLoop s) : LoopStep s r.1 r.2 := by
  unfold stepLoop at h
  split at h
  next hpc =>
    obtain rfl := List.mem_singleton.1 h
    exact .start hpc
  next hpc =>
    rcases List.mem_append.1 h with h | h
    · split at h
      · obtain rfl := List.mem_singleton.1 h
        exact .stopReq (.inl hpc) ‹_›
      · cases h
    · obtain rfl := List.mem_singleton.1 h
      exact .poll hpc
  next hpc =>
    rcases List.mem_append.1 h with h | h
    · split at h
      · obtain rfl := List.mem_singleton.1 h
        exact .stopReq (.inr hpc) ‹_›
      · cases h
    · split at h
      next e rest hin =>
        obtain rfl := List.mem_singleton.1 h
        exact .polled e rest _ hpc hin (.of_eq _ e)
      · cases h
  next m hpc =>
    split at h
    next hcs =>
      obtain rfl := List.mem_singleton.1 h
      cases m
      · exact .sendCs _ hpc hcs nofun
      · exact .sendCsOffline _ hpc hcs
      · exact .sendCs _ hpc hcs nofun
    · cases h
  next o hpc =>
    split at h
    next bd hre =>
      obtain rfl := List.mem_singleton.1 h
      exact .will o bd hpc hre
    next hre =>
      obtain rfl := List.mem_singleton.1 h
      exact .willDropped o hpc hre
    · cases h
  next hpc =>
    simp only [Bool.not_eq_true'] at h
    split at h
    · obtain rfl := List.mem_singleton.1 h
      exact .stopOffline hpc ‹_›
    · obtain rfl := List.mem_singleton.1 h
      exact .stopPoll hpc (Bool.of_not_eq_false ‹_›)
  next hpc =>
    split at h
    next rest hin =>
      simp only [newOneshot] at h
      split at h
      · obtain rfl := List.mem_singleton.1 h
        exact .stopPolledOffline rest hpc hin ‹_›
      · obtain rfl := List.mem_singleton.1 h
        exact .stopPolledOfflineBusy rest _ hpc hin ‹_›
    next e rest hne hin =>
      obtain rfl := List.mem_singleton.1 h
      exact .stopPolled e rest hpc hin hne
    · cases h
  next o hpc =>
    split at h
    · obtain rfl := List.mem_singleton.1 h
      exact .stopSendCs o hpc ‹_›
    · cases h
  next o hpc =>
    split at h
    next bd hre =>
      obtain rfl := List.mem_singleton.1 h
      exact .lastWill o bd (.inl hpc) hre
    next hre =>
      obtain rfl := List.mem_singleton.1 h
      exact .lastWillDropped o (.inl hpc) hre
    · cases h
  next o hpc =>
    split at h
    · obtain rfl := List.mem_singleton.1 h
      exact .forceSendCs o hpc ‹_›
    · cases h
  next o hpc =>
    split at h
    next bd hre =>
      obtain rfl := List.mem_singleton.1 h
      exact .lastWill o bd (.inr hpc) hre
    next hre =>
      obtain rfl := List.mem_singleton.1 h
      exact .lastWillDropped o (.inr hpc) hre
    · cases h
  next hpc =>
    split at h
    · obtain rfl := List.mem_singleton.1 h
      exact .sendStopped hpc ‹_›
    · cases h
  · cases h

/-- the event loop is still in `poll_until_offline`, the part of the shutdown that the 1 s timeout guards -/
def PollingOffline (pc : LoopPc) : Prop :=
  pc = .stopCheck ∨ pc = .stopPolling ∨ (∃ o, pc = .stopSendCs o) ∨ ∃ o, pc = .stopAwaitWill o

inductive TimeoutStep (s : St) : St → List Obs → Prop
  | force (dl) : s.stopDeadline = some dl → dl ≤ s.wall → PollingOffline s.loop → s.cs = none →
      TimeoutStep s
        { s with stopDeadline := none, nextOneshot := s.nextOneshot + 1, cs := some (.offline s.nextOneshot),
                 loop := .forceAwaitWill s.nextOneshot } []
  | forceBusy (dl m) : s.stopDeadline = some dl → dl ≤ s.wall → PollingOffline s.loop → s.cs = some m →
      TimeoutStep s
        { s with stopDeadline := none, nextOneshot := s.nextOneshot + 1, loop := .forceSendCs s.nextOneshot } []

theorem TimeoutStep.of_mem {s : St} {r : St × List Obs} (h : r ∈ stepLoopTimeout s) : TimeoutStep s r.1 r.2 := by
  unfold stepLoopTimeout at h
  split at h
  next dl hdl =>
    split at h
    next hle =>
      split at h
      case h_5 => cases h
      all_goals
        rename_i hpc
        have hp : PollingOffline s.loop := by simp [PollingOffline, hpc]
        simp only [newOneshot] at h
        split at h
        · obtain rfl := List.mem_singleton.1 h
          exact .force dl hdl hle hp ‹_›
        · obtain rfl := List.mem_singleton.1 h
          exact .forceBusy dl _ hdl hle hp ‹_›
    · cases h
  · cases h

theorem LoopStep.ne_done {s s' : St} {o : List Obs} (h : LoopStep s s' o) : s.loop ≠ .done := by
  cases h <;> grind

theorem TimeoutStep.ne_done {s s' : St} {o : List Obs} (h : TimeoutStep s s' o) : s.loop ≠ .done := by
  cases h <;> (rename_i hp _; rcases hp with h | h | ⟨_, h⟩ | ⟨_, h⟩ <;> rw [h] <;> nofun)

/-! ### a rule instance is a step; what the rules leave alone -/

/-- the node task is deterministic: a rule instance is the whole step -/
theorem NodeStep.eq {s s' : St} {dec : Dec} {o : List Obs} (h : NodeStep s dec s' o) : stepNode s dec = [(s', o)] := by
  cases h with
  | onlineSub | birthStart =>
    cases hx : outcome false dec <;> simp [stepNode, nodeBirthStart, handOver_eq, callRes, logged, *]
  | nbOk _ f | nbFailed _ f => cases f <;> simp [stepNode, *]
  | _ => simp [stepNode, *]

theorem NodeStep.mem {s s' : St} {dec : Dec} {o : List Obs} (h : NodeStep s dec s' o) : (s', o) ∈ stepNode s dec :=
  h.eq ▸ List.mem_singleton_self _

theorem LoopHandle.eq {s s' : St} {e : Ev} (h : LoopHandle s e s') : loopHandle s e = s' := by
  cases h <;> simp [loopHandle, newOneshot, *]

theorem LoopStep.mem {s s' : St} {o : List Obs} (h : LoopStep s s' o) : (s', o) ∈ stepLoop s := by
  cases h with
  | polled _ _ _ _ _ hh => obtain rfl := hh.eq; simp [stepLoop, *]
  | stopReq hpc | lastWill _ _ hpc | lastWillDropped _ hpc => rcases hpc with hpc | hpc <;> simp [stepLoop, *]
  | _ => simp [stepLoop, newOneshot, *]

theorem TimeoutStep.mem {s s' : St} {o : List Obs} (h : TimeoutStep s s' o) : (s', o) ∈ stepLoopTimeout s := by
  cases h <;> (rename_i hp _; rcases hp with h | h | ⟨_, h⟩ | ⟨_, h⟩ <;> simp [stepLoopTimeout, newOneshot, *])

theorem NodeStep.frame {s s' : St} {dec : Dec} {o : List Obs} (h : NodeStep s dec s' o) :
    s' = { s with online := s'.online, birthed := s'.birthed, seq := s'.seq, bdseq := s'.bdseq, epoch := s'.epoch,
                  lastRebirthReq := s'.lastRebirthReq, cs := s'.cs, rebirthQ := s'.rebirthQ, msgQ := s'.msgQ,
                  oneshots := s'.oneshots, node := s'.node, devs := s'.devs, calls := s'.calls } := by
  cases h <;> rfl

theorem LoopStep.frame {s s' : St} {o : List Obs} (h : LoopStep s s' o) :
    s' = { s with running := s'.running, inbox := s'.inbox, will := s'.will, loop := s'.loop, stopDeadline := s'.stopDeadline,
                  cs := s'.cs, msgQ := s'.msgQ, stop := s'.stop, nextOneshot := s'.nextOneshot, devs := s'.devs } := by
  cases h with
  | polled _ _ _ _ _ hh => cases hh <;> rfl
  | _ => rfl

theorem TimeoutStep.frame {s s' : St} {o : List Obs} (h : TimeoutStep s s' o) :
    s' = { s with loop := s'.loop, stopDeadline := s'.stopDeadline, cs := s'.cs, nextOneshot := s'.nextOneshot } := by
  cases h <;> rfl

end Srad.Eon
