/-
The user-call tasks (`stepUser`) and the environment's stimuli (`applyStim`) of the edge-node LTS in
rule form: one constructor per branch, guards as equations on fields of the state, the successor as
a record update. A proof that analyses a step goes through `UserStep.of_mem` or `StimStep.of_apply`; one that
exhibits a user step uses `UserStep.mem`.
-/
import SradModel.Proofs.EonBasic

namespace Srad.Eon

/-! ### the publish gate -/

/-- what a user publish passes before anything is handed over (the local `gate` of `stepUser`):
a sequence number is allocated, for a device only if it is birthed in the current node birth;
the flag is the device's `birthed` as the call will log it -/
def pubGate (s : St) : PubTarget → Except URes (St × Nat × Bool)
  | .node => (nextSeq s).map fun (s, k) => (s, k, false)
  | .dev d =>
    match findDev d s.devs with
    | some x => if !x.flag then .error .unbirthed else (nextSeqIn s (some x.epoch)).map fun (s, k) => (s, k, true)
    | none => .error .unbirthed

/-- what a device target needs beyond an online, birthed node -/
def devLive (s : St) (d : Nat) (x : Dev) : Prop :=
  findDev d s.devs = some x ∧ x.flag = true ∧ x.epoch = s.epoch

theorem nextSeqIn_map_ok {s : St} {req : Option Nat} {fl b : Bool} {s1 : St} {k : Nat}
    (h : ((nextSeqIn s req).map fun (s, k) => (s, k, b)) = .ok (s1, k, fl)) :
    nextSeqIn s req = .ok (s1, k) ∧ fl = b := by
  cases hn : nextSeqIn s req with
  | error e => rw [hn] at h; cases h
  | ok v => rw [hn] at h; cases h; exact ⟨rfl, rfl⟩

theorem pubGate_ok {s : St} {t : PubTarget} {s1 : St} {k : Nat} {fl : Bool}
    (h : pubGate s t = .ok (s1, k, fl)) :
    s.online = true ∧ s.birthed = true ∧ s1 = { s with seq := (s.seq + 1) % 256 } ∧ k = (s.seq + 1) % 256 ∧
      match t with
      | .node => fl = false
      | .dev d => fl = true ∧ ∃ x, devLive s d x := by
  cases t with
  | node =>
    obtain ⟨hn, rfl⟩ := nextSeqIn_map_ok h
    obtain ⟨rfl, rfl, ho, hb, -⟩ := nextSeqIn_ok hn
    exact ⟨ho, hb, rfl, rfl, rfl⟩
  | dev d =>
    simp only [pubGate] at h
    split at h
    · rename_i x hx
      split at h
      · cases h
      · rename_i hf
        obtain ⟨hn, rfl⟩ := nextSeqIn_map_ok h
        obtain ⟨rfl, rfl, ho, hb, he⟩ := nextSeqIn_ok hn
        exact ⟨ho, hb, rfl, rfl, rfl, x, hx, by simpa using hf, he _ rfl⟩
    · cases h

theorem pubGate_error {s : St} {t : PubTarget} {e : URes} (h : pubGate s t = .error e) :
    e = .offline ∧ s.online = false ∨ e = .unbirthed := by
  have key : ∀ (req : Option Nat) (b : Bool),
      ((nextSeqIn s req).map fun (s, k) => (s, k, b)) = .error e → nextSeqIn s req = .error e := by
    intro req b h
    cases hn : nextSeqIn s req <;> rw [hn] at h <;> cases h
    rfl
  cases t with
  | node => exact (nextSeqIn_error (key _ _ h)).imp_right And.left
  | dev d =>
    simp only [pubGate] at h
    split at h
    · split at h
      · cases h; exact .inr rfl
      · exact (nextSeqIn_error (key _ _ h)).imp_right And.left
    · cases h; exact .inr rfl

/-! ### user calls -/

def URes.ofAck (ok : Bool) : URes := if ok then .ok else .offline

inductive UserStep (s : St) (j : Nat) (dec : Dec) : St → List Obs → Prop
  | pubEmpty (u t isTry) : s.ucalls.find? (·.j == j) = some u → u.kind = .pub t isTry 0 → u.pc = .start →
      UserStep s j dec { s with ucalls := setUCall { u with pc := .done } s.ucalls } [.ures j .noMetrics]
  | pubRefused (u t isTry n e) : s.ucalls.find? (·.j == j) = some u → u.kind = .pub t isTry n →
      u.pc = .start → n ≠ 0 → pubGate s t = .error e →
      UserStep s j dec { s with ucalls := setUCall { u with pc := .done } s.ucalls } [.ures j e]
  | pubNode (u isTry n) : s.ucalls.find? (·.j == j) = some u → u.kind = .pub .node isTry n →
      u.pc = .start → n ≠ 0 → s.online = true → s.birthed = true →
      UserStep s j dec
        { s with seq := (s.seq + 1) % 256,
                 calls := s.calls ++ [logged s { kind := .ndata, seq := some ((s.seq + 1) % 256), isTry := isTry } dec],
                 ucalls := setUCall { u with pc := afterCall (.wait s.calls.length) (fun _ => .done) (outcome isTry dec) } s.ucalls }
        (.call s.calls.length .ndata none (some ((s.seq + 1) % 256)) none isTry (dec.eff isTry) ::
          afterCall [] (fun ok => [.ures j (.ofAck ok)]) (outcome isTry dec))
  | pubDev (u d isTry n x) : s.ucalls.find? (·.j == j) = some u → u.kind = .pub (.dev d) isTry n →
      u.pc = .start → n ≠ 0 → s.online = true → s.birthed = true → devLive s d x →
      UserStep s j dec
        { s with seq := (s.seq + 1) % 256,
                 calls := s.calls ++ [logged s { kind := .ddata, dev := some d, seq := some ((s.seq + 1) % 256),
                                                 isTry := isTry, gFlag := true } dec],
                 ucalls := setUCall { u with pc := afterCall (.wait s.calls.length) (fun _ => .done) (outcome isTry dec) } s.ucalls }
        (.call s.calls.length .ddata (some d) (some ((s.seq + 1) % 256)) none isTry (dec.eff isTry) ::
          afterCall [] (fun ok => [.ures j (.ofAck ok)]) (outcome isTry dec))
  | pubResolved (u t isTry n id ok) : s.ucalls.find? (·.j == j) = some u → u.kind = .pub t isTry n →
      u.pc = .wait id → callRes s id = some ok →
      UserStep s j dec { s with ucalls := setUCall { u with pc := .done } s.ucalls } [.ures j (.ofAck ok)]
  | cancelIdle (u) : s.ucalls.find? (·.j == j) = some u → u.kind = .cancel → u.pc = .start → s.running = false →
      UserStep s j dec { s with ucalls := setUCall { u with pc := .done } s.ucalls } [.ures j .cancelled]
  | cancelStart (u) : s.ucalls.find? (·.j == j) = some u → u.kind = .cancel → u.pc = .start → s.running = true →
      UserStep s j dec
        { s with stopping := true,
                 calls := s.calls ++ [logged s { kind := .ndeath, bd := some s.bdseq, isTry := true } dec],
                 ucalls := setUCall { u with pc := .cancelStop } s.ucalls }
        [.call s.calls.length .ndeath none none (some s.bdseq) true (dec.eff true)]
  | cancelStopGone (u) : s.ucalls.find? (·.j == j) = some u → u.kind = .cancel → u.pc = .cancelStop →
      s.loop = .done →
      UserStep s j dec { s with ucalls := setUCall { u with pc := .cancelDisc } s.ucalls } []
  | cancelStop (u) : s.ucalls.find? (·.j == j) = some u → u.kind = .cancel → u.pc = .cancelStop →
      s.loop ≠ .done → s.stop = false →
      UserStep s j dec { s with stop := true, ucalls := setUCall { u with pc := .cancelDisc } s.ucalls } []
  | cancelDisc (u) : s.ucalls.find? (·.j == j) = some u → u.kind = .cancel → u.pc = .cancelDisc →
      UserStep s j dec
        { s with calls := s.calls ++ [logged s { kind := .disconnect, isTry := true } dec],
                 ucalls := setUCall { u with pc := .done } s.ucalls }
        [.call s.calls.length .disconnect none none none true (dec.eff true), .ures j .cancelled]

theorem UserStep.of_mem {s : St} {j : Nat} {dec : Dec} {r : St × List Obs} (h : r ∈ stepUser s j dec) :
    UserStep s j dec r.1 r.2 := by
  obtain ⟨s', o⟩ := r
  unfold stepUser at h
  split at h
  · cases h
  rename_i u hu
  split at h
  · rename_i t isTry n hk hp
    split at h
    · rename_i hn
      subst hn
      cases List.mem_singleton.1 h
      exact .pubEmpty u t isTry hu hk hp
    · rename_i hn
      change (s', o) ∈ (match pubGate s t with | .error e => _ | .ok (s1, k, fl) => _) at h
      split at h
      · rename_i e hg
        cases List.mem_singleton.1 h
        exact .pubRefused u t isTry n e hu hk hp hn hg
      · rename_i s1 k fl hg
        obtain ⟨ho, hb, rfl, rfl, ht⟩ := pubGate_ok hg
        cases t
        case' node =>
          obtain rfl : fl = false := ht
          have key := UserStep.pubNode (dec := dec) u isTry n hu hk hp hn ho hb
        case' dev d =>
          obtain ⟨rfl, x, hx⟩ : fl = true ∧ ∃ x, devLive s d x := ht
          have key := UserStep.pubDev (dec := dec) u d isTry n x hu hk hp hn ho hb hx
        all_goals
          simp only [handOver_eq] at h
          rw [callRes_append_len s.calls _ _ rfl] at h
          change (s', o) ∈ (match outcome isTry dec with | some true => _ | some false => _ | none => _) at h
          generalize outcome isTry dec = a at h key
          rcases a with _ | _ | _ <;> cases List.mem_singleton.1 h <;> exact key
  · rename_i t isTry n id hk hp
    cases hc : callRes s id with
    | none => rw [hc] at h; cases h
    | some ok =>
      have key := UserStep.pubResolved (dec := dec) u t isTry n id ok hu hk hp hc
      rw [hc] at h
      cases ok <;> cases List.mem_singleton.1 h <;> exact key
  · rename_i hk hp
    split at h
    · rename_i hr
      cases List.mem_singleton.1 h
      exact .cancelIdle u hu hk hp (by simpa using hr)
    · rename_i hr
      cases List.mem_singleton.1 h
      exact .cancelStart u hu hk hp (by simpa using hr)
  · rename_i hk hp
    split at h
    · rename_i hl
      cases List.mem_singleton.1 h
      exact .cancelStopGone u hu hk hp (eq_of_beq hl)
    split at h
    · cases h
    · rename_i hl hs
      cases List.mem_singleton.1 h
      exact .cancelStop u hu hk hp (fun e => hl (beq_iff_eq.2 e)) (by simpa using hs)
  · rename_i hk hp
    cases List.mem_singleton.1 h
    exact .cancelDisc u hu hk hp
  · cases h

/-! ### stimuli -/

/-- the device a stimulus naming `d` reaches while it is in the device map -/
abbrev mapped (d : Nat) (x : Dev) : Bool := x.name == d && x.registered && x.pc != .done

inductive StimStep (s : St) : Stim → St → List Obs → Prop
  | ev (e) : StimStep s (.ev e) { s with inbox := s.inbox ++ [e] } []
  | regDup (d x) : s.devs.find? (mapped d) = some x → StimStep s (.reg d) s []
  | reg (d) : s.devs.find? (mapped d) = none →
      StimStep s (.reg d) { s with devs := s.devs ++ [{ uid := s.devs.length, name := d }] } []
  | unreg (d x) : s.devs.find? (mapped d) = some x →
      StimStep s (.unreg d)
        { s with devs := setDev { x with registered := false, nsq := x.nsq ++ [.removed] } s.devs } []
  | unregNone (d) : s.devs.find? (mapped d) = none → StimStep s (.unreg d) s []
  | enable (d x) : findDev d s.devs = some x →
      StimStep s (.enable d) { s with devs := setDev { x with hq := x.hq ++ [.enable] } s.devs } []
  | enableNone (d) : findDev d s.devs = none → StimStep s (.enable d) s []
  | disable (d x) : findDev d s.devs = some x →
      StimStep s (.disable d) { s with devs := setDev { x with hq := x.hq ++ [.disable] } s.devs } []
  | disableNone (d) : findDev d s.devs = none → StimStep s (.disable d) s []
  | drebirth (d x) : findDev d s.devs = some x →
      StimStep s (.drebirth d) { s with devs := setDev { x with hq := x.hq ++ [.rebirth] } s.devs } []
  | drebirthNone (d) : findDev d s.devs = none → StimStep s (.drebirth d) s []
  | nrebirth : StimStep s .nrebirth { s with rebirthQ := true } []
  | pub (j t isTry n) :
      StimStep s (.pub j t isTry n) { s with ucalls := s.ucalls ++ [{ j := j, kind := .pub t isTry n }] } []
  | cancel (j) : StimStep s (.cancel j) { s with ucalls := s.ucalls ++ [{ j := j, kind := .cancel }] } []
  | resolve (id ok c) : s.calls[id]? = some c → c.res = none →
      StimStep s (.resolve id ok) { s with calls := s.calls.set id { c with res := some ok } } [.resolved id ok]
  | resolveDone (id ok c) : s.calls[id]? = some c → c.res ≠ none → StimStep s (.resolve id ok) s []
  | resolveNone (id ok) : s.calls[id]? = none → StimStep s (.resolve id ok) s []
  | advance (ms) : StimStep s (.advance ms) { s with wall := s.wall + ms } []
  | cbParkNode (on) : StimStep s (.cbPark .node on) { s with nodeCbPark := on } []
  | cbParkDev (d) :
      StimStep s (.cbPark (.dev d) true)
        { s with devCbPark := if s.devCbPark.contains d then s.devCbPark else d :: s.devCbPark } []
  | cbUnparkDev (d) :
      StimStep s (.cbPark (.dev d) false) { s with devCbPark := s.devCbPark.filter (· != d) } []

theorem StimStep.of_apply (s : St) (x : Stim) : StimStep s x (applyStim s x).1 (applyStim s x).2 := by
  cases x with
  | ev e => exact .ev e
  | reg d =>
    simp only [applyStim]; split
    · exact .regDup d _ ‹_›
    · exact .reg d ‹_›
  | unreg d =>
    simp only [applyStim]; split
    · exact .unreg d _ ‹_›
    · exact .unregNone d ‹_›
  | enable d =>
    simp only [applyStim]; split
    · exact .enable d _ ‹_›
    · exact .enableNone d ‹_›
  | disable d =>
    simp only [applyStim]; split
    · exact .disable d _ ‹_›
    · exact .disableNone d ‹_›
  | drebirth d =>
    simp only [applyStim]; split
    · exact .drebirth d _ ‹_›
    · exact .drebirthNone d ‹_›
  | nrebirth => exact .nrebirth
  | pub j t isTry n => exact .pub j t isTry n
  | cancel j => exact .cancel j
  | resolve id ok =>
    simp only [applyStim]; split
    · rename_i c hc
      split
      · exact .resolve id ok c hc (Option.isNone_iff_eq_none.1 ‹_›)
      · exact .resolveDone id ok c hc (fun e => ‹¬ _› (Option.isNone_iff_eq_none.2 e))
    · exact .resolveNone id ok ‹_›
  | advance ms => exact .advance ms
  | cbPark t on =>
    cases t with
    | node => exact .cbParkNode on
    | dev d => cases on; exact .cbUnparkDev d; exact .cbParkDev d


theorem UserStep.mem {s s' : St} {j : Nat} {dec : Dec} {o : List Obs} (h : UserStep s j dec s' o) :
    (s', o) ∈ stepUser s j dec := by
  cases h with
  | pubNode u isTry n hf hk hp hn ho hb =>
    have hg := nextSeqIn_granted (req := none) ho hb nofun
    cases hx : outcome isTry dec with
    | none => simp [stepUser, hf, hk, hp, hn, nextSeq, hg, Except.map, handOver_eq, callRes, logged, hx]
    | some ok => cases ok <;> simp [stepUser, hf, hk, hp, hn, nextSeq, hg, Except.map, handOver_eq, callRes, logged, hx, URes.ofAck]
  | pubDev u d isTry n x hf hk hp hn ho hb hl =>
    have hg := nextSeqIn_granted (req := some x.epoch) ho hb (fun _ h => (Option.some.inj h).symm.trans hl.2.2)
    cases hx : outcome isTry dec with
    | none => simp [stepUser, hf, hk, hp, hn, hl.1, hl.2.1, hg, Except.map, handOver_eq, callRes, logged, hx]
    | some ok => cases ok <;> simp [stepUser, hf, hk, hp, hn, hl.1, hl.2.1, hg, Except.map, handOver_eq, callRes, logged, hx, URes.ofAck]
  | pubRefused u t isTry n e hf hk hp hn hg =>
    simp only [stepUser, hf, hk, hp, hn, ↓reduceIte]
    change _ ∈ (match pubGate s t with | .error e => _ | .ok (s1, k, fl) => _)
    rw [hg]; exact List.mem_singleton_self _
  | pubResolved u t isTry n id ok hf hk hp hc => cases ok <;> simp [stepUser, hf, hk, hp, hc, URes.ofAck]
  | _ => simp_all [stepUser, handOver_eq, logged]

theorem UserStep.frame {s s' : St} {j dec o} (h : UserStep s j dec s' o) :
    s' = { s with seq := s'.seq, stopping := s'.stopping, stop := s'.stop, ucalls := s'.ucalls, calls := s'.calls } := by
  cases h <;> rfl

theorem StimStep.frame {s s' : St} {x o} (h : StimStep s x s' o) :
    s' = { s with wall := s'.wall, inbox := s'.inbox, rebirthQ := s'.rebirthQ, nodeCbPark := s'.nodeCbPark,
                  devCbPark := s'.devCbPark, devs := s'.devs, ucalls := s'.ucalls, calls := s'.calls } := by
  cases h <;> rfl

end Srad.Eon
