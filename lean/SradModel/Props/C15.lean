/-
C15 — Edge node honours rebirth commands and routes commands faithfully.
The model is `SradModel/Model/Cmd.lean`, the declarative vocabulary (`RebirthRequested`, `Metric.WellFormed`,
`deliveredSpec`, `Honoured`, `birthSequence`, `St.Ready`, `St.Inv`, `St.Good`) in
`SradModel/Model/CmdSpec.lean`.

One `step` = one stimulus handled to quiescence. `decs` are the client's answers to the NBIRTH
hand-overs of the step (none given = accept). States are arbitrary (any point of any history)
subject to the stated hypotheses; `C15_reachable_good` shows the hypotheses hold along every
history with a monotone wall clock.
-/
import SradModel.Proofs.Cmd
import SradModel.Generated.CmdTable

namespace Srad.Cmd
open Srad.Codec

/-! ### recognition of the rebirth request -/

/-- The loop of `on_sparkplug_message` recognises a rebirth request exactly when the *last*
metric of the payload that carries the name `Node Control/Rebirth` and no alias has the value
boolean true. (Aliased metrics, metrics with other names and unnamed metrics never count.) -/
theorem C15_rebirth_recognition (ms : List Metric) :
    rebirthRequested ms = true ↔ RebirthRequested ms :=
  rebirthRequested_iff ms

/-- A payload none of whose (unaliased) Node Control/Rebirth metrics is boolean true — they are
false, non-boolean, valueless, or only aliased / differently named metrics exist — is not a
rebirth request. -/
theorem C15_invalid_request_not_recognised (ms : List Metric)
    (h : ∀ m ∈ ms, m.isRebirth = true → m.value ≠ some (.bool true)) :
    rebirthRequested ms = false := by
  cases hr : rebirthRequested ms with
  | false => rfl
  | true =>
    obtain ⟨m, hm, hv⟩ := (rebirthRequested_iff ms).mp hr
    have hmem := List.mem_of_getLast? hm
    have := List.mem_filter.mp hmem
    exact absurd hv (h m this.1 this.2)

/-! ### what reaches a manager -/

/-- The metrics a manager receives for a command payload are exactly the well-formed metrics
of the payload, in payload order, each with its identifier (alias if present, else name), its
timestamp and its value — an explicit null (`is_null = true`, no value) as "no value".
Metrics without identifier, and metrics with neither value nor `is_null = true`, are skipped. -/
theorem C15_delivered (ms : List Metric) : drainIter ms = deliveredSpec ms :=
  drainIter_eq_spec ms

/-- a metric is delivered iff it is well-formed -/
theorem C15_delivered_iff_wellformed (m : Metric) : m.delivery.isSome ↔ m.WellFormed := by
  rw [Option.isSome_iff_exists]
  refine ⟨fun ⟨mm, h⟩ => ((delivery_eq_some_iff m mm).mp h).1, fun hw => ?_⟩
  obtain ⟨id, hid⟩ := Option.isSome_iff_exists.mp hw.1
  exact ⟨⟨id, m.ts, m.value⟩, (delivery_eq_some_iff m _).mpr ⟨hw, hid, rfl, rfl⟩⟩

/-- nothing else is delivered: every delivered item stems from a well-formed payload metric and
carries that metric's identifier, timestamp and value -/
theorem C15_delivered_mem (ms : List Metric) (mm : MessageMetric) :
    mm ∈ drainIter ms ↔
      ∃ m ∈ ms, m.WellFormed ∧ m.specId = some mm.id ∧ mm.ts = m.ts ∧ mm.value = m.value := by
  simp only [drainIter_eq_spec, deliveredSpec, List.mem_filterMap, delivery_eq_some_iff]

/-- an explicit null reaches the manager as "no value" -/
theorem C15_explicit_null_delivered (ms : List Metric) (m : Metric) (id : MetricId) (hm : m ∈ ms)
    (hid : m.specId = some id) (hv : m.value = none) (hn : m.isNull = some true) :
    { id := id, ts := m.ts, value := none } ∈ drainIter ms := by
  rw [C15_delivered_mem]
  exact ⟨m, hm, ⟨by simp [hid], Or.inr hn⟩, by simp [hid], rfl, hv.symm⟩

/-! ### the rebirth decision of an NCMD step -/

/-- **Decision.** In any state in which the node task is alive and not blocked, an NCMD event
makes the node hand over an NBIRTH if and only if: it is a CMD message, the payload has a
timestamp, the payload's rebirth request is valid, the node is birthed, and the request is
outside the cooldown. -/
theorem C15_ncmd_decision (decs : List Dec) (kind : MsgKind) (p : Payload) (st : St)
    (hr : st.Ready) (hi : st.Inv) :
    (∃ e ∈ (step decs st (.node (.msg kind p))).2, e.isNBirth = true) ↔ Honoured st kind p := by
  rw [step_ncmd_effs decs hr hi]
  exact exists_isNBirth_iff ..

/-- **Complete birth sequence.** When the command is honoured and the client accepts the NBIRTH,
the step's effects are: the delivery of the command to the node's manager, followed by exactly
the birth sequence — NBIRTH with seq 0 and the bdSeq the node had, then one DBIRTH for every
enabled device (and for no other), numbered 1, 2, … — and nothing else; afterwards the node is
birthed with the same bdSeq and the request time is recorded. -/
theorem C15_ncmd_birth_sequence (decs : List Dec) (kind : MsgKind) (p : Payload) (st : St)
    (hr : st.Ready) (hi : st.Inv) (hh : Honoured st kind p)
    (hacc : decs.head?.getD .accept = .accept) :
    let r := step decs st (.node (.msg kind p))
    (∃ pre, r.2 = pre ++ birthSequence st.bdSeq st.devs ∧
      ∀ e ∈ pre, (e.isCmd = true ∨ e.isCb = true) ∧ e.target? = some none) ∧
    r.2.filter Eff.isBirth = birthSequence st.bdSeq st.devs ∧
    r.1.birthed = true ∧ r.1.bdSeq = st.bdSeq ∧ r.1.last = st.wall := by
  have he : (step decs st (.node (.msg kind p))).2 =
      cmdEffs none st.nodeMgr kind p ++ birthSequence st.bdSeq st.devs := by
    rw [step_ncmd_effs decs hr hi, if_pos hh, hacc, birthSequence_eq]
    rfl
  refine ⟨⟨cmdEffs none st.nodeMgr kind p, he, cmdEffs_all⟩, ?_, ?_⟩
  · rw [he, List.filter_append, filter_isBirth_cmdEffs, filter_isBirth_birthSequence,
      List.nil_append]
  · rw [step_ncmd_eq decs hr, onNodeMessage_honoured_idle decs hr.2.2 hr.2.1 hh, hacc]
    exact ⟨rfl, rfl, rfl⟩

/-- the DBIRTHs of the birth sequence are for exactly the enabled devices, each once, in task
order, and the i-th carries sequence number i + 1 (mod 256) -/
theorem C15_birth_sequence_shape (bdSeq : Nat) (devs : List Dev) :
    (birthSequence bdSeq devs).head? = some (.nbirth 0 bdSeq) ∧
    (birthSequence bdSeq devs).tail.length = (devs.filter (·.enabled)).length ∧
    ∀ i (h : i < (devs.filter (·.enabled)).length),
      (birthSequence bdSeq devs).tail[i]? = some (.dbirth (devs.filter (·.enabled))[i].name ((i + 1) % 256)) := by
  refine ⟨rfl, by simp [birthSequence], ?_⟩
  intro i h
  simp [birthSequence, h]

/-- **No birth otherwise.** A command that is not a CMD message, lacks the payload timestamp,
carries no valid rebirth request (false, non-boolean, aliased, absent), arrives while the node
is unbirthed, or arrives within the cooldown produces no NBIRTH, no DBIRTH and no DDEATH, and
leaves the node's birth state, sequence number, bdSeq and devices as they were. -/
theorem C15_ncmd_no_birth (decs : List Dec) (kind : MsgKind) (p : Payload) (st : St)
    (hr : st.Ready) (hi : st.Inv)
    (h : kind ≠ .cmd ∨ p.ts = none ∨ ¬ RebirthRequested p.metrics ∨ st.birthed = false ∨
      st.wall - st.last < st.cooldown) :
    let r := step decs st (.node (.msg kind p))
    (∀ e ∈ r.2, e.isBirth = false) ∧ r.1.birthed = st.birthed ∧ r.1.seq = st.seq ∧
    r.1.bdSeq = st.bdSeq ∧ r.1.devs = st.devs := by
  have hn : ¬ Honoured st kind p := by
    rintro ⟨h1, h2, h3, h4, h5⟩
    rcases h with h | h | h | h | h
    · exact h h1
    · simp [h] at h2
    · exact h h3
    · simp [h] at h4
    · omega
  obtain ⟨l, _, e⟩ := step_ncmd_not_honoured decs hr hn
  rw [e]
  exact ⟨fun e hm => (cmdEffs_no_birth e hm).1, rfl, rfl, rfl, rfl⟩

/-- an honoured command whose NBIRTH the client rejects or parks is followed by no DBIRTH -/
theorem C15_ncmd_nbirth_not_accepted (decs : List Dec) (kind : MsgKind) (p : Payload) (st : St)
    (hr : st.Ready) (hi : st.Inv) (hh : Honoured st kind p)
    (hna : decs.head?.getD .accept ≠ .accept) :
    (step decs st (.node (.msg kind p))).2.filter Eff.isBirth = [.nbirth 0 st.bdSeq] := by
  rw [step_ncmd_effs decs hr hi, if_pos hh, if_neg hna, List.filter_append, filter_isBirth_cmdEffs]
  rfl

/-! ### routing -/

/-- **NCMD routing.** An NCMD (CMD kind, payload timestamp present) is handed to the node's
manager exactly once, with the payload timestamp and exactly the delivered list; any other
NCMD reaches no manager; no device manager is ever called by an NCMD. -/
theorem C15_ncmd_routing (decs : List Dec) (kind : MsgKind) (p : Payload) (st : St)
    (hr : st.Ready) (hi : st.Inv) :
    let effs := (step decs st (.node (.msg kind p))).2
    effs.filter Eff.isCmd = expectedCmd none kind p ∧
    ∀ e ∈ effs, ∀ d, e.target? ≠ some (some d) := by
  have hbs : ∀ e ∈ (if Honoured st kind p then
        Eff.nbirth 0 st.bdSeq :: (if decs.head?.getD .accept = .accept then dbirthSeq st.devs else [])
      else []), e.isCmd = false ∧ e.target? = none := by
    intro e h
    split at h
    · rcases List.mem_cons.mp h with rfl | h
      · exact ⟨rfl, rfl⟩
      · split at h
        · exact dbirthSeq_all _ e h
        · cases h
    · cases h
  simp only
  rw [step_ncmd_effs decs hr hi]
  constructor
  · rw [List.filter_append, cmdEffs_filter_isCmd,
      List.filter_eq_nil_iff.mpr fun e h => by simp [(hbs e h).1], List.append_nil]
  · intro e h d
    rcases List.mem_append.mp h with h | h
    · rw [(cmdEffs_all e h).2]; simp
    · rw [(hbs e h).2]; simp

/-- **DCMD routing.** A DCMD addressed to device `d` leaves the whole node state untouched
(in particular: no birth); if `d` is a registered device and the message is a CMD with a
payload timestamp, `d`'s manager — and only `d`'s — is handed the payload timestamp and exactly
the delivered list, once; otherwise (unknown device, other kind, no timestamp) nothing happens.
This holds in every state: blocked, dead, offline or birthed. -/
theorem C15_dcmd_routing (decs : List Dec) (st : St) (d : Nat) (kind : MsgKind) (p : Payload) :
    let r := step decs st (.dev d (.cmd kind p))
    r.1 = st ∧
    (∀ e ∈ r.2, (e.isCmd = true ∨ e.isCb = true) ∧ e.target? = some (some d)) ∧
    r.2.filter Eff.isCmd =
      (if (st.devs.any fun x => x.name == d) = true then expectedCmd (some d) kind p else []) := by
  rw [step_dcmd]
  refine ⟨rfl, ?_, ?_⟩
  · intro e he
    cases hf : st.devs.find? (fun x => x.name == d) with
    | none => simp [hf] at he
    | some x => simp only [hf] at he; exact cmdEffs_all e he
  · cases hf : st.devs.find? (fun x => x.name == d) with
    | none =>
      have : (st.devs.any fun x => x.name == d) = false := by
        rw [List.find?_eq_none] at hf
        simpa [List.any_eq_false] using hf
      simp [this]
    | some x =>
      have : (st.devs.any fun x => x.name == d) = true := by
        have h1 := List.mem_of_find?_eq_some hf
        have h2 := List.find?_some hf
        exact List.any_eq_true.mpr ⟨x, h1, h2⟩
      simp only [cmdEffs_filter_isCmd, this, if_true]

/-! ### commands that arrive while the node task is blocked -/

/-- Commands that arrive while an NBIRTH hand-over is parked wait; when the hand-over is
resolved the node task works through them one at a time (`nodeRun`), each handled by the very
same `nodeHandle` in the state the previous one left … -/
theorem C15_queue_processing (decs : List Dec) (st : St) (i : NodeIn) (rest : List NodeIn)
    (hd : st.dead = false) (hp : st.parked = none) :
    nodeRun decs st (i :: rest) =
      (let r1 := nodeHandle decs st i
       let r2 := nodeRun r1.decs r1.st rest
       { r2 with effs := r1.effs ++ r2.effs, bc := r1.bc ++ r2.bc }) := by
  simp [nodeRun, hd, hp]

/-- … and for each of them the decision is the same predicate, evaluated in the state at the
time it is processed. -/
theorem C15_queued_decision (decs : List Dec) (kind : MsgKind) (p : Payload) (st : St)
    (hl : st.last ≤ st.wall) :
    (∃ e ∈ (nodeHandle decs st (.msg kind p)).effs, e.isNBirth = true) ↔ Honoured st kind p := by
  simp only [nodeHandle]
  rw [onNodeMessage_effs decs hl]
  exact exists_isNBirth_iff ..

/-- **A rebirth command queued behind a parked node birth** (the node births are numbered: a
device acts on a birth notification only while the node birth it belongs to is the current
one). When the client accepts the parked NBIRTH and the one queued command is honoured in the
state in which the node task resumes, the step's effects are the delivery of the command
followed by exactly one birth sequence — NBIRTH seq 0, unchanged bdSeq, one DBIRTH per enabled
device numbered 1, 2, … — the notification of the superseded first birth causes no DBIRTH. -/
theorem C15_queued_rebirth_birth_sequence (decs : List Dec) (st : St) (pk : Parked) (kind : MsgKind)
    (p : Payload) (hg : st.Good) (hpk : st.parked = some pk) (hq : st.queue = [.msg kind p])
    (hacc : decs.head?.getD .accept = .accept) (hh : Honoured (st.resumed pk true) kind p) :
    let r := step decs st (.resolve true)
    (∃ pre, r.2 = pre ++ birthSequence st.bdSeq st.devs ∧
      ∀ e ∈ pre, (e.isCmd = true ∨ e.isCb = true) ∧ e.target? = some none) ∧
    r.2.filter Eff.isBirth = birthSequence st.bdSeq st.devs := by
  have he := resolve_then_rebirth hg hpk hq hacc hh
  refine ⟨⟨cmdEffs none st.nodeMgr kind p, he, cmdEffs_all⟩, ?_⟩
  rw [he, List.filter_append, filter_isBirth_cmdEffs, filter_isBirth_birthSequence]
  rfl

/-! ### the hypotheses hold along every history -/

/-- From the initial state, along every history of steps (any stimuli, any client decisions)
in which the wall clock is never set back, every state satisfies `Good`: a birthed node is
online, a blocked node is unbirthed, the node task has not panicked (the `Duration`
subtraction of the cooldown test never underflows) and no request time lies in the future.
So `Ready` and `Inv` hold whenever no NBIRTH is parked. -/
theorem C15_reachable_good (cooldown wall : Nat) (devs : List Dev)
    (alias : Option Nat → Bytes → Nat) (h : List (List Dec × Op))
    (hm : MonotoneClock (St.init cooldown wall devs alias) h) :
    let st := runSteps (St.init cooldown wall devs alias) h
    st.Good ∧ (st.parked = none → st.Ready ∧ st.Inv) := by
  have hg := runSteps_good _ h (init_good cooldown wall devs alias) hm
  exact ⟨hg, fun hp => ⟨ready_of_good _ hg hp, hg.1⟩⟩

/-! ### SimpleMetricManager -/

/-- **Handler lookup.** With a `SimpleMetricManager`, a handler call `cb t n v` happens for a
delivered list iff some delivered metric's id is the id that the manager's *latest birth*
declared for a metric registered (at that birth) with a handler, `n` is that metric's name, and
`v` is the delivered value converted to the metric's type (an explicit null as `None`; a value
of another type: no call). Metrics registered after the birth are not addressable until the
next birth. (`alias` is the hash of srad; ids declared by one birth are distinct.) -/
theorem C15_simple_callbacks (g : Mgr) (alias : Bytes → Nat) (later : List SMetric) (t : Option Nat)
    (mms : List MessageMetric) (n : Bytes) (v : Option SV)
    (hnd : (((g.initialiseBirth alias).lookup).map (·.1)).Nodup) :
    let g' := later.foldl Mgr.register (g.initialiseBirth alias)
    .cb t n v ∈ g'.callbacks t mms ↔
      ∃ mm ∈ mms, ∃ m ∈ g.metrics, m.hasCb = true ∧ mm.id = m.id alias ∧ m.name = n ∧
        convert m.ty mm.value = some v := by
  have hl : ∀ (l : List SMetric) (g0 : Mgr), (l.foldl Mgr.register g0).lookup = g0.lookup := by
    intro l
    induction l with
    | nil => intro g0; rfl
    | cons x r ih => intro g0; simp only [List.foldl_cons]; rw [ih, register_lookup]
  simp only
  have hnd' : (((later.foldl Mgr.register (g.initialiseBirth alias)).lookup).map (·.1)).Nodup := by
    rw [hl]; exact hnd
  rw [callbacks_mem hnd', hl]
  constructor
  · rintro ⟨mm, hmm, m, v', hmem, hc, he⟩
    obtain ⟨h1, h2, h3⟩ := (mem_lookup_initialiseBirth alias g mm.id m).mp hmem
    cases he
    exact ⟨mm, hmm, m, h1, h2, h3, rfl, hc⟩
  · rintro ⟨mm, hmm, m, h1, h2, h3, h4, h5⟩
    refine ⟨mm, hmm, m, v, (mem_lookup_initialiseBirth alias g mm.id m).mpr ⟨h1, h2, h3⟩, h5, ?_⟩
    rw [h4]

/-! ### T-table: the per-metric cells, regenerated from the compiled crate on every run
(`SradModel/Generated/CmdTable.lean`): every combination of name {absent, Node Control/Rebirth,
other} × alias {absent, present} × metric timestamp {absent, present} × 15 value samples (every
protobuf value variant, and no value) × is_null {absent, true, false}. For each cell the harness
records what `MessageMetrics` yields (through the public API) and whether a birthed node with
cooldown 0 answers the one-metric NCMD with an NBIRTH. -/

/-- the compiled code and the model agree on every cell -/
theorem C15_table_matches_model :
    ∀ row ∈ Srad.Generated.cmdTable, cellOf row.1 = row.2 := by
  decide +kernel

/-- the property, over the compiled code's own table: a well-formed metric is delivered with its
own id (alias if present), timestamp and value, an explicit null as no value; a metric that is
not well-formed is skipped; a rebirth happens exactly for an unaliased metric named
Node Control/Rebirth with value boolean true -/
theorem C15_table_property :
    ∀ row ∈ Srad.Generated.cmdTable,
      (row.2.shape =
        (if row.1.WellFormed then
          (if row.1.value.isSome then Shape.value row.1.alias.isSome else Shape.null row.1.alias.isSome)
         else Shape.skipped)) ∧
      (row.2.rebirth = (row.1.isRebirth && decide (row.1.value = some (.bool true)))) :=
  fun row h => C15_table_matches_model row h ▸ cellOf_spec row.1

/-- the grid of cells: 2 metric timestamps × 3 names × 2 aliases × 15 values × 3 null flags -/
def cellGrid : List Metric :=
  [none, some 9].flatMap fun ts =>
  [none, some rebirthName, some [0x78]].flatMap fun n =>
  [none, some 7].flatMap fun a =>
  [none, some (PV.bool true), some (PV.bool false), some (PV.int 1), some (PV.int 0), some (PV.long 1),
   some (PV.float 1065353216), some (PV.double 4607182418800017408),
   some (PV.str [0x74, 0x72, 0x75, 0x65]), some (PV.str []), some (PV.bytes [0x01]), some PV.dataset,
   some (PV.template none false), some (PV.template (some true) true), some PV.ext].flatMap fun v =>
  [none, some true, some false].map fun nl =>
    ({ name := n, alias := a, ts := ts, isNull := nl, value := v } : Metric)

/-- the table covers the whole grid, each cell once -/
theorem C15_table_complete : Srad.Generated.cmdTable.map (·.1) = cellGrid := by
  decide +kernel

/-! ### non-vacuity (tests, not the claim) -/

private def rb (v : PV) : Metric := { name := some rebirthName, value := some v }
private def st0 : St :=
  { online := true, birthed := true, bdSeq := 3, wall := 5000, last := 0, cooldown := 5000,
    devs := [{ name := 0, enabled := true }, { name := 1 }, { name := 2, enabled := true }] }

example : st0.Ready ∧ st0.Inv ∧ st0.Good := by simp [st0, St.Ready, St.Inv, St.Good]
example : Honoured st0 .cmd { ts := some 1, metrics := [rb (.bool false), rb (.bool true)] } := by
  refine ⟨rfl, rfl, ?_, rfl, by decide⟩
  exact (rebirthRequested_iff _).mp (by decide +kernel)
example : ¬ RebirthRequested [rb (.bool true), rb (.bool false)] := by
  rw [← rebirthRequested_iff]; decide +kernel
example : (step [] st0 (.node (.msg .cmd { ts := some 1, metrics := [rb (.bool true)] }))).2 =
    [.cmd none 1 [{ id := .name rebirthName, ts := none, value := some (.bool true) }],
     .nbirth 0 3, .dbirth 0 1, .dbirth 2 2] := by decide +kernel
example : (step [] { st0 with wall := 4999 } (.node (.msg .cmd { ts := some 1, metrics := [rb (.bool true)] }))).2 =
    [.cmd none 1 [{ id := .name rebirthName, ts := none, value := some (.bool true) }]] := by decide +kernel
example : drainIter [{ name := some [120], isNull := some true }, { alias := some 7, value := some (.int 1) },
      { name := some [121], isNull := some false }, { value := some (.int 1) }] =
    [{ id := .name [120], ts := none, value := none }, { id := .alias 7, ts := none, value := some (.int 1) }] := by
  decide +kernel
example : (step [] st0 (.dev 2 (.cmd .cmd { ts := some 9, metrics := [{ name := some [120], isNull := some true }] }))).2 =
    [.cmd (some 2) 9 [{ id := .name [120], ts := none, value := none }]] := by decide +kernel
example : (step [] st0 (.dev 7 (.cmd .cmd { ts := some 9, metrics := [] }))).2 = [] := by decide +kernel
/-- new; enable d0; online (NBIRTH parked); NCMD rebirth (queued); resolve accepted:
one NBIRTH and one DBIRTH -/
example :
    let s0 : St := { devs := [{ name := 0 }], wall := 2000000 }
    let s1 := (step [] s0 (.dev 0 .enable)).1
    let s2 := (step [.park] s1 (.node (.online true))).1
    let s3 := (step [] s2 (.node (.msg .cmd { ts := some 1000, metrics := [rb (.bool true)] }))).1
    (step [] s3 (.resolve true)).2 =
      [.cmd none 1000 [{ id := .name rebirthName, ts := none, value := some (.bool true) }],
       .nbirth 0 0, .dbirth 0 1] := by decide +kernel

end Srad.Cmd
