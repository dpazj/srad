import SradModel.Model.HostLoopLtsSpec
-- one simp set serves all branches of a `<;>`: an argument idle in one branch is needed in another
set_option linter.unusedSimpArgs false
set_option linter.unnecessarySimpa false

/-!
The C16 scanners over every execution of the host-loop LTS. `runAct` is weakened once to the rule
form `Step`. Each scanner's state is a function of the state of the LTS (`Keeps view scan`), shown by
one walk over the rules: `fresh_keeps` (`freshWillOk`), `cancel_step` (`cancelOk` and the three
counts), `own_keeps` (`ownOffOk`) and, through `tasks[k]?`, the per-task scanners `ts_keeps`
(`birthTsOk`), `sbb_keeps` (`subBeforeBirthOk`), `fab_keeps` (`flagAfterBirthOk`). The last part runs
the sequential model `HostLoop.step` as a schedule of the LTS.
-/
namespace Srad.HostLoopLts

/-- an event `handle_event` maps to `None` without any effect in state `s` -/
def QuietEv (s : St) : Ev → Prop
  | .online => s.online = true
  | .offline => s.online = false
  | .state own on => (s.flag && own && !on) = false
  | .node => False
  | .junk => True

/-- What one action can do, in rule form. Weaker than `runAct` where the difference matters to no
scanner (`time` allows any clock values, `noop` is a failed resolve). Not `HostLoop.Step`, the
input record of the sequential model. -/
inductive Step : St → St → List Obs → Prop
  | ev (s : St) (e : Ev) : Step s { s with inbox := s.inbox ++ [e] } []
  | clock (s : St) (n : Nat) : Step s { s with now := n } [.clock n]
  | resolveHit (s : St) (id : Nat) (ok : Bool) (h : s.tasks.any (fun t => isParkedOn id t.pc) = true) :
      Step s { s with tasks := s.tasks.map fun t => { t with pc := resolvePc id ok t.pc } } [.resolved id ok]
  | noop (s : St) : Step s s []
  | cancelReq (s : St) : Step s { s with cStart := s.cStart + 1 } [.cancelReq]
  | time (s : St) (v h : Nat) : Step s { s with vt := v, horizon := h } []
  | pollOnline (s : St) (rest : List Ev) (hi : s.inbox = .online :: rest) (hd : s.drain = none)
      (ho : s.online = false) :
      Step s { s with inbox := rest, online := true,
                      tasks := s.tasks ++ [{ session := true, ts := s.willTs, pc := .subscribe }] }
        [.polled .online, .spawn s.tasks.length true s.willTs, .event .online]
  | pollQuiet (s : St) (e : Ev) (rest : List Ev) (hi : s.inbox = e :: rest) (hd : s.drain = none)
      (hq : QuietEv s e) : Step s { s with inbox := rest } [.polled e]
  | pollOffline (s : St) (rest : List Ev) (hi : s.inbox = .offline :: rest) (hd : s.drain = none)
      (ho : s.online = true) :
      Step s { s with inbox := rest, online := false, flag := false, willTs := s.now }
        [.polled .offline, .will s.now, .event .offline]
  | pollAnswer (s : St) (rest : List Ev) (hi : s.inbox = .state true false :: rest) (hd : s.drain = none)
      (hf : s.flag = true) :
      Step s { s with inbox := rest, tasks := s.tasks ++ [{ session := false, ts := s.willTs, pc := .publish }] }
        [.polled (.state true false), .spawn s.tasks.length false s.willTs]
  | pollNode (s : St) (rest : List Ev) (hi : s.inbox = .node :: rest) (hd : s.drain = none) :
      Step s { s with inbox := rest } [.polled .node, .event .node]
  | drainOffline (s : St) (rest : List Ev) (dl : Nat) (hi : s.inbox = .offline :: rest)
      (hd : s.drain = some dl) (ho : s.online = true) :
      Step s { s with inbox := rest, online := false, flag := false, willTs := s.now, drain := none }
        [.polled .offline, .will s.now, .event .cancelled]
  | drainOfflineOff (s : St) (rest : List Ev) (dl : Nat) (hi : s.inbox = .offline :: rest)
      (hd : s.drain = some dl) (ho : s.online = false) :
      Step s { s with inbox := rest, drain := none } [.polled .offline, .event .cancelled]
  | drainDrop (s : St) (e : Ev) (rest : List Ev) (dl : Nat) (hi : s.inbox = e :: rest)
      (hd : s.drain = some dl) (he : e ≠ .offline) :
      Step s { s with inbox := rest } [.polled e, .dropped]
  | shutDrain (s : St) (hs : s.shut = true) (hd : s.drain = none) (ho : s.online = true) :
      Step s { s with shut := false, drain := some (s.vt + 1000) } []
  | shutNow (s : St) (hs : s.shut = true) (hd : s.drain = none) (ho : s.online = false) :
      Step s { s with shut := false } [.event .cancelled]
  | timeout (s : St) (dl : Nat) (hd : s.drain = some dl) (hh : dl ≤ s.horizon) :
      Step s { s with drain := none, vt := max s.vt dl } [.event .cancelled]
  | taskSub (s : St) (i : Nat) (t : Task) (dec : Dec) (ht : s.tasks[i]? = some t) (hp : t.pc = .subscribe) :
      Step s { s with nCalls := s.nCalls + 1,
                      tasks := s.tasks.set i { t with pc := (match dec with | .park => .subParked s.nCalls none | _ => .publish) } }
        [.sub i s.nCalls dec]
  | taskSubResumed (s : St) (i : Nat) (t : Task) (id : Nat) (r : Bool) (ht : s.tasks[i]? = some t)
      (hp : t.pc = .subParked id (some r)) :
      Step s { s with tasks := s.tasks.set i { t with pc := .publish } } []
  | taskPub (s : St) (i : Nat) (t : Task) (dec : Dec) (ht : s.tasks[i]? = some t) (hp : t.pc = .publish) :
      Step s { s with nCalls := s.nCalls + 1,
                      tasks := s.tasks.set i { t with pc := (match dec with | .park => .pubParked s.nCalls none | _ => afterPublish t) } }
        [.stateOn i s.nCalls t.ts dec]
  | taskPubResumed (s : St) (i : Nat) (t : Task) (id : Nat) (r : Bool) (ht : s.tasks[i]? = some t)
      (hp : t.pc = .pubParked id (some r)) :
      Step s { s with tasks := s.tasks.set i { t with pc := afterPublish t } } []
  | taskSetFlag (s : St) (i : Nat) (t : Task) (ht : s.tasks[i]? = some t) (hp : t.pc = .setFlag) :
      Step s { s with tasks := s.tasks.set i { t with pc := .done }, flag := true } [.flagSet i]
  | cancelStart (s : St) (dec : Dec) (hc : s.cStart ≠ 0) :
      Step s { s with cStart := s.cStart - 1, cSend := s.cSend + 1, nCalls := s.nCalls + 1 }
        [.stateOff s.nCalls s.now (tryDec dec)]
  | cancelSend (s : St) (hc : s.cSend ≠ 0) (hs : s.shut = false) :
      Step s { s with cSend := s.cSend - 1, cDisc := s.cDisc + 1, shut := true } []
  | cancelDisc (s : St) (dec : Dec) (hc : s.cDisc ≠ 0) :
      Step s { s with cDisc := s.cDisc - 1, nCalls := s.nCalls + 1 } [.disc s.nCalls (tryDec dec)]

theorem step_of_runAct {s : St} {a : Act} {s' : St} {o : List Obs} (h : runAct s a = some (s', o)) :
    Step s s' o := by
  cases a with
  | stim x =>
    cases x with
    | ev e => cases h; exact .ev s e
    | clock n => cases h; exact .clock s n
    | resolve id ok =>
      simp only [runAct, applyStim] at h
      split at h
      · rename_i hh
        cases h; exact .resolveHit s id ok hh
      · cases h; exact .noop s
    | cancel => cases h; exact .cancelReq s
    | adv ms =>
      cases h
      exact .time s s.vt (s.horizon + ms)
    | settle =>
      cases h
      exact .time s _ _
  | task tk dec =>
    cases tk with
    | loopEvent =>
      simp only [runAct, step, loopEvent] at h
      split at h
      · cases h
      rename_i e rest hi
      try simp only [] at h
      split at h
      · -- outside the drain
        rename_i hd
        try simp only [] at hd
        cases e with
        | online =>
          simp only [handleEvent, handleOnline] at h
          split at h
          · rename_i ho
            cases h
            exact .pollQuiet s _ rest hi hd ho
          · rename_i ho
            cases h
            exact .pollOnline s rest hi hd (by simpa using ho)
        | offline =>
          simp only [handleEvent, handleOffline] at h
          split at h
          · rename_i ho
            cases h
            exact .pollQuiet s _ rest hi hd (by simpa [QuietEv] using ho)
          · rename_i ho
            cases h
            exact .pollOffline s rest hi hd (by simpa using ho)
        | state own on =>
          simp only [handleEvent] at h
          split at h
          · rename_i hf
            cases h
            simp only [Bool.and_eq_true, Bool.not_eq_true'] at hf
            obtain ⟨⟨hf, rfl⟩, rfl⟩ := hf
            exact .pollAnswer s rest hi hd hf
          · rename_i hf
            cases h
            exact .pollQuiet s _ rest hi hd (by simpa [QuietEv] using hf)
        | node =>
          simp only [handleEvent, Option.some.injEq, Prod.mk.injEq] at h; obtain ⟨rfl, rfl⟩ := h
          exact .pollNode s rest hi hd
        | junk =>
          simp only [handleEvent, Option.some.injEq, Prod.mk.injEq] at h; obtain ⟨rfl, rfl⟩ := h
          exact .pollQuiet s _ rest hi hd trivial
      · -- inside the drain
        rename_i dl hd
        try simp only [] at hd
        split at h
        · rename_i he
          subst he
          split at h
          · rename_i ho
            cases h
            exact .drainOffline s rest dl hi hd ho
          · rename_i ho
            cases h
            exact .drainOfflineOff s rest dl hi hd (by simpa using ho)
        · rename_i he
          cases h
          exact .drainDrop s e rest dl hi hd he
    | loopShutdown =>
      simp only [runAct, step, loopShutdown] at h
      split at h
      · rename_i hc
        simp only [Bool.and_eq_true, Option.isNone_iff_eq_none] at hc
        split at h
        · rename_i ho
          cases h
          exact .shutDrain s hc.1 hc.2 ho
        · rename_i ho
          cases h
          exact .shutNow s hc.1 hc.2 (by simpa using ho)
      · cases h
    | loopTimeout =>
      simp only [runAct, step, loopTimeout] at h
      split at h
      · rename_i dl hd
        split at h
        · rename_i hh
          cases h
          exact .timeout s dl hd hh
        · cases h
      · cases h
    | task i =>
      simp only [runAct, step, stepTask] at h
      split at h
      · cases h
      rename_i t ht
      split at h
      · rename_i hp
        cases h
        exact .taskSub s i t dec ht hp
      · rename_i id r hp
        cases h
        exact .taskSubResumed s i t id r ht hp
      · cases h
      · rename_i hp
        cases h
        exact .taskPub s i t dec ht hp
      · rename_i id r hp
        cases h
        exact .taskPubResumed s i t id r ht hp
      · cases h
      · rename_i hp
        cases h
        exact .taskSetFlag s i t ht hp
      · cases h
    | cancelStart =>
      simp only [runAct, step, cancelStart] at h
      split at h
      · cases h
      · rename_i hc
        cases h
        exact .cancelStart s dec hc
    | cancelSend =>
      simp only [runAct, step, cancelSend] at h
      split at h
      · cases h
      · rename_i hc
        simp only [Bool.or_eq_true, decide_eq_true_eq, not_or, Bool.not_eq_true] at hc
        cases h
        exact .cancelSend s hc.1 hc.2
    | cancelDisc =>
      simp only [runAct, step, cancelDisc] at h
      split at h
      · cases h
      · rename_i hc
        cases h
        exact .cancelDisc s dec hc


theorem runActs_cons {s s' : St} {a : Act} {as : List Act} {tr : List Obs}
    (h : runActs s (a :: as) = some (s', tr)) :
    ∃ s1 o1 o2, runAct s a = some (s1, o1) ∧ runActs s1 as = some (s', o2) ∧ tr = o1 ++ o2 := by
  simp only [runActs] at h
  split at h
  · cases h
  · next s1 o1 h1 =>
    split at h
    · cases h
    · next s2 o2 h2 => cases h; exact ⟨s1, o1, o2, h1, h2, rfl⟩

theorem runActs_rel (R : St → St → List Obs → Prop) (hnil : ∀ s, R s s [])
    (hcons : ∀ s s1 s2 o1 o2, Step s s1 o1 → R s1 s2 o2 → R s s2 (o1 ++ o2)) :
    ∀ (acts : List Act) (s s' : St) (tr : List Obs), runActs s acts = some (s', tr) → R s s' tr
  | [], s, _, _, h => by cases h; exact hnil s
  | _ :: as, _, _, _, h => by
    obtain ⟨s1, o1, o2, h1, h2, rfl⟩ := runActs_cons h
    exact hcons _ _ _ _ _ (step_of_runAct h1) (runActs_rel R hnil hcons as s1 _ _ h2)

/-- The scanner `scan`, started in the state `view s`, accepts what any step from `s` shows and is
then in the state `view s'`: the scanner's state is a function of the state of the LTS. -/
def Keeps {σ : Type} (view : St → σ) (scan : σ → List Obs → Bool) : Prop :=
  ∀ s s' o, Step s s' o → ∀ t, scan (view s') t = true → scan (view s) (o ++ t) = true

theorem Keeps.runActs {σ : Type} {view : St → σ} {scan : σ → List Obs → Bool} (hk : Keeps view scan)
    (hnil : ∀ q, scan q [] = true) {acts : List Act} {s s' : St} {tr : List Obs}
    (h : runActs s acts = some (s', tr)) : scan (view s) tr = true :=
  runActs_rel (fun s _ tr => scan (view s) tr = true) (fun s => hnil (view s))
    (fun s s1 _ o1 o2 hs ih => hk s s1 o1 hs o2 ih) acts s s' tr h

/-- Where a step shows nothing the scanner looks at, the scanner's equations close the case by
unfolding (`exact ht`). -/
theorem fresh_keeps : Keeps (fun s => s.now) (fun c => freshWillOk c false) := by
  intro s s' o hs t ht
  cases hs
  case pollOffline | drainOffline => simpa [freshWillOk] using ht
  all_goals exact ht

/-- `fresh = false` asks the most -/
theorem fresh_mono (c : Nat) (t : List Obs) (h : freshWillOk c false t = true) :
    freshWillOk c true t = true := by
  cases t with
  | nil => rfl
  | cons o t => cases o <;> simp_all [freshWillOk] <;> (rename_i r; cases r <;> simp_all [freshWillOk])

theorem cancel_step {s s' : St} {o : List Obs} (hs : Step s s' o) :
    (∀ t, cancelOk s'.now s'.cStart (s'.cSend + s'.cDisc) t = true →
      cancelOk s.now s.cStart (s.cSend + s.cDisc) (o ++ t) = true) ∧
    s'.cStart + nStateOff o = s.cStart + nCancelReq o ∧
    s'.cSend + s'.cDisc + nDisc o = s.cSend + s.cDisc + nStateOff o := by
  cases hs
  case cancelStart dec hc =>
    refine ⟨fun t ht => ?_, by
      simp [nStateOff, nCancelReq, nDisc, Obs.isStateOff, Obs.isCancelReq, Obs.isDisc] <;> omega⟩
    have h1 : s.cSend + 1 + s.cDisc = s.cSend + s.cDisc + 1 := by omega
    rw [h1] at ht
    cases dec <;> simpa [cancelOk, tryDec, Nat.pos_of_ne_zero hc] using ht
  case cancelSend hc hs =>
    refine ⟨fun t ht => ?_, by simp [nStateOff, nCancelReq, nDisc] <;> omega⟩
    have h1 : s.cSend - 1 + (s.cDisc + 1) = s.cSend + s.cDisc := by omega
    rw [h1] at ht
    exact ht
  case cancelDisc dec hc =>
    refine ⟨fun t ht => ?_, by
      simp [nStateOff, nCancelReq, nDisc, Obs.isStateOff, Obs.isCancelReq, Obs.isDisc] <;> omega⟩
    have h1 : s.cSend + (s.cDisc - 1) = s.cSend + s.cDisc - 1 := by omega
    have h2 : 0 < s.cSend + s.cDisc := by omega
    rw [h1] at ht
    cases dec <;> simpa [cancelOk, tryDec, h2] using ht
  all_goals exact ⟨fun _ ht => ht, rfl, rfl⟩

theorem cancel_keeps :
    Keeps (fun s => (s.now, s.cStart, s.cSend + s.cDisc)) (fun q => cancelOk q.1 q.2.1 q.2.2) :=
  fun _ _ _ hs => (cancel_step hs).1

theorem counts_runActs (acts : List Act) (s s' : St) (tr : List Obs)
    (h : runActs s acts = some (s', tr)) :
    s'.cStart + nStateOff tr = s.cStart + nCancelReq tr ∧
    s'.cSend + s'.cDisc + nDisc tr = s.cSend + s.cDisc + nStateOff tr :=
  runActs_rel (fun s s' tr => s'.cStart + nStateOff tr = s.cStart + nCancelReq tr ∧
      s'.cSend + s'.cDisc + nDisc tr = s.cSend + s.cDisc + nStateOff tr)
    (fun _ => ⟨rfl, rfl⟩)
    (fun s s1 s2 o1 o2 hs ih => by
      have ha := (cancel_step hs).2
      simp only [nStateOff, nCancelReq, nDisc, List.countP_append] at ha ih ⊢
      omega)
    acts s s' tr h

/-- while the flag is down `ownOffOk` does not look at `exp` -/
theorem own_exp (w : Nat) (e : Bool) (t : List Obs) : ownOffOk false w e t = ownOffOk false w false t := by
  cases t with
  | nil => simp [ownOffOk]
  | cons o t => cases o <;> simp [ownOffOk] <;> (try (rename_i ev; cases ev <;> simp [ownOffOk]))

/-- After the poll of an own `{online:false}` that is not answered the scanner expects no spawn
(`exp = true`); the flag is down then (`QuietEv`), so `own_exp` forgets it. -/
theorem own_keeps : Keeps (fun s => (s.flag, s.willTs)) (fun q => ownOffOk q.1 q.2 false) := by
  intro s s' o hs t ht
  cases hs
  case pollQuiet ev rest hi hd hq =>
    cases ev with
    | state own on =>
      cases own <;> cases on <;> try (simpa [ownOffOk] using ht)
      have hf : s.flag = false := by simpa [QuietEv] using hq
      simp only [hf] at ht ⊢
      simpa [ownOffOk, own_exp _ true] using ht
    | _ => simpa [ownOffOk] using ht
  case drainDrop ev rest dl hi hd hne =>
    cases ev with
    | state own on => cases own <;> cases on <;> simpa [ownOffOk] using ht
    | _ => simpa [ownOffOk] using ht
  case pollAnswer rest hi hd hf => simp only [hf] at ht ⊢; simpa [ownOffOk] using ht
  case ev | noop | time | shutDrain | taskSubResumed | taskPubResumed | cancelSend => exact ht
  all_goals simpa [ownOffOk] using ht

/-! The scanners for one task `k` read their state off `tasks[k]?` through a `view`. A step touches
the task list in three ways: one task moves on (`set`), a task is spawned (`++ [x]`), a parked call
is resolved (`map`). In each the other tasks keep their place, so what is left to show concerns
task `k` alone. -/

section
variable {σ : Type} (view : Option Task → σ) (scan : σ → List Obs → Bool) {k : Nat} {l : List Task}
  {o : List Obs}

theorem task_set {i : Nat} {t : Task} {p : Pc} (htk : l[i]? = some t)
    (hne : i ≠ k → ∀ q u, scan q (o ++ u) = scan q u)
    (heq : i = k → ∀ u, scan (view (some { t with pc := p })) u = true →
      scan (view (some t)) (o ++ u) = true) :
    ∀ u, scan (view (l.set i { t with pc := p })[k]?) u = true → scan (view l[k]?) (o ++ u) = true := by
  intro u hu
  by_cases hik : i = k
  · subst hik
    rw [List.getElem?_set_self (List.getElem?_eq_some_iff.1 htk).1] at hu
    rw [htk]; exact heq rfl u hu
  · rw [List.getElem?_set_ne hik] at hu; rw [hne hik]; exact hu

theorem task_snoc {x : Task} (hne : k ≠ l.length → ∀ q u, scan q (o ++ u) = scan q u)
    (heq : k = l.length → ∀ u, scan (view (some x)) u = true → scan (view none) (o ++ u) = true) :
    ∀ u, scan (view (l ++ [x])[k]?) u = true → scan (view l[k]?) (o ++ u) = true := by
  intro u hu
  by_cases hk : k = l.length
  · subst hk
    rw [List.getElem?_concat_length] at hu
    rw [List.getElem?_eq_none (Nat.le_refl _)]; exact heq rfl u hu
  · have : (l ++ [x])[k]? = l[k]? := by
      rw [List.getElem?_append]; split
      · rfl
      · rw [List.getElem?_eq_none (by simp; omega), List.getElem?_eq_none (by omega)]
    rw [this] at hu; rw [hne hk]; exact hu

theorem task_map {f : Pc → Pc} (hnone : ∀ u, scan (view none) (o ++ u) = scan (view none) u)
    (hsome : ∀ t u, scan (view (some { t with pc := f t.pc })) u = true →
      scan (view (some t)) (o ++ u) = true) :
    ∀ u, scan (view (l.map fun t => { t with pc := f t.pc })[k]?) u = true →
      scan (view l[k]?) (o ++ u) = true := by
  intro u hu
  rw [List.getElem?_map] at hu
  cases hk : l[k]? with
  | none => rw [hk] at hu; rw [hnone]; exact hu
  | some t => rw [hk] at hu; exact hsome t u hu

end

/-- The timestamp a task captured never changes; a new task captures the registered will. -/
theorem ts_keeps (k : Nat) :
    Keeps (fun s => (s.willTs, s.tasks[k]?.map Task.ts)) (fun q => birthTsOk k (some q.1) q.2) := by
  intro s s' o hs
  cases hs
  case pollOnline | pollAnswer =>
    exact task_snoc (Option.map Task.ts) (birthTsOk k (some s.willTs))
      (fun hk q u => by simp [birthTsOk, Ne.symm hk])
      (fun hk u hu => by simpa [birthTsOk, hk] using hu)
  case resolveHit id ok hh =>
    exact task_map (Option.map Task.ts) (birthTsOk k (some s.willTs)) (o := [.resolved id ok])
      (fun _ => rfl) (fun _ _ hu => hu)
  case taskPub i t dec htk hp =>
    exact task_set (Option.map Task.ts) (birthTsOk k (some s.willTs)) htk
      (fun hik q u => by simp [birthTsOk, hik])
      (fun hik u hu => by simpa [birthTsOk, hik] using hu)
  case taskSub i t dec htk hp | taskSubResumed i t id r htk hp | taskPubResumed i t id r htk hp |
      taskSetFlag i t htk hp =>
    exact task_set (Option.map Task.ts) (birthTsOk k (some s.willTs)) htk (fun _ _ _ => rfl) (fun _ _ hu => hu)
  all_goals exact fun _ ht => ht

/-- Where task `k` stands for `subBeforeBirthOk`, read off the program counter first: an answer
task would count as `.need` at `subscribe`, so no invariant about answer tasks is needed. Past the
subscription the scanner cannot tell `.returned` from `.answer` (`sbb_answer`). -/
def subPhase : Option Task → SubPhase
  | none => .unborn
  | some t =>
    match t.pc with
    | .subscribe => .need
    | .subParked id none => .parked id
    | .subParked _ (some _) => .returned
    | _ => if t.session then .returned else .answer

theorem sbb_answer (k : Nat) (u : List Obs) :
    subBeforeBirthOk k .answer u = subBeforeBirthOk k .returned u := by
  induction u with
  | nil => rfl
  | cons o u ih =>
    have h1 : (SubPhase.answer == SubPhase.need) = false ∧ (SubPhase.returned == SubPhase.need) = false ∧
      (SubPhase.answer == SubPhase.unborn) = false ∧ (SubPhase.returned == SubPhase.unborn) = false := by
      decide
    cases o <;> simp [subBeforeBirthOk, ih, h1]

/-- from `publish` on the scanner stands as in `.returned` -/
theorem sbb_past (k : Nat) (t : Task)
    (hp : t.pc = .publish ∨ t.pc = .setFlag ∨ t.pc = .done ∨ ∃ id r, t.pc = .pubParked id r)
    (u : List Obs) : subBeforeBirthOk k (subPhase (some t)) u = subBeforeBirthOk k .returned u := by
  obtain ⟨ses, ts, pc⟩ := t
  rcases hp with rfl | rfl | rfl | ⟨id, r, rfl⟩ <;> cases ses <;> simp [subPhase, sbb_answer]

theorem subPhase_resolve (id : Nat) (ok : Bool) (t : Task) :
    subPhase (some { t with pc := resolvePc id ok t.pc }) =
      if subPhase (some t) = .parked id then .returned else subPhase (some t) := by
  obtain ⟨ses, ts, pc⟩ := t
  cases pc <;> try (cases ses <;> rfl)
  all_goals (rename_i j r; cases r <;> try (cases ses <;> rfl))
  all_goals by_cases hj : j = id <;> cases ses <;> simp [subPhase, resolvePc, hj]

theorem sbb_keeps (k : Nat) : Keeps (fun s => subPhase s.tasks[k]?) (subBeforeBirthOk k) := by
  intro s s' o hs
  cases hs
  case pollOnline | pollAnswer =>
    exact task_snoc subPhase (subBeforeBirthOk k)
      (fun hk q u => by simp [subBeforeBirthOk, Ne.symm hk])
      (fun hk u hu => by simpa [subBeforeBirthOk, subPhase, hk] using hu)
  case resolveHit id ok hh =>
    refine task_map subPhase (subBeforeBirthOk k) (o := [.resolved id ok])
      (fun u => by simp [subBeforeBirthOk, subPhase]) (fun t u hu => ?_)
    rw [subPhase_resolve] at hu
    show subBeforeBirthOk k _ (.resolved id ok :: u) = true
    rw [subBeforeBirthOk]
    split <;> simp_all
  case taskSub i t dec htk hp =>
    refine task_set subPhase (subBeforeBirthOk k) htk (fun hik q u => by simp [subBeforeBirthOk, hik])
      (fun hik u hu => ?_)
    cases dec
    · rw [sbb_past _ { t with pc := _ } (.inl rfl)] at hu
      simpa [subBeforeBirthOk, subPhase, hp, hik] using hu
    · rw [sbb_past _ { t with pc := _ } (.inl rfl)] at hu
      simpa [subBeforeBirthOk, subPhase, hp, hik] using hu
    · simpa [subBeforeBirthOk, subPhase, hp, hik] using hu
  case taskSubResumed i t id r htk hp =>
    refine task_set subPhase (subBeforeBirthOk k) htk (fun _ _ _ => rfl) (fun _ u hu => ?_)
    rw [sbb_past _ { t with pc := _ } (.inl rfl)] at hu
    simpa [subPhase, hp] using hu
  case taskPub i t dec htk hp =>
    refine task_set subPhase (subBeforeBirthOk k) htk (fun hik q u => by simp [subBeforeBirthOk, hik])
      (fun hik u hu => ?_)
    rw [sbb_past _ { t with pc := _ } (by cases dec <;> simp [afterPublish] <;> split <;> simp)] at hu
    rw [List.singleton_append, subBeforeBirthOk, if_pos hik, sbb_past _ t (.inl hp)]
    cases hs : t.session <;> simp [subPhase, hp, hs, hu]
  case taskPubResumed i t id r htk hp =>
    refine task_set subPhase (subBeforeBirthOk k) htk (fun _ _ _ => rfl) (fun _ u hu => ?_)
    rw [sbb_past _ { t with pc := _ } (by simp [afterPublish]; split <;> simp)] at hu
    rw [List.nil_append, sbb_past _ t (.inr (.inr (.inr ⟨_, _, hp⟩)))]; exact hu
  case taskSetFlag i t htk hp =>
    refine task_set subPhase (subBeforeBirthOk k) htk (fun _ _ _ => rfl) (fun _ u hu => ?_)
    rw [sbb_past _ { t with pc := _ } (.inr (.inr (.inl rfl)))] at hu
    rw [sbb_past _ t (.inr (.inl hp))]; simpa [subBeforeBirthOk] using hu
  all_goals exact fun _ ht => ht

def bphaseOf : Option Task → BirthPhase
  | none => .notYet
  | some t =>
    match t.pc with
    | .pubParked id none => .parked id
    | .pubParked _ (some _) => .returned
    | .setFlag => .returned
    | .done => .returned
    | _ => .notYet

theorem bphaseOf_resolve (id : Nat) (ok : Bool) (t : Task) :
    bphaseOf (some { t with pc := resolvePc id ok t.pc }) =
      if bphaseOf (some t) = .parked id then .returned else bphaseOf (some t) := by
  obtain ⟨ses, ts, pc⟩ := t
  cases pc <;> try rfl
  all_goals (rename_i j r; cases r <;> try rfl)
  all_goals by_cases hj : j = id <;> simp [bphaseOf, resolvePc, hj]

theorem fab_keeps (k : Nat) : Keeps (fun s => bphaseOf s.tasks[k]?) (flagAfterBirthOk k) := by
  intro s s' o hs
  cases hs
  case pollOnline | pollAnswer =>
    exact task_snoc bphaseOf (flagAfterBirthOk k) (fun _ _ _ => rfl) (fun _ _ hu => hu)
  case resolveHit id ok hh =>
    refine task_map bphaseOf (flagAfterBirthOk k) (o := [.resolved id ok])
      (fun u => by simp [flagAfterBirthOk, bphaseOf]) (fun t u hu => ?_)
    rw [bphaseOf_resolve] at hu
    show flagAfterBirthOk k _ (.resolved id ok :: u) = true
    rw [flagAfterBirthOk]
    split <;> simp_all
  case taskSub i t dec htk hp =>
    refine task_set bphaseOf (flagAfterBirthOk k) htk (fun _ _ _ => rfl) (fun _ u hu => ?_)
    cases dec <;> simp_all [flagAfterBirthOk, bphaseOf]
  case taskSubResumed i t id r htk hp =>
    refine task_set bphaseOf (flagAfterBirthOk k) htk (fun _ _ _ => rfl) (fun _ u hu => ?_)
    simp_all [flagAfterBirthOk, bphaseOf]
  case taskPub i t dec htk hp =>
    refine task_set bphaseOf (flagAfterBirthOk k) htk (fun hik q u => by simp [flagAfterBirthOk, hik])
      (fun hik u hu => ?_)
    cases hs : t.session <;> cases dec <;> simp_all [flagAfterBirthOk, bphaseOf, afterPublish]
  case taskPubResumed i t id r htk hp =>
    refine task_set bphaseOf (flagAfterBirthOk k) htk (fun _ _ _ => rfl) (fun _ u hu => ?_)
    cases hs : t.session <;> simp_all [flagAfterBirthOk, bphaseOf, afterPublish]
  case taskSetFlag i t htk hp =>
    refine task_set bphaseOf (flagAfterBirthOk k) htk (fun hik q u => by simp [flagAfterBirthOk, hik])
      (fun hik u hu => ?_)
    simp_all [flagAfterBirthOk, bphaseOf]
  all_goals exact fun _ ht => ht


open Srad.HostLoop (Str SubCfg)

theorem snoc_get {α} (l : List α) (x : α) : (l ++ [x])[l.length]? = some x := by simp
theorem snoc_set {α} (l : List α) (x y : α) : (l ++ [x]).set l.length y = l ++ [y] := by
  induction l with
  | nil => rfl
  | cons a l ih => simp [List.set, ih]

def RefOk (cfg : SubCfg) (host : Str) (s : St) (i : HostLoop.In) (now : Nat) : Prop :=
  match runActs s (sched host s i now) with
  | none => False
  | some (s', o) => QS s' ∧ HostLoop.step cfg host (absSt s) i now = (absSt s', effs cfg host o, rets o)

theorem RefOk.intro {cfg : SubCfg} {host : Str} {s : St} {i : HostLoop.In} {now : Nat} {s' : St}
    {o : List Obs} (hr : runActs s (sched host s i now) = some (s', o)) (hq : QS s')
    (hs : HostLoop.step cfg host (absSt s) i now = (absSt s', effs cfg host o, rets o)) :
    RefOk cfg host s i now := by
  unfold RefOk; rw [hr]; exact ⟨hq, hs⟩

theorem RefOk.elim {cfg : SubCfg} {host : Str} {s : St} {i : HostLoop.In} {now : Nat}
    (h : RefOk cfg host s i now) : ∃ s' o, runActs s (sched host s i now) = some (s', o) ∧ QS s' ∧
      HostLoop.step cfg host (absSt s) i now = (absSt s', effs cfg host o, rets o) := by
  unfold RefOk at h
  split at h
  · exact h.elim
  · exact ⟨_, _, ‹_›, h⟩

theorem qs_mk {s : St} (h1 : s.inbox = []) (h2 : ∀ t ∈ s.tasks, t.pc = .done)
    (h3 : s.cStart = 0 ∧ s.cSend = 0 ∧ s.cDisc = 0)
    (h6 : s.shut = true → s.drain.isSome = true) (h7 : s.drain.isSome = true → s.online = true)
    (h8 : s.vt ≤ s.horizon ∧ s.horizon < s.vt + 1000)
    (h10 : ∀ d, s.drain = some d → s.horizon < d ∧ d ≤ s.horizon + 1000) : QS s :=
  ⟨h1, h2, h3.1, h3.2.1, h3.2.2, h6, h7, h8.1, h8.2, h10⟩

theorem done_snoc {l : List Task} {x : Task} (h : ∀ t ∈ l, t.pc = .done) (hx : x.pc = .done) :
    ∀ t ∈ l ++ [x], t.pc = .done := by
  intro t ht
  rcases List.mem_append.1 ht with h' | h'
  · exact h t h'
  · simp at h'; subst h'; exact hx

/-- A spawned task is the last one, so the schedule runs it through `snoc_get` / `snoc_set`; every
other case is evaluation of both sides on the flags. -/
theorem refine_step (cfg : SubCfg) (host : Str) (s : St) (hq : QS s) (i : HostLoop.In) (now : Nat)
    (hi : ¬ (i = .cancel ∧ s.drain.isSome = true ∧ s.shut = true)) : RefOk cfg host s i now := by
  obtain ⟨online, willTs, flag, drain, shut, inbox, tasks, cStart, cSend, cDisc, nCalls, now0, vt, horizon⟩ := s
  obtain ⟨h1, h2, h3, h4, h5, h6, h7, h8, h9, h10⟩ := hq
  simp only at h1 h2 h3 h4 h5 h6 h7 h8 h9 h10 hi
  subst h1 h3 h4 h5
  cases drain with
  | none =>
    have hsh : shut = false := by cases shut <;> simp_all
    subst hsh
    have qs : ∀ on w fl dr n0 nc v tk, (∀ t ∈ tk, t.pc = .done) → (dr = none ∨ (on = true ∧ dr = some (v + 1000))) →
        v ≤ horizon → horizon < v + 1000 →
        QS ⟨on, w, fl, dr, false, [], tk, 0, 0, 0, nc, n0, v, horizon⟩ := by
      intro on w fl dr n0 nc v tk h hdr hv1 hv2
      refine qs_mk rfl h ⟨rfl, rfl, rfl⟩ nofun ?_ ⟨hv1, hv2⟩ ?_
      · rcases hdr with rfl | ⟨rfl, rfl⟩ <;> simp
      · rcases hdr with rfl | ⟨rfl, rfl⟩ <;> simp <;> omega
    cases i with
    | timeout => exact .intro rfl (qs _ _ _ _ _ _ _ _ h2 (.inl rfl) h8 h9) rfl
    | cancel =>
      cases online
      · exact .intro rfl (qs _ _ _ _ _ _ _ _ h2 (.inl rfl) h8 h9) rfl
      · exact .intro rfl (qs _ _ _ _ _ _ _ _ h2 (.inr ⟨rfl, rfl⟩) h8 h9) rfl
    | ev e =>
      cases e with
      | state h on ts =>
        cases hh : (h == host) <;> cases on <;> cases flag <;>
        simp [RefOk, sched, evOf, runActs, runAct, applyStim, step, loopEvent, handleEvent, stepTask, setPc,
          afterPublish, snoc_get, snoc_set, hh] <;>
        refine ⟨qs _ _ _ _ _ _ _ _ (by first | exact h2 | exact done_snoc h2 rfl) (.inl rfl) h8 h9, ?_⟩ <;>
        simp [HostLoop.step, HostLoop.handleEvent, absSt, effs, rets, effOf, retOf, List.filterMap_cons, hh]
      | online =>
        cases online
        · simp [RefOk, sched, evOf, runActs, runAct, applyStim, step, loopEvent, handleEvent, handleOnline,
            stepTask, setPc, afterPublish, snoc_get, snoc_set]
          exact ⟨qs _ _ _ _ _ _ _ _ (done_snoc h2 rfl) (.inl rfl) h8 h9, rfl⟩
        · exact .intro rfl (qs _ _ _ _ _ _ _ _ h2 (.inl rfl) h8 h9) rfl
      | offline => cases online <;> exact .intro rfl (qs _ _ _ _ _ _ _ _ h2 (.inl rfl) h8 h9) rfl
      | other => exact .intro rfl (qs _ _ _ _ _ _ _ _ h2 (.inl rfl) h8 h9) rfl
  | some dl =>
    have hon : online = true := by simpa using h7
    subst hon
    have hd := h10 dl rfl
    cases i with
    | timeout =>
      have hdl : dl ≤ horizon + 1000 := hd.2
      cases shut <;>
      simp [RefOk, sched, runActs, runAct, applyStim, step, loopTimeout, loopShutdown, hdl] <;>
      refine ⟨qs_mk rfl h2 ⟨rfl, rfl, rfl⟩ (by simp) (by simp) (by simp <;> omega) (by simp <;> omega), rfl⟩
    | cancel =>
      have hsh : shut = false := by cases shut <;> simp_all
      subst hsh
      exact .intro rfl (qs_mk rfl h2 ⟨rfl, rfl, rfl⟩ (by simp) (by simp) ⟨h8, h9⟩ (by simpa using hd)) rfl
    | ev e =>
      cases e with
      | offline =>
        cases shut <;> exact .intro rfl (qs_mk rfl h2 ⟨rfl, rfl, rfl⟩ nofun nofun ⟨h8, h9⟩ nofun) rfl
      | state h on ts =>
        cases hh : (h == host) <;> cases on <;>
        simp [RefOk, sched, evOf, runActs, runAct, applyStim, step, loopEvent, handleEvent, hh] <;>
        exact ⟨qs_mk rfl h2 ⟨rfl, rfl, rfl⟩ (by simpa using h6) (by simp) ⟨h8, h9⟩ (by simpa using hd), rfl⟩
      | _ =>
        exact .intro rfl (qs_mk rfl h2 ⟨rfl, rfl, rfl⟩ (by simpa using h6) (by simp) ⟨h8, h9⟩ (by simpa using hd)) rfl

theorem sched_acceptAll (host : Str) (s : St) (i : HostLoop.In) (now : Nat) :
    acceptAll (sched host s i now) = true := by
  cases i with
  | ev e =>
    simp only [sched]
    cases s.drain <;> cases evOf host e <;> simp [acceptAll] <;>
      (try (rename_i own on; cases own <;> cases on <;> simp)) <;> split <;> simp
  | timeout => simp only [sched]; cases s.drain <;> simp [acceptAll] <;> split <;> simp
  | cancel => simp only [sched]; split <;> simp [acceptAll]

theorem runActs_append : ∀ (a b : List Act) (s s1 s2 : St) (o1 o2 : List Obs),
    runActs s a = some (s1, o1) → runActs s1 b = some (s2, o2) → runActs s (a ++ b) = some (s2, o1 ++ o2)
  | [], b, s, s1, s2, o1, o2, h1, h2 => by cases h1; simpa using h2
  | x :: a, b, s, s1, s2, o1, o2, h1, h2 => by
    obtain ⟨sa, oa, ob, ha, hb, rfl⟩ := runActs_cons h1
    simp [runActs, ha, runActs_append a b sa _ _ _ _ hb h2]

theorem acceptAll_append (a b : List Act) : acceptAll (a ++ b) = (acceptAll a && acceptAll b) := by
  simp [acceptAll]

/-- no `cancel` is issued while two are outstanding (the sequential model does not follow the
third one, see `HostLoop.step`) -/
def noThirdCancel (cfg : SubCfg) (host : Str) : HostLoop.St → List HostLoop.Step → Prop
  | _, [] => True
  | a, x :: xs =>
    ¬ (x.inp = .cancel ∧ a.draining = true ∧ a.pending = true) ∧
      noThirdCancel cfg host (HostLoop.step cfg host a x.inp x.now).1 xs

theorem refine_exec (cfg : SubCfg) (host : Str) : ∀ (steps : List HostLoop.Step) (s : St), QS s →
    noThirdCancel cfg host (absSt s) steps →
    ∃ acts s' o, runActs s acts = some (s', o) ∧ acceptAll acts = true ∧ QS s' ∧
      HostLoop.exec cfg host (absSt s) steps = (absSt s', effs cfg host o, rets o)
  | [], s, hq, _ => ⟨[], s, [], rfl, rfl, hq, rfl⟩
  | x :: xs, s, hq, hn => by
    obtain ⟨hn1, hn2⟩ := hn
    have h1 := refine_step cfg host s hq x.inp x.now (by
      intro h; exact hn1 ⟨h.1, by simpa [absSt] using h.2.1, by simpa [absSt] using h.2.2⟩)
    obtain ⟨s1, o1, hr, hq1, hst⟩ := h1.elim
    rw [hst] at hn2
    obtain ⟨acts, s2, o2, hr2, ha2, hq2, he2⟩ := refine_exec cfg host xs s1 hq1 hn2
    refine ⟨sched host s x.inp x.now ++ acts, s2, o1 ++ o2, runActs_append _ _ _ _ _ _ _ hr hr2, ?_, hq2, ?_⟩
    · rw [acceptAll_append, sched_acceptAll, ha2]; rfl
    · simp only [HostLoop.exec, hst, he2, effs, rets, List.filterMap_append]

theorem qs_init (now0 : Nat) : QS (init now0) :=
  qs_mk rfl (by simp [init]) ⟨rfl, rfl, rfl⟩ (by simp [init]) (by simp [init]) (by simp [init]) (by simp [init])

theorem qs_quiescent {s : St} (hq : QS s) : quiescent s = true := by
  obtain ⟨h1, h2, h3, h4, h5, h6, h7, h8, h9, h10⟩ := hq
  simp only [quiescent, allTks, List.all_append, List.all_cons, List.all_nil, Bool.and_true, Bool.and_eq_true,
    List.all_map, List.all_eq_true, List.mem_range, Function.comp]
  refine ⟨⟨?_, ?_, ?_, ?_, ?_, ?_⟩, ?_⟩
  · simp [step, loopEvent, h1]
  · simp only [step, loopShutdown]
    cases hs : s.shut
    · simp
    · have := h6 hs
      cases hd : s.drain with
      | none => simp [hd] at this
      | some d => simp
  · simp only [step, loopTimeout]
    cases hd : s.drain with
    | none => simp
    | some d => have := (h10 d hd).1; simp; omega
  · simp [step, cancelStart, h3]
  · simp [step, cancelSend, h4]
  · simp [step, cancelDisc, h5]
  · intro i hi
    simp only [step, stepTask]
    have hm : s.tasks[i] ∈ s.tasks := List.getElem_mem hi
    have hp := h2 _ hm
    rw [List.getElem?_eq_getElem hi]
    simp [hp]

end Srad.HostLoopLts
