/-
C07 — Host requests a rebirth exactly when a node's stream is untrustworthy.
`raised c s i now` is the reason (if any) an input raises in a state; `C07_rebirth_iff` ties the
NCMD to it, the `C07_trigger_*` theorems characterise it trigger by trigger in declarative terms.
-/
import SradModel.Proofs.Host

namespace Srad.Host

/-- **Exactly when.** A step publishes a rebirth NCMD iff its input raises a reason whose switch
is enabled and the cooldown has expired. Then it publishes exactly one, as the last effect of the
step. -/
theorem C07_rebirth_iff (c : Cfg) (s : St) (i : In) (now wall : Nat) (hinv : HostInv s) (hwf : i.WF) :
    (Eff.ncmd ∈ (step c s i now wall).2 ↔
      ∃ r, raised c s i now = some r ∧ c.enabled r = true ∧ CooldownOk c s wall) ∧
    (step c s i now wall).2.count Eff.ncmd ≤ 1 ∧
    (Eff.ncmd ∈ (step c s i now wall).2 → (step c s i now wall).2.getLast? = some Eff.ncmd) := by
  have _ := hinv; have _ := hwf  -- not needed: holds in every state
  exact step_ncmd c s i now wall

/-- **Only for a node it holds stale** (ClockCoherent): after a step that published the NCMD the
node is held stale, and its stores were marked stale if they were not. -/
theorem C07_ncmd_only_when_stale (c : Cfg) (s : St) (i : In) (now wall : Nat) (hinv : HostInv s)
    (hwf : i.WF) (hclock : s.birthTs ≤ now) (h : Eff.ncmd ∈ (step c s i now wall).2) :
    (step c s i now wall).1.life = .stale ∧
    (s.life = .birthed → Eff.nodeStale ∈ (step c s i now wall).2) := by
  have h := rebirth_marks c s i now wall hinv hwf hclock h
  exact ⟨h.1, fun hb => (h.2.2 hb).1⟩

/-! ### the listed triggers, each raising its reason -/

/-- data while the host holds the node stale -/
theorem C07_trigger_data_while_stale (c : Cfg) (s : St) (seq ts : Nat) (m : RMsg) (now : Nat)
    (hfresh : Fresh s ts) (hst : s.life = .stale) :
    raised c s (.rmsg seq ts m) now = some .recordedStateStale :=
  (handleRMsg_stale c s seq ts m now hst).2.2 hfresh

/-- a duplicated sequence number: a message with that number is already waiting in the buffer -/
theorem C07_trigger_duplicate (c : Cfg) (s : St) (seq ts : Nat) (m : RMsg) (now : Nat)
    (hinv : HostInv s) (hseq : seq < 256) (hfresh : Fresh s ts) (hb : s.life = .birthed)
    (hres : c.resequence = true) (hdup : ∃ x ∈ s.reseq.buf, x.2.1 = seq) :
    raised c s (.rmsg seq ts m) now = some .reorderFail := by
  simp only [raised]
  rw [handleRMsg_pass c s seq ts m now hfresh hb, Reseq.process_eq_dup _ _ _ hinv.1 hseq hdup]
  simp [hres]

/-- a sequence gap not filled within the reorder timeout: (a) an out-of-order message arms the
timer for `now + timeout` when none is running; (b) the timer task firing raises the reason -/
theorem C07_trigger_gap_arms_timer (c : Cfg) (s : St) (seq ts : Nat) (m : RMsg) (now wall d : Nat)
    (hinv : HostInv s) (hseq : seq < 256) (hfresh : Fresh s ts) (hb : s.life = .birthed)
    (hres : c.resequence = true) (hto : c.reorderTimeout = some d) (hgap : seq ≠ s.reseq.next)
    (hnew : ∀ x ∈ s.reseq.buf, x.2.1 ≠ seq) (hidle : s.timer = .none) :
    (step c s (.rmsg seq ts m) now wall).1.timer = .armed (now + d) ∧
    (step c s (.rmsg seq ts m) now wall).2 = [Eff.timerStart] := by
  obtain ⟨r', hp⟩ := Reseq.process_eq_inserted s.reseq seq m hinv.1 hseq hgap hnew
  rw [step_rmsg_eq, handleRMsg_inserted c s seq ts m now hfresh hb hres r' hp, hidle]
  simp [startTimer, hto]

theorem C07_trigger_gap_timeout (c : Cfg) (s : St) (now dl : Nat) (h : s.timer = .armed dl) :
    raised c s .timerFire now = some .reorderTimeout := by
  simp [raised, h]

/-- a store rejecting a metric of an in-sequence message: the reason follows the store's answer
(`invalid` ↦ `invalidPayload`, `unknownMetric` ↦ `unknownMetric`), for node data exactly as for
device data (D17) -/
theorem C07_trigger_store_rejects_node_data (c : Cfg) (s : St) (seq ts id : Nat) (ans : Ans) (now : Nat)
    (hinv : HostInv s) (hseq : seq < 256) (hfresh : Fresh s ts) (hb : s.life = .birthed)
    (hin : InSeq c s seq) (hrej : ans ≠ .ok) :
    raised c s (.rmsg seq ts (.ndata id ans)) now
      = some (if ans = .invalid then .invalidPayload else .unknownMetric) := by
  refine raised_inseq_some c s seq ts _ now hinv hseq hfresh hb hin _ ?_
  cases ans <;> simp_all [apply]

theorem C07_trigger_store_rejects_device_birth (c : Cfg) (s : St) (seq ts d id : Nat) (ans : Ans) (now : Nat)
    (hinv : HostInv s) (hseq : seq < 256) (hfresh : Fresh s ts) (hb : s.life = .birthed)
    (hin : InSeq c s seq) (hrej : ans ≠ .ok) :
    raised c s (.rmsg seq ts (.dbirth d id ans)) now = some .invalidPayload := by
  exact raised_inseq_some c s seq ts _ now hinv hseq hfresh hb hin _ (by simp [apply, hrej])

theorem C07_trigger_store_rejects_device_data (c : Cfg) (s : St) (seq ts d id : Nat) (ans : Ans) (now : Nat)
    (hinv : HostInv s) (hseq : seq < 256) (hfresh : Fresh s ts) (hb : s.life = .birthed)
    (hin : InSeq c s seq) (hdev : devState s d = .birthed ∧ findDev d s.devices ≠ none) (hrej : ans ≠ .ok) :
    raised c s (.rmsg seq ts (.ddata d id ans)) now
      = some (if ans = .invalid then .invalidPayload else .unknownMetric) := by
  obtain ⟨h1, h2⟩ := hdev
  have hf : findDev d s.devices = some .birthed := by
    unfold devState at h1
    cases hfd : findDev d s.devices with
    | none => exact absurd hfd h2
    | some l => rw [hfd] at h1; simpa using h1
  refine raised_inseq_some c s seq ts _ now hinv hseq hfresh hb hin _ ?_
  cases ans <;> simp_all [apply]

/-- the node's store rejecting an NBIRTH: every NBIRTH that is strictly newer is shown to the
store, whatever the host holds for the node (also a rebirth that keeps the bdSeq while the node
is held birthed, D16), so every rejection raises the reason -/
theorem C07_trigger_store_rejects_node_birth (c : Cfg) (s : St) (ts bd id : Nat) (ans : Ans) (now : Nat)
    (hnew : s.birthTs < ts) (hrej : ans ≠ .ok) :
    raised c s (.nbirth ts bd id ans) now = some .invalidPayload := by
  simp only [raised]
  rw [if_neg (by omega), if_pos hrej]

/-- data (or a death) from a device it holds no birth for -/
theorem C07_trigger_unknown_device (c : Cfg) (s : St) (seq ts d id : Nat) (ans : Ans) (now : Nat)
    (hinv : HostInv s) (hseq : seq < 256) (hfresh : Fresh s ts) (hb : s.life = .birthed)
    (hin : InSeq c s seq) (hunk : findDev d s.devices = none) :
    raised c s (.rmsg seq ts (.ddata d id ans)) now = some .unknownDevice ∧
    raised c s (.rmsg seq ts (.ddeath d id)) now = some .unknownDevice := by
  exact ⟨raised_inseq_some c s seq ts _ now hinv hseq hfresh hb hin _ (by simp [apply, hunk]),
    raised_inseq_some c s seq ts _ now hinv hseq hfresh hb hin _ (by simp [apply, hunk])⟩

/-- data for a device it holds stale -/
theorem C07_trigger_device_stale (c : Cfg) (s : St) (seq ts d id : Nat) (ans : Ans) (now : Nat)
    (hinv : HostInv s) (hseq : seq < 256) (hfresh : Fresh s ts) (hb : s.life = .birthed)
    (hin : InSeq c s seq) (hst : findDev d s.devices = some .stale) :
    raised c s (.rmsg seq ts (.ddata d id ans)) now = some .recordedStateStale := by
  exact raised_inseq_some c s seq ts _ now hinv hseq hfresh hb hin _ (by simp [apply, hst])

/-- an NDEATH whose bdSeq differs from the current birth's -/
theorem C07_trigger_bdseq_mismatch (c : Cfg) (s : St) (bd now : Nat) (h : bd ≠ s.bdseq) :
    raised c s (.ndeath bd) now = some .outOfSyncBdSeq := by
  simp [raised, h]

/-- data from a node it holds no birth for (dispatcher): the actor is created and asked for a
rebirth, the message itself is dropped -/
theorem C07_trigger_unknown_node (c : Cfg) (a : App) (n seq ts : Nat) (m : RMsg) (now wall : Nat)
    (hunk : findNode n a.nodes = none) (hen : c.unknownNode = true) (hcd : c.cooldown ≤ wall) :
    (appStep c a (.node n (.rmsg seq ts m)) now wall).2
      = [AppEff.nodeCreated n, AppEff.node n Eff.ncmd] ∧
    (findNode n (appStep c a (.node n (.rmsg seq ts m)) now wall).1.nodes).map (·.life) = some .stale := by
  have hstep : step c init (.rebirthReq .unknownNode) now wall = ({ init with lastRebirth := wall }, [.ncmd]) := by
    simp only [step]
    have h1 : c.enabled .unknownNode = true := hen
    have h2 : ¬ (wall - init.lastRebirth < c.cooldown) := by simp [init]; omega
    rw [issueRebirth_eq, if_neg (by simp [h1]), if_neg h2, setStale_noop _ _ (Or.inl rfl)]
    rfl
  have : appStep c a (.node n (.rmsg seq ts m)) now wall =
      ({ a with nodes := setNode n { init with lastRebirth := wall } a.nodes },
        [.nodeCreated n, .node n .ncmd]) := by
    simp only [appStep, hunk, stepNode, hstep]; rfl
  rw [this]
  exact ⟨rfl, by rw [findNode_setNode]; rfl⟩

/-! ### nothing else raises a reason -/

/-- an in-sequence message that its store accepts, for a birthed node and (for device data) a
birthed device, raises nothing; neither does an NDEATH with the current bdSeq, the host going
offline, an accepted or ignored NBIRTH, or an out-of-order message that is new to the buffer
(what buffered messages raise when they are later released is theirs, see `C05_prompt_in_order`) -/
theorem C07_no_reason_when_trustworthy (c : Cfg) (s : St) (now : Nat) (hinv : HostInv s) :
    raised c s .offline now = none ∧
    raised c s (.ndeath s.bdseq) now = none ∧
    (∀ ts bd id, raised c s (.nbirth ts bd id .ok) now = none) ∧
    (∀ seq ts id, seq < 256 → Fresh s ts → s.life = .birthed → InSeq c s seq →
        s.reseq.buf = [] → raised c s (.rmsg seq ts (.ndata id .ok)) now = none) ∧
    (∀ seq ts m, seq < 256 → Fresh s ts → s.life = .birthed → c.resequence = true →
        seq ≠ s.reseq.next → (∀ x ∈ s.reseq.buf, x.2.1 ≠ seq) →
        raised c s (.rmsg seq ts m) now = none) := by
  refine ⟨rfl, by simp [raised], ?_, ?_, ?_⟩
  · intro ts bd id
    simp only [raised]
    split <;> simp
  · intro seq ts id hseq hfresh hb hin hbuf
    obtain ⟨l, h, hl⟩ := raised_inseq c s seq ts (.ndata id .ok) now hinv hseq hfresh hb hin
    rw [h, hl hbuf, applyAll_single]
    rfl
  · intro seq ts m hseq hfresh hb hres hgap hnew
    obtain ⟨r', hp⟩ := Reseq.process_eq_inserted s.reseq seq m hinv.1 hseq hgap hnew
    simp only [raised]
    rw [handleRMsg_inserted c s seq ts m now hfresh hb hres r' hp]
    split <;> rfl

example : raised (exampleCfg (some 100) 0) init (.rmsg 1 5 (.ndata 1 .ok)) 5 = some .recordedStateStale := by decide

/-- node data the store does not know a metric of raises `unknownMetric`, malformed node data
`invalidPayload` (D17) -/
example :
    let c := exampleCfg (some 100) 0
    let s0 := (step c init (.nbirth 10 3 1 .ok) 10 10).1
    raised c s0 (.rmsg 1 11 (.ndata 2 .unknownMetric)) 11 = some .unknownMetric ∧
    raised c s0 (.rmsg 1 11 (.ndata 2 .invalid)) 11 = some .invalidPayload := by decide

/-- a rebirth NBIRTH with the same bdSeq, rejected by the store of a node held birthed, raises
`invalidPayload` and is answered with a rebirth request (D16) -/
example :
    let c : Cfg := { exampleCfg (some 100) 0 with invalidPayload := true }
    let s0 := (step c init (.nbirth 10 3 1 .ok) 10 10).1
    raised c s0 (.nbirth 20 3 2 .invalid) 20 = some .invalidPayload ∧
    (step c s0 (.nbirth 20 3 2 .invalid) 20 20).2 = [.nodeBirth 2 false, .nodeStale, .ncmd] := by decide

end Srad.Host
