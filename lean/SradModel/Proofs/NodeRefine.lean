/-
`Loop.Node` refines the task-level LTS `Model/Eon` under the accepting client: for every operation a
schedule (the stimulus, then task steps, every client decision `.acc`) is exhibited that runs from a
quiescent state to a quiescent state, commutes with `absNode` and hands over what the operation returns.
-/
import SradModel.Proofs.EonRules
import SradModel.Model.Loop

namespace Srad.Loop.Refine
open Srad

/-- a hand-over without its payload: kind, device, sequence number, bdSeq — or a new will -/
inductive H where
  | call (kind : Eon.CK) (dev seq bd : Option Nat)
  | will (bd : Nat)
  deriving DecidableEq, Repr

/-- an abstract message, projected (its id and timestamp dropped) -/
def projMsg : Msg → H
  | .nbirth _ bd _ => .call .nbirth none (some 0) (some bd)
  | .ndeath bd => .call .ndeath none none (some bd)
  | .ndata seq _ _ => .call .ndata none (some seq) none
  | .dbirth d seq _ _ => .call .dbirth (some d) (some seq) none
  | .ddeath d seq _ _ => .call .ddeath (some d) (some seq) none
  | .ddata d seq _ _ => .call .ddata (some d) (some seq) none

/-- an observation of the LTS, projected: client calls other than the subscription, and wills -/
def projOb : Eon.Obs → Option H
  | .call _ k dev seq bd _ _ => if k == .sub then none else some (.call k dev seq bd)
  | .will bd => some (.will bd)
  | _ => none

def projObs (l : List Eon.Obs) : List H := l.filterMap projOb

@[simp] theorem projOb_call (id : Nat) (k : Eon.CK) (dev seq bd : Option Nat) (t : Bool) (dec : Eon.Dec) :
    projOb (.call id k dev seq bd t dec) = if k == .sub then none else some (.call k dev seq bd) := rfl
@[simp] theorem projOb_will (bd : Nat) : projOb (.will bd) = some (.will bd) := rfl
@[simp] theorem projOb_resolved (id : Nat) (ok : Bool) : projOb (.resolved id ok) = none := rfl
@[simp] theorem projOb_poll : projOb .poll = none := rfl
@[simp] theorem projOb_polled (e : Eon.EvName) : projOb (.polled e) = none := rfl
@[simp] theorem projOb_ures (j : Nat) (r : Eon.URes) : projOb (.ures j r) = none := rfl
@[simp] theorem projOb_cbNcmd : projOb .cbNcmd = none := rfl
@[simp] theorem projOb_cbDcmd (d : Nat) : projOb (.cbDcmd d) = none := rfl
@[simp] theorem projOb_bNode : projOb .bNode = none := rfl
@[simp] theorem projOb_bDev (d : Nat) : projOb (.bDev d) = none := rfl
@[simp] theorem projOb_runReturned : projOb .runReturned = none := rfl

@[simp] theorem projObs_nil : projObs [] = [] := rfl
@[simp] theorem projObs_append (a b : List Eon.Obs) : projObs (a ++ b) = projObs a ++ projObs b :=
  List.filterMap_append

def absDev (x : Eon.Dev) : Dev := { name := x.name, enabled := x.enabled, flag := x.flag }

/-- the abstraction function; `i` is the (ghost) id counter of `Loop.Node`, which the LTS does not have -/
def absNode (i : Nat) (s : Eon.St) : Node :=
  { online := s.online, birthed := s.birthed, seq := s.seq, bdseq := s.bdseq, devs := s.devs.map absDev, nextId := i }

def DevQuiet (x : Eon.Dev) : Prop :=
  x.pc = .idle ∧ x.nsq = [] ∧ x.hq = [] ∧ x.mq = [] ∧ x.registered = true

/-- the control part of a quiescent state: the event loop is blocked in `poll` with nothing to return,
every channel is empty, no stop is requested, the node task is idle, every user call has returned -/
structure Ctl (s : Eon.St) : Prop where
  inbox : s.inbox = []
  loop : s.loop = .polling
  cs : s.cs = none
  rebirthQ : s.rebirthQ = false
  msgQ : s.msgQ = []
  stop : s.stop = false
  stopping : s.stopping = false
  node : s.node = .idle
  ucalls : ∀ u ∈ s.ucalls, u.pc = .done

/-- quiescent: no task is enabled (`quiescent_stuck`) -/
structure Quiescent (s : Eon.St) : Prop where
  ctl : Ctl s
  devs : ∀ x ∈ s.devs, DevQuiet x

/-- configuration facts of the states the harness reaches: cooldown 0, `on_ncmd` does not park, the
oneshot ids handed out so far are below the counter -/
structure Cfg (s : Eon.St) : Prop where
  cooldown : s.cooldown = 0
  cbPark : s.nodeCbPark = false
  oneshots : ∀ p ∈ s.oneshots, p.1 < s.nextOneshot

/-- well-formedness: `Cfg`, distinct devices, and the facts about flags the abstraction relies on:
a flagged device is enabled and was birthed in the current node birth; no device is flagged while
the node is offline; under the accepting client the node is birthed exactly while it is online -/
structure Wf (s : Eon.St) : Prop where
  cfg : Cfg s
  uids : (s.devs.map (·.uid)).Nodup
  names : (s.devs.map (·.name)).Nodup
  flags : ∀ x ∈ s.devs, x.flag = true → x.enabled = true ∧ x.epoch = s.epoch
  offline : s.online = false → ∀ x ∈ s.devs, x.flag = false
  bo : s.birthed = s.online

/-- what `Quiescent` and `Wf` ask of a single device, in the node birth `ep`, the node online iff `on`: it is quiet,
and its flag is justified (`Wf.flags` and `Wf.offline` in one) -/
def DevOk (ep : Nat) (on : Bool) (y : Eon.Dev) : Prop :=
  DevQuiet y ∧ (y.flag = true → y.enabled = true ∧ y.epoch = ep ∧ on = true)

theorem devOk {s : Eon.St} (hq : Quiescent s) (hw : Wf s) : ∀ y ∈ s.devs, DevOk s.epoch s.online y := fun y hy =>
  ⟨hq.devs y hy, fun hf => ⟨(hw.flags y hy hf).1, (hw.flags y hy hf).2,
    by cases ho : s.online with | true => rfl | false => rw [hw.offline ho y hy] at hf; cases hf⟩⟩

/-- how every operation re-establishes `Quiescent` and `Wf`: the control part and the configuration are read off
the state, the uids and names are those of the start, and the devices are checked one by one -/
theorem ok_of_devs {s s' : Eon.St} (hw : Wf s) (hctl : Ctl s') (hcfg : Cfg s') (hbo : s'.birthed = s'.online)
    (hu : s'.devs.map (·.uid) = s.devs.map (·.uid)) (hn : s'.devs.map (·.name) = s.devs.map (·.name))
    (hd : ∀ y ∈ s'.devs, DevOk s'.epoch s'.online y) : Quiescent s' ∧ Wf s' :=
  ⟨⟨hctl, fun y hy => (hd y hy).1⟩, hcfg, hu ▸ hw.uids, hn ▸ hw.names,
    fun y hy hf => ⟨((hd y hy).2 hf).1, ((hd y hy).2 hf).2.1⟩,
    fun ho y hy => by cases hf : y.flag with | false => rfl | true => exact absurd (ho.symm.trans ((hd y hy).2 hf).2.2) nofun,
    hbo⟩

/-! ### running schedules -/

/-- the actions a schedule of the sequential regime consists of: the stimuli of the eight operations
(an event from the event loop, enable / disable, a manual rebirth, a blocking publish) and task
steps in which the client ACCEPTS the call handed over, if any -/
def okAct : Eon.Act → Bool
  | .task _ .acc _ => true
  | .stim (.ev _) => true
  | .stim (.enable _) => true
  | .stim (.disable _) => true
  | .stim .nrebirth => true
  | .stim (.pub _ _ false _) => true
  | _ => false

def Runs (s s' : Eon.St) (obs : List Eon.Obs) : Prop :=
  ∃ acts, acts.all okAct = true ∧ Eon.runActs s acts = some (s', obs)

theorem Runs.refl (s : Eon.St) : Runs s s [] := ⟨[], rfl, rfl⟩

theorem Runs.trans {s s1 s2 : Eon.St} {o1 o2 : List Eon.Obs} (h1 : Runs s s1 o1) (h2 : Runs s1 s2 o2) :
    Runs s s2 (o1 ++ o2) := by
  obtain ⟨a, hka, ha⟩ := h1
  obtain ⟨b, hkb, hb⟩ := h2
  exact ⟨a ++ b, by rw [List.all_append, hka, hkb]; rfl, Eon.runActs_append ha hb⟩

theorem Runs.stim (s : Eon.St) (x : Eon.Stim) (hx : okAct (.stim x) = true := by rfl) :
    Runs s (Eon.applyStim s x).1 (Eon.applyStim s x).2 :=
  ⟨[.stim x], by rw [List.all_cons, hx]; rfl, by simp [Eon.runActs, Eon.runAct]⟩

theorem Runs.task {s s' : Eon.St} {o : List Eon.Obs} (t : Eon.Task) (h : (s', o) ∈ Eon.step s t .acc) : Runs s s' o := by
  obtain ⟨k, hk⟩ := List.getElem?_of_mem h
  exact ⟨[.task t .acc k], rfl, by simp [Eon.runActs, Eon.runAct, hk]⟩

theorem Runs.loop {s s' : Eon.St} {o : List Eon.Obs} (h : Eon.LoopStep s s' o) : Runs s s' o := Runs.task .loop h.mem
theorem Runs.node {s s' : Eon.St} {o : List Eon.Obs} (h : Eon.NodeStep s .acc s' o) : Runs s s' o := Runs.task .node h.mem
theorem Runs.dev {s s' : Eon.St} {o : List Eon.Obs} {u : Nat} (h : Eon.DevStep s u .acc s' o) : Runs s s' o :=
  Runs.task (.dev u) h.mem
theorem Runs.user {s s' : Eon.St} {o : List Eon.Obs} {j : Nat} (h : Eon.UserStep s j .acc s' o) : Runs s s' o :=
  Runs.task (.user j) h.mem

theorem Runs.event {s s' : Eon.St} {e : Eon.Ev} (hi : s.inbox = []) (hl : s.loop = .polling) (hh : Eon.LoopHandle s e s') :
    Runs s s' [.polled e.name] := by
  have h : ({ s with inbox := [] } : Eon.St) = s := by rw [← hi]
  exact (Runs.stim s (.ev e)).trans
    (Runs.loop (.polled e [] s' hl (show s.inbox ++ [e] = _ by rw [hi]; rfl) (h.symm ▸ hh)))

theorem reply_fresh {s s' : Eon.St} {o : Nat} {r : Option Nat} (h : ∀ p ∈ s.oneshots, p.1 < o)
    (hs : s'.oneshots = s.oneshots ++ [(o, r)]) : Eon.reply? s' o = some r := by
  rw [Eon.reply?_snoc hs (Eon.reply?_none_of_lt h), if_pos rfl]

def accept (s : Eon.St) (c : Eon.Call) : Eon.St := { s with calls := s.calls ++ [Eon.logged s c .acc] }

/- `Eon.setDev_split` yields some split of the list; the inductions over the device list (`birthPhase`,
`deathPhase`) need the split they carry, the same `pre` before and after the step: hence the positional forms. -/
theorem findUid_mid {pre post : List Eon.Dev} {x : Eon.Dev} (h : ∀ a ∈ pre, a.uid ≠ x.uid) :
    Eon.findUid x.uid (pre ++ x :: post) = some x := by
  induction pre with
  | nil => simp [Eon.findUid]
  | cons y t ih =>
    have hy : (y.uid == x.uid) = false := by simpa using h y (by simp)
    simp only [Eon.findUid, List.cons_append, List.find?_cons, hy]
    exact ih (fun a ha => h a (by simp [ha]))

theorem setDev_mid {pre post : List Eon.Dev} {x y : Eon.Dev} (h : ∀ a ∈ pre, a.uid ≠ x.uid) (hy : y.uid = x.uid) :
    Eon.setDev y (pre ++ x :: post) = pre ++ y :: post := by
  induction pre with
  | nil => simp [Eon.setDev, hy]
  | cons w t ih =>
    have hw : (w.uid == y.uid) = false := by rw [hy]; simpa using h w (by simp)
    simp only [List.cons_append, Eon.setDev, hw]
    simp [ih (fun a ha => h a (by simp [ha]))]

theorem pre_ne_of_nodup {α : Type} {f : Eon.Dev → α} {pre post : List Eon.Dev} {x : Eon.Dev}
    (h : ((pre ++ x :: post).map f).Nodup) : ∀ a ∈ pre, f a ≠ f x := by
  intro a ha
  simp only [List.map_append, List.map_cons, List.nodup_append, List.nodup_cons, List.mem_map, List.mem_cons] at h
  exact h.2.2 (f a) ⟨a, ha, rfl⟩ (f x) (Or.inl rfl)

theorem pushAll_quiet (m : Eon.NS) (l : List Eon.Dev) (h : ∀ x ∈ l, DevQuiet x) :
    Eon.pushAll m l = l.map (fun d => { d with nsq := [m] }) := by
  unfold Eon.pushAll
  apply List.map_congr_left
  intro d hd
  obtain ⟨h1, h2, _, _, h5⟩ := h d hd
  simp [h1, h2, h5]

theorem devDeath_quiet {s : Eon.St} {x : Eon.Dev} {dec : Eon.Dec} {pub : Bool} (h : x.flag = false ∨ pub = false ∨ s.online = false) :
    Eon.DevDeath s x pub false dec { s with devs := Eon.setDev { x with flag := false, pc := .idle } s.devs } [] := by
  cases hfl : x.flag with
  | false =>
    rw [show ({ x with flag := false, pc := .idle } : Eon.Dev) = { x with pc := .idle } by rw [← hfl]]
    exact .unbirthed hfl
  | true =>
    cases pub with
    | false => exact .silent hfl rfl
    | true => exact .noSeq _ hfl rfl (Eon.nextSeqIn_offline ((h.resolve_left (by simp [hfl])).resolve_left (by simp)))

section
variable {rb : Bool} {ts : Nat} {n : Node} {x : Dev}

theorem devBirth_do (ho : n.online = true) (hb : n.birthed = true) (he : x.enabled = true) (h : rb = true ∨ x.flag = false) :
    Node.devBirth rb ts n x =
      ({ n with seq := (n.seq + 1) % 256, nextId := n.nextId + 1 }, { x with flag := true },
       [.dbirth x.name ((n.seq + 1) % 256) ts n.nextId]) := by
  rcases h with h | h <;> simp [Node.devBirth, Node.nextSeq, ho, hb, he, h]

theorem devBirth_none (h : x.enabled = false ∨ (rb = false ∧ x.flag = true) ∨ n.online = false) :
    Node.devBirth rb ts n x = (n, x, []) := by
  rcases h with h | ⟨h1, h2⟩ | h
  · simp [Node.devBirth, h]
  · simp [Node.devBirth, h1, h2]
  · simp [Node.devBirth, Node.nextSeq, h]

theorem nodeBirth_eq {n n2 : Node} {ds : List Dev} {ms : List Msg}
    (h : Node.birthDevs rb ts { n with birthed := true, seq := 0, nextId := n.nextId + 1 } n.devs = (n2, ds, ms)) :
    Node.nodeBirth rb ts n = ({ n2 with devs := ds }, .nbirth ts n.bdseq n.nextId :: ms) := by
  unfold Node.nodeBirth
  simp only [h]

/-! ### the birth phase: every device task handles the `Birth` message of a node birth -/

/-- device `d` after `Device::birth` (a plain birth unless `rb`) in the node birth `ep`, the node online iff `on` -/
def born (rb on : Bool) (ep : Nat) (d : Eon.Dev) : Eon.Dev :=
  if d.enabled = true ∧ (rb = true ∨ d.flag = false) ∧ on = true then { d with flag := true, epoch := ep } else d

def btOf (rb : Bool) : Eon.BT := if rb then .rebirth else .birth

theorem btOf_birth {rb : Bool} {b : Bool} : (btOf rb = .birth → b = false) ↔ (rb = true ∨ b = false) := by
  cases rb <;> simp [btOf]

end

section
variable {rb on : Bool} {ep : Nat} {d : Eon.Dev}

theorem born_uid : (born rb on ep d).uid = d.uid := by unfold born; split <;> rfl
theorem born_name : (born rb on ep d).name = d.name := by unfold born; split <;> rfl

/-- a flag the birth leaves as it was stays justified if nothing it rests on has changed -/
theorem born_ok {ep0 : Nat} {on0 : Bool} (h : DevOk ep0 on0 d)
    (hfl : d.flag = true → (rb = true ∧ on = true) ∨ (ep0 = ep ∧ on0 = on)) : DevOk ep on (born rb on ep d) := by
  unfold born
  split
  · next hdo => exact ⟨h.1, fun _ => ⟨hdo.1, rfl, hdo.2.2⟩⟩
  · next hdo =>
    refine ⟨h.1, fun hf => ?_⟩
    obtain ⟨he, hep, hon⟩ := h.2 hf
    rcases hfl hf with ⟨h1, h2⟩ | ⟨h1, h2⟩
    · exact absurd ⟨he, .inl h1, h2⟩ hdo
    · exact ⟨he, h1 ▸ hep, h2 ▸ hon⟩

end

/-- the state after the task of device `x` has handed over its DBIRTH, it was accepted and the task has set the flag.
The `after…` states are named so that a chain of steps is compared with one flat record: records nested four
updates deep make unification slow -/
def afterDBirth (s : Eon.St) (x : Eon.Dev) : Eon.St :=
  { accept { s with seq := (s.seq + 1) % 256 } { kind := .dbirth, dev := some x.name, seq := some ((s.seq + 1) % 256), gFlag := x.flag } with
    devs := Eon.setDev { x with flag := true, epoch := s.epoch } s.devs }

/-- `Device::birth` against `Node.devBirth`, by whichever rule `hstep` the task of `u` reaches it (a `Birth` message,
`enable`): the task runs `devBirth` on its device `x`, idle and registered, and whichever rule of `devBirth` applies,
`Node.devBirth` does the same on `absDev x` -/
theorem devBirth_sim {s : Eon.St} {u : Nat} {x0 x : Eon.Dev} {rb on : Bool} {req : Option Nat} (ts : Nat) {n : Node}
    (hf : Eon.findUid u s.devs = some x0) (hu : x.uid = u)
    (hstep : ∀ {s' o}, Eon.DevBirth { s with devs := Eon.setDev x s.devs } x (btOf rb) req .acc s' o → Eon.DevStep s u .acc s' o)
    (hpc : x.pc = .idle) (hr : x.registered = true) (hreq : ∀ e, req = some e → e = s.epoch) (hon : s.online = on)
    (hno : n.online = s.online) (hnb : n.birthed = s.birthed) (hbo : s.birthed = s.online) (hseq : n.seq = s.seq) :
    ∃ k cs obs i ms, Runs s { s with seq := k, calls := cs, devs := Eon.setDev (born rb on s.epoch x) s.devs } obs ∧
      Node.devBirth rb ts n (absDev x) = ({ n with seq := k, nextId := i }, absDev (born rb on s.epoch x), ms) ∧
      projObs obs = ms.map projMsg := by
  obtain ⟨s', o, h⟩ := Eon.DevBirth.total { s with devs := Eon.setDev x s.devs } x (btOf rb) req .acc
  have hrun := Runs.dev (hstep h)
  -- the three rules that hand nothing over: one step, and `Node.devBirth` returns its arguments
  have skip (hrun : Runs s { s with devs := Eon.setDev x s.devs } [])
      (hn : x.enabled = false ∨ (rb = false ∧ x.flag = true) ∨ n.online = false) (hb : born rb on s.epoch x = x) :
      ∃ k cs obs i ms, Runs s { s with seq := k, calls := cs, devs := Eon.setDev (born rb on s.epoch x) s.devs } obs ∧
        Node.devBirth rb ts n (absDev x) = ({ n with seq := k, nextId := i }, absDev (born rb on s.epoch x), ms) ∧
        projObs obs = ms.map projMsg :=
    ⟨s.seq, s.calls, [], n.nextId, [], hb.symm ▸ hrun, by rw [hb, ← hseq]; exact devBirth_none hn, rfl⟩
  cases h with
  | disabled h =>
    have he : x.enabled = false := h.resolve_right (by simp [hr])
    exact skip hrun (.inl he) (if_neg (by simp [he]))
  | already he _ hb hfl =>
    have hrb : rb = false := by cases rb with | false => rfl | true => cases hb
    exact skip hrun (.inr (.inl ⟨hrb, hfl⟩)) (if_neg (by simp [hrb, hfl]))
  | noSeq e he _ hb hn =>
    have hoff : s.online = false := by
      rcases Eon.nextSeqIn_error hn with ⟨-, h⟩ | ⟨-, -, hb | ⟨ep, h1, h2⟩⟩
      · exact h
      · exact hbo.symm.trans hb
      · exact absurd (hreq ep h1) h2
    exact skip hrun (.inr (.inr (hno.trans hoff))) (if_neg (by simp [← hon, hoff]))
  | handed he _ hb ho hbi _ =>
    -- the DBIRTH is accepted; in a second step the task sets the flag
    have hdo := btOf_birth.1 hb
    have hy : born rb on s.epoch x = { x with flag := true, epoch := s.epoch } := if_pos ⟨he, hdo, hon ▸ ho⟩
    have h2 : Runs s (afterDBirth s x)
        [.bDev x.name, .call s.calls.length .dbirth (some x.name) (some ((s.seq + 1) % 256)) none false .acc] := by
      unfold afterDBirth
      rw [show ({ x with flag := true, epoch := s.epoch } : Eon.Dev) = { x with flag := true, epoch := s.epoch, pc := .idle } by
          rw [← hpc],
        ← show Eon.setDev { x with flag := true, epoch := s.epoch, pc := .idle }
            (Eon.setDev { x with flag := false, pc := .birthDone true s.epoch } (Eon.setDev x s.devs)) =
              Eon.setDev { x with flag := true, epoch := s.epoch, pc := .idle } s.devs by
          rw [Eon.setDev_setDev, Eon.setDev_setDev] <;> rfl]
      exact hrun.trans (Runs.dev (.birthOk { x with flag := false, pc := .birthDone true s.epoch } s.epoch
        (Eon.findUid_setDev (Eon.findUid_setDev hf hu) hu) rfl))
    rw [afterDBirth, ← hy] at h2
    exact ⟨_, _, _, n.nextId + 1, [.dbirth x.name ((n.seq + 1) % 256) ts n.nextId], h2,
      by rw [hy, devBirth_do (x := absDev x) (hno.trans ho) (hnb.trans hbi) he hdo, hseq]; rfl, by rw [hseq]; rfl⟩

/-- the task of the quiet device `d` handles the `Birth` message of a node birth -/
theorem birthOne (rb : Bool) (ts : Nat) {s : Eon.St} {n : Node} {d : Eon.Dev} (hq : DevQuiet d)
    (hf : Eon.findUid d.uid s.devs = some { d with nsq := [.birth (btOf rb) s.epoch] })
    (ho : s.online = true) (hb : s.birthed = true) (hno : n.online = true) (hnb : n.birthed = true) (hseq : n.seq = s.seq) :
    ∃ k cs obs i ms, Runs s { s with seq := k, calls := cs, devs := Eon.setDev (born rb true s.epoch d) s.devs } obs ∧
      Node.devBirth rb ts n (absDev d) = ({ n with seq := k, nextId := i }, absDev (born rb true s.epoch d), ms) ∧
      projObs obs = ms.map projMsg := by
  have := devBirth_sim (x := { d with nsq := [] }) ts hf rfl (fun h => .nsBirth _ _ _ [] hf hq.1 rfl h) hq.1 hq.2.2.2.2
    (fun e h => (Option.some.inj h).symm) ho (hno.trans ho.symm) (hnb.trans hb.symm) (hb.trans ho.symm) hseq
  rwa [show ({ d with nsq := [] } : Eon.Dev) = d by rw [← hq.2.1]] at this

theorem birthPhase (rb : Bool) (ts : Nat) : ∀ (l pre : List Eon.Dev) (s : Eon.St) (n : Node),
    s.devs = pre ++ l.map (fun d => { d with nsq := [.birth (btOf rb) s.epoch] }) →
    s.online = true → s.birthed = true → (∀ d ∈ l, DevQuiet d) → ((pre ++ l).map (·.uid)).Nodup →
    n.online = true → n.birthed = true → n.seq = s.seq →
    ∃ k cs obs i ms, Runs s { s with seq := k, calls := cs, devs := pre ++ l.map (born rb true s.epoch) } obs ∧
      Node.birthDevs rb ts n (l.map absDev) = ({ n with seq := k, nextId := i }, (l.map (born rb true s.epoch)).map absDev, ms) ∧
      projObs obs = ms.map projMsg := by
  intro l
  induction l with
  | nil =>
    intro pre s n hd _ _ _ _ _ _ hseq
    exact ⟨s.seq, s.calls, [], n.nextId, [], hd ▸ Runs.refl s, by rw [← hseq]; rfl, rfl⟩
  | cons d t ih =>
    intro pre s n hd ho hb hq hnd hno hnb hseq
    have hpre : ∀ a ∈ pre, a.uid ≠ d.uid := pre_ne_of_nodup hnd
    rw [List.map_cons] at hd
    obtain ⟨k1, c1, o1, i1, m1, hr1, ha1, hp1⟩ := birthOne rb ts (hq d (by simp))
      (hd ▸ findUid_mid (x := { d with nsq := [.birth (btOf rb) s.epoch] }) hpre) ho hb hno hnb hseq
    rw [hd, setDev_mid (x := { d with nsq := [.birth (btOf rb) s.epoch] }) (y := born rb true s.epoch d) hpre born_uid] at hr1
    obtain ⟨k, cs, obs, i, ms, hr, ha, hp⟩ := ih (pre ++ [born rb true s.epoch d])
      { s with seq := k1, calls := c1, devs := pre ++ born rb true s.epoch d :: t.map (fun d => { d with nsq := [.birth (btOf rb) s.epoch] }) }
      { n with seq := k1, nextId := i1 } (List.append_assoc pre [_] _).symm ho hb (fun y hy => hq y (by simp [hy]))
      (by simpa [born_uid] using hnd) hno hnb rfl
    rw [List.append_assoc] at hr
    refine ⟨k, cs, o1 ++ obs, i, m1 ++ ms, hr1.trans hr, ?_, by rw [projObs_append, hp1, hp, List.map_append]⟩
    simp only [List.map_cons, Node.birthDevs, ha1, ha]

/-- the state after `node_birth` (NBIRTH accepted) and `birth_devices` -/
def afterNBirth (s : Eon.St) (rb : Bool) (fc : Option Nat) : Eon.St :=
  { accept { s with birthed := false, seq := 0, epoch := s.epoch + 1 } { kind := .nbirth, seq := some 0, bd := some s.bdseq } with
    birthed := true, lastRebirthReq := fc.getD s.lastRebirthReq, node := .idle,
    devs := Eon.pushAll (.birth (btOf rb) (s.epoch + 1)) s.devs }

/-- the state after a complete node birth; `k` and `cs` are the sequence number and the call log it ends with -/
def afterBirth (s : Eon.St) (rb : Bool) (fc : Option Nat) (k : Nat) (cs : List Eon.Call) : Eon.St :=
  { s with birthed := true, seq := k, epoch := s.epoch + 1, calls := cs, lastRebirthReq := fc.getD s.lastRebirthReq,
           node := .idle, devs := s.devs.map (born rb true (s.epoch + 1)) }

theorem birthCore (rb : Bool) (fc : Option Nat) (i ts : Nat) (s : Eon.St)
    (hnode : s.node = .birthStart (btOf rb) fc) (hon : s.online = true) (hdq : ∀ x ∈ s.devs, DevQuiet x)
    (hu : (s.devs.map (·.uid)).Nodup) :
    ∃ k cs obs, Runs s (afterBirth s rb fc k cs) obs ∧
      ∃ j, (Node.nodeBirth rb ts (absNode i s)).1 =
          { absNode i s with birthed := true, seq := k, nextId := j, devs := (s.devs.map (born rb true (s.epoch + 1))).map absDev } ∧
      projObs obs = (Node.nodeBirth rb ts (absNode i s)).2.map projMsg := by
  have h12 : Runs s (afterNBirth s rb fc) _ :=
    (Runs.node (.birthStart _ _ hnode)).trans (Runs.node (.nbOk _ _ rfl))
  obtain ⟨k, cs, obs, j, ms, h3, ha, hp⟩ := birthPhase rb ts s.devs [] (afterNBirth s rb fc)
    { absNode i s with birthed := true, seq := 0, nextId := i + 1 } (pushAll_quiet _ _ hdq) hon rfl hdq hu hon rfl rfl
  rw [nodeBirth_eq (n := absNode i s) ha]
  exact ⟨k, cs, _, h12.trans h3, j, rfl, by rw [projObs_append, hp]; rfl⟩

/-! ### the operations -/

def Refines (s : Eon.St) (r : Node × List H) : Prop :=
  ∃ s' obs, Runs s s' obs ∧ Quiescent s' ∧ Wf s' ∧ absNode r.1.nextId s' = r.1 ∧ projObs obs = r.2

theorem Refines.mk {s s' : Eon.St} {obs : List Eon.Obs} {r : Node × List H} (hr : Runs s s' obs) (hok : Quiescent s' ∧ Wf s')
    (ha : absNode r.1.nextId s' = r.1) (hp : projObs obs = r.2) : Refines s r :=
  ⟨s', obs, hr, hok.1, hok.2, ha, hp⟩

/-- an operation that finds nothing to do: the run from `s` to `s'` hands nothing over and changes neither the devices
nor what `absNode` reads -/
theorem Refines.noop {i : Nat} {s s' : Eon.St} {obs : List Eon.Obs} (hq : Quiescent s) (hw : Wf s) (hr : Runs s s' obs)
    (hp : projObs obs = []) (hctl : Ctl s') (hcfg : Cfg s') (ha : absNode i s' = absNode i s) (hd : s'.devs = s.devs)
    (he : s'.epoch = s.epoch) : Refines s (absNode i s, []) := by
  have ho : s'.online = s.online := congrArg Node.online ha
  have hb : s'.birthed = s.birthed := congrArg Node.birthed ha
  exact .mk hr (ok_of_devs hw hctl hcfg (by rw [ho, hb]; exact hw.bo) (by rw [hd]) (by rw [hd])
    (by rw [hd, he, ho]; exact devOk hq hw)) ha hp

/-- the state after `Online` has been polled and forwarded and the subscriptions were accepted -/
def afterSub (s : Eon.St) : Eon.St :=
  { accept { s with loop := .polling, cs := none, online := true } { kind := .sub } with node := .birthStart .birth none }

/-- `Online`, a manual rebirth and an NCMD rebirth meet here: from the quiescent `s` the node task has reached
`node_birth` in `s0`, handing nothing over on the way and leaving the devices alone -/
theorem birth_from (rb : Bool) (i ts : Nat) (fc : Option Nat) {s s0 : Eon.St} {o0 : List Eon.Obs} (hq : Quiescent s) (hw : Wf s)
    (hfl : ∀ d ∈ s.devs, d.flag = true → rb = true) (hr : Runs s s0 o0) (hp0 : projObs o0 = [])
    (hn : s0.node = .birthStart (btOf rb) fc) (ho : s0.online = true) (hctl : Ctl { s0 with node := .idle }) (hcfg : Cfg s0)
    (hd : s0.devs = s.devs) :
    Refines s ((Node.nodeBirth rb ts (absNode i s0)).1, (Node.nodeBirth rb ts (absNode i s0)).2.map projMsg) := by
  obtain ⟨k, cs, obs, r, j, ha, hp⟩ := birthCore rb fc i ts s0 hn ho (hd ▸ hq.devs) (hd ▸ hw.uids)
  rw [ha]
  refine .mk (s' := afterBirth s0 rb fc k cs) (hr.trans r)
    (ok_of_devs hw { hctl with node := rfl } { hcfg with } ho.symm ?_ ?_ ?_) rfl (by rw [projObs_append, hp0, hp]; rfl)
  · show (s0.devs.map _).map _ = _
    rw [hd, List.map_map, List.map_congr_left (g := (·.uid)) fun d _ => born_uid]
  · show (s0.devs.map _).map _ = _
    rw [hd, List.map_map, List.map_congr_left (g := (·.name)) fun d _ => born_name]
  · intro y hy
    obtain ⟨d, hd', rfl⟩ := List.mem_map.1 hy
    show DevOk _ s0.online _
    rw [ho]
    exact born_ok (devOk hq hw d (hd ▸ hd')) fun hf => .inl ⟨hfl d (hd ▸ hd') hf, rfl⟩

theorem online_refines (i ts : Nat) (s : Eon.St) (hq : Quiescent s) (hw : Wf s) :
    Refines s ((Node.goOnline ts (absNode i s)).1, (Node.goOnline ts (absNode i s)).2.map projMsg) := by
  have hc := hq.ctl
  have r2 := (Runs.event hc.inbox hc.loop (.online hc.cs)).trans (Runs.loop (.poll rfl))
  cases ho : s.online with
  | true =>
    have ha : Node.goOnline ts (absNode i s) = (absNode i s, []) := by simp [Node.goOnline, absNode, ho]
    rw [ha]
    exact .noop hq hw (r2.trans (Runs.node (.onlineDup hc.node rfl hc.stopping ho))) rfl
      { hc with loop := rfl, cs := rfl }
      { hw.cfg with } (by simp only [absNode, ho]) rfl rfl
  | false =>
    have hg : Node.goOnline ts (absNode i s) = Node.nodeBirth false ts (absNode i (afterSub s)) := by
      simp [Node.goOnline, absNode, ho, afterSub, accept]
    rw [hg]
    exact birth_from false i ts none hq hw (fun d hd hf => absurd hf (by simp [hw.offline ho d hd]))
      ((r2.trans (Runs.node (.onlineSub hc.node rfl hc.stopping ho))).trans (Runs.node (.subOk rfl))) rfl rfl rfl
      { hc with loop := rfl, cs := rfl, node := rfl }
      { hw.cfg with } rfl

/-- manual rebirth and NCMD rebirth: `birth_from` for a birthed `s` whose abstraction the way to `s0` has not changed -/
theorem rebirth_from (i ts : Nat) (fc : Option Nat) {s s0 : Eon.St} {o0 : List Eon.Obs} (hq : Quiescent s) (hw : Wf s)
    (hb : s.birthed = true) (hr : Runs s s0 o0) (hp0 : projObs o0 = []) (hn : s0.node = .birthStart .rebirth fc)
    (hctl : Ctl { s0 with node := .idle }) (hcfg : Cfg s0) (habs : absNode i s0 = absNode i s)
    (hd : s0.devs = s.devs) :
    Refines s ((Node.rebirth ts (absNode i s)).1, (Node.rebirth ts (absNode i s)).2.map projMsg) := by
  have hg : Node.rebirth ts (absNode i s) = Node.nodeBirth true ts (absNode i s0) := by
    rw [habs]; simp [Node.rebirth, absNode, hb]
  rw [hg]
  exact birth_from true i ts fc hq hw (fun _ _ _ => rfl) hr hp0 hn
    ((congrArg Node.online habs).trans (hw.bo.symm.trans hb)) hctl hcfg hd

theorem rebirth_refines (i ts : Nat) (s : Eon.St) (hq : Quiescent s) (hw : Wf s) :
    Refines s ((Node.rebirth ts (absNode i s)).1, (Node.rebirth ts (absNode i s)).2.map projMsg) := by
  have hc := hq.ctl
  have r1 := Runs.stim s .nrebirth
  cases hb : s.birthed with
  | false =>
    have ha : Node.rebirth ts (absNode i s) = (absNode i s, []) := by simp [Node.rebirth, absNode, hb]
    rw [ha]
    exact .noop hq hw (r1.trans (Runs.node (.rebirthReqDrop hc.node hc.cs rfl hb))) rfl
      { hc with rebirthQ := rfl }
      { hw.cfg with } rfl rfl rfl
  | true =>
    exact rebirth_from i ts none hq hw hb (r1.trans (Runs.node (.rebirthReq hc.node hc.cs rfl hb))) rfl rfl
      { hc with rebirthQ := rfl, node := rfl }
      { hw.cfg with } rfl rfl

theorem ncmd_refines (i ts : Nat) (s : Eon.St) (hq : Quiescent s) (hw : Wf s) :
    Refines s ((Node.rebirth ts (absNode i s)).1, (Node.rebirth ts (absNode i s)).2.map projMsg) := by
  have hc := hq.ctl
  have hcd : ¬ s.wall - s.lastRebirthReq < s.cooldown := by rw [hw.cfg.cooldown]; exact Nat.not_lt_zero _
  have r3 := ((Runs.event hc.inbox hc.loop (.ncmd true true)).trans (Runs.loop (.poll rfl))).trans
    (Runs.node (.ncmd true [] hc.node hc.cs hc.rebirthQ (show s.msgQ ++ [(true, true)] = _ by rw [hc.msgQ]; rfl)))
  cases hb : s.birthed with
  | false =>
    have ha : Node.rebirth ts (absNode i s) = (absNode i s, []) := by simp [Node.rebirth, absNode, hb]
    rw [ha]
    exact .noop hq hw (r3.trans (Runs.node (.cbUnbirthed rfl hw.cfg.cbPark hcd hb))) rfl
      { hc with loop := rfl, msgQ := rfl, node := rfl }
      { hw.cfg with } rfl rfl rfl
  | true =>
    exact rebirth_from i ts (some s.wall) hq hw hb (r3.trans (Runs.node (.cbRebirth rfl hw.cfg.cbPark hcd hb))) rfl rfl
      { hc with loop := rfl, msgQ := rfl, node := rfl }
      { hw.cfg with } rfl rfl

theorem deathOne {s : Eon.St} {d : Eon.Dev} (hq : DevQuiet d) (hf : Eon.findUid d.uid s.devs = some { d with nsq := [.death] }) :
    Runs s { s with devs := Eon.setDev { d with flag := false } s.devs } [] := by
  have r : Runs s { s with devs := Eon.setDev { d with nsq := [], flag := false, pc := .idle } (Eon.setDev { d with nsq := [] } s.devs) } [] :=
    Runs.dev (.nsDeath _ [] hf hq.1 rfl (devDeath_quiet (.inr (.inl rfl))))
  rw [Eon.setDev_setDev, ← hq.2.1, ← hq.1] at r
  · exact r
  · rfl

theorem deathPhase : ∀ (l pre : List Eon.Dev) (s : Eon.St),
    s.devs = pre ++ l.map (fun d => { d with nsq := [.death] }) → (∀ d ∈ l, DevQuiet d) → ((pre ++ l).map (·.uid)).Nodup →
    Runs s { s with devs := pre ++ l.map (fun d => { d with flag := false }) } [] := by
  intro l
  induction l with
  | nil => intro pre s hd _ _; exact hd ▸ Runs.refl s
  | cons d t ih =>
    intro pre s hd hq hnd
    have hpre : ∀ a ∈ pre, a.uid ≠ d.uid := pre_ne_of_nodup hnd
    rw [List.map_cons] at hd
    have r1 := deathOne (hq d (by simp)) (hd ▸ findUid_mid (x := { d with nsq := [.death] }) hpre)
    rw [hd, setDev_mid (x := { d with nsq := [.death] }) (y := { d with flag := false }) hpre rfl] at r1
    have r2 := ih (pre ++ [{ d with flag := false }])
      { s with devs := pre ++ { d with flag := false } :: t.map (fun d => { d with nsq := [.death] }) }
      (List.append_assoc pre [_] _).symm (fun y hy => hq y (by simp [hy]))
      (by simpa using hnd)
    rw [List.append_assoc] at r2
    exact r1.trans r2

/-- the state after the connection loss has been processed by the event loop and the node task (new will
registered, the event loop back in `poll`); `ds` is the device list -/
def afterOffline (s : Eon.St) (ds : List Eon.Dev) : Eon.St :=
  { s with online := false, birthed := false, bdseq := (s.bdseq + 1) % 256, will := some ((s.bdseq + 1) % 256),
           loop := .polling, cs := none, nextOneshot := s.nextOneshot + 1,
           oneshots := s.oneshots ++ [(s.nextOneshot, some ((s.bdseq + 1) % 256))], devs := ds }

/-- `goOffline`, with the new will (if any) as the only hand-over -/
def offlineOut (n : Node) : Node × List H :=
  (n.goOffline.1, match n.goOffline.2 with | some bd => [.will bd] | none => [])

theorem offline_refines (i : Nat) (s : Eon.St) (hq : Quiescent s) (hw : Wf s) :
    Refines s (offlineOut (absNode i s)) := by
  have hc := hq.ctl
  have r1 := Runs.event hc.inbox hc.loop (.offline hc.cs)
  have hone : ∀ r, ∀ p ∈ s.oneshots ++ [(s.nextOneshot, r)], p.1 < s.nextOneshot + 1 := by
    intro r p hp
    rcases List.mem_append.1 hp with hp | hp
    · exact Nat.lt_succ_of_lt (hw.cfg.oneshots p hp)
    · cases List.mem_singleton.1 hp; exact Nat.lt_succ_self _
  cases ho : s.online with
  | false =>
    have r4 := ((r1.trans (Runs.node (.offlineDup _ hc.node rfl ho))).trans
      (Runs.loop (.willDropped _ rfl (reply_fresh hw.cfg.oneshots rfl)))).trans (Runs.loop (.poll rfl))
    have ha : offlineOut (absNode i s) = (absNode i s, []) := by simp [offlineOut, Node.goOffline, absNode, ho]
    rw [ha]
    exact .noop hq hw r4 rfl
      { hc with loop := rfl, cs := rfl }
      { hw.cfg with oneshots := hone none } rfl rfl rfl
  | true =>
    have r4 : Runs s (afterOffline s (Eon.pushAll .death s.devs)) _ :=
      ((r1.trans (Runs.node (.offline _ hc.node rfl ho))).trans
        (Runs.loop (.will _ _ rfl (reply_fresh hw.cfg.oneshots rfl)))).trans (Runs.loop (.poll rfl))
    have r5 : Runs s (afterOffline s (s.devs.map fun d => { d with flag := false })) _ :=
      r4.trans (deathPhase s.devs [] (afterOffline s _) (pushAll_quiet .death s.devs hq.devs) hq.devs hw.uids)
    have ha : offlineOut (absNode i s) =
        ({ absNode i s with online := false, birthed := false, bdseq := (s.bdseq + 1) % 256,
                            devs := (s.devs.map fun d => { d with flag := false }).map absDev }, [.will ((s.bdseq + 1) % 256)]) := by
      simp [offlineOut, Node.goOffline, absNode, ho, absDev, Function.comp_def]
    rw [ha]
    refine .mk r5 (ok_of_devs hw { hc with loop := rfl, cs := rfl } { hw.cfg with oneshots := hone _ } rfl ?_ ?_ ?_) rfl rfl
    · show (s.devs.map _).map _ = _
      rw [List.map_map]; rfl
    · show (s.devs.map _).map _ = _
      rw [List.map_map]; rfl
    · intro y hy
      obtain ⟨d, hd, rfl⟩ := List.mem_map.1 hy
      exact ⟨hq.devs d hd, nofun⟩

def freshJ (s : Eon.St) : Nat := (s.ucalls.map (·.j)).foldr max 0 + 1

theorem freshJ_fresh (s : Eon.St) : ∀ u ∈ s.ucalls, u.j ≠ freshJ s := by
  have : ∀ (l : List Nat), ∀ x ∈ l, x ≤ l.foldr max 0 := by
    intro l
    induction l with
    | nil => simp
    | cons y t ih =>
      intro x hx
      rcases List.mem_cons.1 hx with rfl | hx
      · exact Nat.le_max_left ..
      · exact Nat.le_trans (ih x hx) (Nat.le_max_right ..)
  intro u hu
  have := this (s.ucalls.map (·.j)) u.j (List.mem_map_of_mem hu)
  unfold freshJ; omega

theorem find_fresh (l : List Eon.UCall) (u : Eon.UCall) (h : ∀ v ∈ l, v.j ≠ u.j) :
    (l ++ [u]).find? (fun v => v.j == u.j) = some u := by
  induction l with
  | nil => simp
  | cons y t ih =>
    have hy : (y.j == u.j) = false := by simpa using h y (by simp)
    simp only [List.cons_append, List.find?_cons, hy]
    exact ih (fun v hv => h v (by simp [hv]))

theorem setUCall_fresh (l : List Eon.UCall) (u u' : Eon.UCall) (h : ∀ v ∈ l, v.j ≠ u.j) (hj : u'.j = u.j) :
    Eon.setUCall u' (l ++ [u]) = l ++ [u'] := by
  induction l with
  | nil => simp [Eon.setUCall, hj]
  | cons y t ih =>
    have hy : ¬ y.j = u'.j := by rw [hj]; exact h y (by simp)
    simp only [List.cons_append, Eon.setUCall, beq_iff_eq, hy]
    simp [ih (fun v hv => h v (by simp [hv]))]

/-- a blocking publish on target `t`: the call is made under an unused id and its task runs its one step,
which ends the call and leaves sequence number `k` and call log `cs` -/
theorem pub_refines {s : Eon.St} (hq : Quiescent s) (hw : Wf s) (t : Eon.PubTarget) (r : Node × List H)
    (h : ∀ j (u : Eon.UCall) (S : Eon.St), u = { j := j, kind := .pub t false 1 } → S = { s with ucalls := s.ucalls ++ [u] } →
      S.ucalls.find? (·.j == j) = some u →
      ∃ k cs o, Eon.UserStep S j .acc { S with seq := k, calls := cs, ucalls := Eon.setUCall { u with pc := .done } S.ucalls } o ∧
        absNode r.1.nextId { s with seq := k } = r.1 ∧ projObs o = r.2) :
    Refines s r := by
  have hf := freshJ_fresh s
  generalize freshJ s = j at hf
  obtain ⟨k, cs, o, hstep, ha, hp⟩ := h j _ _ rfl rfl (find_fresh s.ucalls { j := j, kind := .pub t false 1 } hf)
  replace hstep : Eon.UserStep _ j .acc { s with seq := k, calls := cs, ucalls := Eon.setUCall _ (s.ucalls ++ [_]) } o := hstep
  rw [setUCall_fresh s.ucalls { j := j, kind := .pub t false 1 } { j := j, kind := .pub t false 1, pc := .done } hf rfl] at hstep
  have hc := hq.ctl
  refine .mk ((Runs.stim s (.pub j t false 1)).trans (Runs.user hstep))
    (ok_of_devs hw { hc with ucalls := ?_ } { hw.cfg with } hw.bo rfl rfl (devOk (s := s) hq hw)) ha hp
  intro v hv
  rcases List.mem_append.1 hv with hv | hv
  · exact hc.ucalls v hv
  · cases List.mem_singleton.1 hv; rfl

theorem pubNode_refines (i ts : Nat) (s : Eon.St) (hq : Quiescent s) (hw : Wf s) :
    Refines s ((Node.pubNode ts (absNode i s)).1, (Node.pubNode ts (absNode i s)).2.map projMsg) := by
  apply pub_refines hq hw .node
  rintro j u S rfl rfl hf
  rcases Bool.eq_false_or_eq_true s.online with ho | ho
  · have hb : s.birthed = true := hw.bo.trans ho
    refine ⟨_, _, _, .pubNode _ false 1 hf rfl rfl (by decide) ho hb, ?_, ?_⟩ <;>
      simp [Node.pubNode, Node.nextSeq, absNode, ho, hb, projObs, projMsg]
  · refine ⟨s.seq, s.calls, _, .pubRefused _ .node false 1 .offline hf rfl rfl (by decide) ?_, ?_, ?_⟩
    · simp [Eon.pubGate, Eon.nextSeq, Eon.nextSeqIn_offline, ho, Except.map]
    all_goals simp [Node.pubNode, Node.nextSeq, absNode, ho, projObs]

theorem findDev_quiet (d : Nat) (l : List Eon.Dev) (h : ∀ x ∈ l, DevQuiet x) :
    Eon.findDev d l = l.find? (fun x => x.name == d) := by
  have hc : l.find? (fun x => x.name == d && x.registered && x.pc != .done) = l.find? (fun x => x.name == d) := by
    induction l with
    | nil => rfl
    | cons y t ih =>
      obtain ⟨h1, _, _, _, h5⟩ := h y (by simp)
      simp only [List.find?_cons, h1, h5]
      rw [ih (fun x hx => h x (by simp [hx]))]
      have : (Eon.DevPc.idle != Eon.DevPc.done) = true := by decide
      simp [this]
  unfold Eon.findDev
  rw [hc]
  cases hf : l.find? (fun x => x.name == d) with
  | some x => rfl
  | none =>
    simp only
    rw [List.find?_eq_none] at hf ⊢
    intro x hx
    have := hf x (List.mem_reverse.mp hx)
    simp_all

theorem loop_findDev (i : Nat) (s : Eon.St) (d : Nat) :
    (absNode i s).findDev d = (s.devs.find? (fun x => x.name == d)).map absDev := by
  simp [Node.findDev, absNode, List.find?_map, Function.comp_def, absDev]

theorem pubDev_refines (d i ts : Nat) (s : Eon.St) (hq : Quiescent s) (hw : Wf s) :
    Refines s ((Node.pubDev d ts (absNode i s)).1, (Node.pubDev d ts (absNode i s)).2.map projMsg) := by
  apply pub_refines hq hw (.dev d)
  intro j u S hu hS hf
  have hk : u.kind = .pub (.dev d) false 1 := by rw [hu]
  have hpc : u.pc = .start := by rw [hu]
  have hfdq : Eon.findDev d S.devs = s.devs.find? (fun x => x.name == d) := by rw [hS]; exact findDev_quiet d s.devs hq.devs
  unfold Node.pubDev
  rw [loop_findDev]
  -- the gate refuses with `e`: nothing changes, nothing is handed over
  have hfail : ∀ e, Eon.pubGate S (.dev d) = .error e → ∀ r : Node × List H, r = (absNode i s, []) →
      ∃ k cs o, Eon.UserStep S j .acc { S with seq := k, calls := cs, ucalls := Eon.setUCall { u with pc := .done } S.ucalls } o ∧
        absNode r.1.nextId { s with seq := k } = r.1 ∧ projObs o = r.2 := by
    intro e he r hr
    subst hr
    exact ⟨S.seq, S.calls, [.ures j e], .pubRefused u (.dev d) false 1 e hf hk hpc (by decide) he, by rw [hS]; rfl, rfl⟩
  cases hfx : s.devs.find? (fun x => x.name == d) with
  | none => exact hfail .unbirthed (by simp [Eon.pubGate, hfdq, hfx]) _ rfl
  | some x =>
    rw [hfx] at hfdq
    cases hfl : x.flag with
    | false => exact hfail .unbirthed (by simp [Eon.pubGate, hfdq, hfl]) _ (by simp [absDev, hfl])
    | true =>
      rcases Bool.eq_false_or_eq_true s.online with ho | ho
      · have hb : s.birthed = true := hw.bo.trans ho
        have hep := (hw.flags x (List.mem_of_find?_eq_some hfx) hfl).2
        subst hS
        refine ⟨_, _, _, .pubDev u d false 1 x hf hk hpc (by decide) ho hb ⟨hfdq, hfl, hep⟩, ?_, ?_⟩ <;>
          simp [absDev, hfl, Node.nextSeq, absNode, ho, hb, projObs, projMsg]
      · have hoS : S.online = false := by rw [hS]; exact ho
        exact hfail .offline (by simp [Eon.pubGate, hfdq, hfl, Eon.nextSeqIn_offline hoS, Except.map]) _
          (by simp [absDev, hfl, Node.nextSeq, absNode, ho])

theorem loop_setDev_abs (pre post : List Eon.Dev) (x : Eon.Dev) (y : Dev) (hpn : ∀ a ∈ pre, a.name ≠ x.name) (hy : y.name = x.name) :
    Node.setDev y ((pre ++ x :: post).map absDev) = pre.map absDev ++ y :: post.map absDev := by
  induction pre with
  | nil => simp [Node.setDev, absDev, hy]
  | cons w t ih =>
    have hw : ((absDev w).name == y.name) = false := by rw [hy]; simpa [absDev] using hpn w (by simp)
    simp only [List.cons_append, List.map_cons, Node.setDev, hw]
    rw [ih (fun a ha => hpn a (by simp [ha]))]; rfl

theorem setDev_abs {l : List Eon.Dev} {x y : Eon.Dev} (hnd : (l.map (·.name)).Nodup) (hf : Eon.findUid y.uid l = some x)
    (hn : y.name = x.name) : (Eon.setDev y l).map absDev = Node.setDev (absDev y) (l.map absDev) := by
  obtain ⟨pre, post, rfl, h⟩ := Eon.setDev_split hf y rfl
  rw [h, loop_setDev_abs pre post x _ (pre_ne_of_nodup hnd) hn]; simp

/-- a request `rq` through the handle of device `d` (stimulus `stim`): if the device is known, its task, started in the
state `S` with the request queued, runs to a state in which only `seq`, the call log and the device (now `y`) differ -/
theorem handle_refines (d i : Nat) {s : Eon.St} (hq : Quiescent s) (hw : Wf s) (stim : Eon.Stim) (rq : Eon.HR)
    (hok : okAct (.stim stim) = true)
    (hstim : ∀ s : Eon.St, Eon.applyStim s stim =
      match Eon.findDev d s.devs with
      | some x => ({ s with devs := Eon.setDev { x with hq := x.hq ++ [rq] } s.devs }, [])
      | none => (s, []))
    (r : Node × List H) (hnone : s.devs.find? (fun x => x.name == d) = none → r = (absNode i s, []))
    (hsome : ∀ x S, s.devs.find? (fun x => x.name == d) = some x → DevOk s.epoch s.online x →
      S = { s with devs := Eon.setDev { x with hq := [rq] } s.devs } → Eon.findUid x.uid S.devs = some { x with hq := [rq] } →
      ∃ y k cs o j, Runs S { S with seq := k, calls := cs, devs := Eon.setDev y S.devs } o ∧
        y.uid = x.uid ∧ y.name = x.name ∧ DevOk s.epoch s.online y ∧
        r = ({ absNode i s with seq := k, nextId := j, devs := Node.setDev (absDev y) (absNode i s).devs }, projObs o)) :
    Refines s r := by
  have r1 := Runs.stim s stim hok
  rw [hstim, findDev_quiet d s.devs hq.devs] at r1
  cases hfind : s.devs.find? (fun x => x.name == d) with
  | none =>
    rw [hfind] at r1
    exact hnone hfind ▸ ⟨s, [], r1, hq, hw, rfl, rfl⟩
  | some x =>
    simp only [hfind] at r1
    have hxm := List.mem_of_find?_eq_some hfind
    have hf0 := Eon.findUid_of_mem hw.uids hxm
    rw [(hq.devs x hxm).2.2.1] at r1
    obtain ⟨y, k, cs, o, j, r2, hu, hn, hy, rfl⟩ := hsome x _ hfind (devOk hq hw x hxm) rfl
      (Eon.findUid_setDev (x' := { x with hq := [rq] }) hf0 rfl)
    rw [show Eon.setDev y (Eon.setDev { x with hq := [rq] } s.devs) = Eon.setDev y s.devs from
      Eon.setDev_setDev _ _ _ hu.symm] at r2
    exact .mk (s' := { s with seq := k, calls := cs, devs := Eon.setDev y s.devs }) (r1.trans r2)
      (ok_of_devs hw { hq.ctl with } { hw.cfg with } hw.bo (Eon.setDev_map_uid ..) (Eon.setDev_map_name (hu ▸ hf0) rfl hn)
        (Eon.forall_setDev (devOk hq hw) hy))
      (congrArg (fun ds => ({ absNode i s with seq := k, nextId := j, devs := ds } : Node))
        (setDev_abs hw.names (hu ▸ hf0) hn)) rfl

theorem enable_refines (d i ts : Nat) (s : Eon.St) (hq : Quiescent s) (hw : Wf s) :
    Refines s ((Node.enable d ts (absNode i s)).1, (Node.enable d ts (absNode i s)).2.map projMsg) := by
  refine handle_refines d i hq hw (.enable d) .enable rfl (fun _ => rfl) _ ?_ ?_ <;> unfold Node.enable <;> rw [loop_findDev]
  · intro h; rw [h]; rfl
  · rintro x S hfind ⟨⟨hpc, hnsq, hhq, hmq, hreg⟩, hxf⟩ rfl hf
    rw [hfind, Option.map_some]
    obtain ⟨k, cs, o, j, ms, hrun, habs, hp⟩ := devBirth_sim (rb := false) (req := none) (x := { x with hq := [], enabled := true })
      ts (n := absNode i s) hf rfl (fun h => .enable _ [] hf hpc hnsq rfl h) hpc hreg nofun rfl rfl rfl hw.bo rfl
    refine ⟨_, k, cs, o, j, hrun, born_uid, born_name,
      born_ok ⟨⟨hpc, hnsq, rfl, hmq, hreg⟩, fun hf => ⟨rfl, (hxf hf).2⟩⟩ (fun _ => .inr ⟨rfl, rfl⟩), ?_⟩
    rw [show absDev { x with hq := [], enabled := true } = { absDev x with enabled := true } from rfl] at habs
    simp only [habs, hp]

theorem disable_refines (d i ts : Nat) (s : Eon.St) (hq : Quiescent s) (hw : Wf s) :
    Refines s ((Node.disable d ts (absNode i s)).1, (Node.disable d ts (absNode i s)).2.map projMsg) := by
  refine handle_refines d i hq hw (.disable d) .disable rfl (fun _ => rfl) _ ?_ ?_ <;> unfold Node.disable <;> rw [loop_findDev]
  · intro h; rw [h]; rfl
  · rintro x S hfind ⟨⟨hpc, hnsq, hhq, hmq, hreg⟩, hxf⟩ hS hf
    rw [hfind, Option.map_some]
    have hname : x.name = d := by simpa using List.find?_some hfind
    have hstep : ∀ {s' o}, Eon.DevDeath _ { x with hq := [], enabled := false } true false .acc s' o → Eon.DevStep S x.uid .acc s' o :=
      fun h => .disable _ [] hf hpc hnsq rfl h
    have hy : DevOk s.epoch s.online { x with hq := [], enabled := false, flag := false, pc := .idle } :=
      ⟨⟨rfl, hnsq, rfl, hmq, hreg⟩, nofun⟩
    by_cases hdo : x.flag = true ∧ s.online = true
    · have hb : s.birthed = true := hw.bo.trans hdo.2
      have r := Runs.dev (hstep (Eon.DevDeath.handed (s := { S with devs := _ }) (x := { x with hq := [], enabled := false })
        hdo.1 rfl (hS ▸ hdo.2) (hS ▸ hb) (hS ▸ (hxf hdo.1).2.1)))
      subst hS
      rw [Eon.setDev_setDev { x with hq := [], enabled := false } _ _ (by rfl)] at r
      refine ⟨{ x with hq := [], enabled := false, flag := false, pc := .idle }, _, _, _, i + 1, r, rfl, rfl, hy, ?_⟩
      simp [absDev, hdo.1, Node.nextSeq, absNode, hdo.2, hb, projObs, projMsg, hname]
    · have hskip : x.flag = false ∨ s.online = false := by
        cases hf : x.flag with
        | false => exact .inl rfl
        | true => exact .inr (Bool.eq_false_iff.2 fun ho => hdo ⟨hf, ho⟩)
      have r := Runs.dev (hstep (devDeath_quiet (s := { S with devs := _ }) (x := { x with hq := [], enabled := false })
        (hskip.imp_right fun h => .inr (hS ▸ h))))
      subst hS
      rw [Eon.setDev_setDev { x with hq := [], enabled := false } _ _ (by rfl)] at r
      refine ⟨{ x with hq := [], enabled := false, flag := false, pc := .idle }, s.seq, s.calls, _, i, r, rfl, rfl, hy, ?_⟩
      rcases hskip with hf | ho
      · simp [absDev, hf, absNode]
      · cases hf : x.flag <;> simp [absDev, hf, absNode, Node.nextSeq, ho]

/-! ### quiescent states are stuck; the freshly built node -/

theorem quiescent_stuck (s : Eon.St) (hq : Quiescent s) (t : Eon.Task) (dec : Eon.Dec) : Eon.step s t dec = [] := by
  obtain ⟨⟨hi, hl, hcs, hrq, hm, hst, -, hn, hu⟩, hd⟩ := hq
  refine List.eq_nil_iff_forall_not_mem.2 fun ⟨s', o⟩ hr => ?_
  cases t with
  | loop =>
    -- the event loop is in `poll`: only a stop request or an event could wake it
    cases Eon.LoopStep.of_mem hr <;> simp_all only [reduceCtorEq, or_self]
  | loopTimeout =>
    cases Eon.TimeoutStep.of_mem hr with
    | force _ _ _ hp | forceBusy _ _ _ _ hp => simp only [Eon.PollingOffline, hl, reduceCtorEq, exists_false, or_self] at hp
  | node =>
    -- the node task is idle and all three channels it selects on are empty
    cases Eon.NodeStep.of_mem hr <;> simp_all only [reduceCtorEq]
  | dev u =>
    cases Eon.DevStep.of_mem hr <;>
      (obtain ⟨h1, h2, h3, h4, -⟩ := hd _ (Eon.findUid_some ‹Eon.findUid u s.devs = some _›).1; simp_all only [reduceCtorEq])
  | user j =>
    cases Eon.UserStep.of_mem hr <;>
      (have := hu _ (List.mem_of_find?_eq_some ‹s.ucalls.find? _ = some _›); simp_all only [reduceCtorEq])

/-- the device records that registering `names` one after the other appends to a map of `k` devices -/
def regDevs (k : Nat) (names : List Nat) : List Eon.Dev := (names.zipIdx k).map fun p => { uid := p.2, name := p.1 }

theorem regDevs_cons (k d : Nat) (t : List Nat) : regDevs k (d :: t) = { uid := k, name := d } :: regDevs (k + 1) t := by
  simp [regDevs, List.zipIdx_cons]

theorem regDevs_names (k : Nat) (names : List Nat) : (regDevs k names).map (·.name) = names := by
  simp [regDevs, Function.comp_def]

theorem regDevs_uids (k : Nat) (names : List Nat) : (regDevs k names).map (·.uid) = List.range' k names.length := by
  simp [regDevs, Function.comp_def]

theorem regDevs_abs (k : Nat) (names : List Nat) : (regDevs k names).map absDev = names.map fun d => { name := d } := by
  rw [← congrArg (List.map fun d => ({ name := d } : Dev)) (List.zipIdx_map_fst k names)]
  simp only [regDevs, List.map_map, Function.comp_def, absDev]

theorem reg_run : ∀ (names : List Nat) (s : Eon.St), (s.devs.map (·.name) ++ names).Nodup →
    Eon.runActs s (names.map (fun d => Eon.Act.stim (.reg d))) =
      some ({ s with devs := s.devs ++ regDevs s.devs.length names }, []) := by
  intro names
  induction names with
  | nil => intro s _; simp [Eon.runActs, regDevs]
  | cons d t ih =>
    intro s hnd
    have hnone : s.devs.find? (fun x => x.name == d && x.registered && x.pc != .done) = none := by
      rw [List.find?_eq_none]
      intro x hx
      have : x.name ≠ d := fun h => (List.nodup_append.1 hnd).2.2 x.name (List.mem_map_of_mem hx) d (by simp) h
      simp [this]
    have := ih { s with devs := s.devs ++ [{ uid := s.devs.length, name := d }] } (by simpa using hnd)
    simp only [List.map_cons, Eon.runActs, Eon.runAct, Eon.applyStim, hnone, this]
    simp [regDevs_cons]

/-- the freshly built node: cooldown 0, devices `names` registered (disabled), `EoN::run` started and
blocked in its first `poll` -/
def boot (names : List Nat) : Eon.St :=
  { cooldown := 0, devs := regDevs 0 names, running := true, will := some 0, loop := .polling }

theorem boot_reaches (names : List Nat) (h : names.Nodup) : Eon.Reaches 0 (boot names) [.will 0, .poll] := by
  refine ⟨names.map (fun d => Eon.Act.stim (.reg d)) ++ [.task .loop .acc 0, .task .loop .acc 0], ?_⟩
  have h1 := reg_run names (Eon.init 0) (by simpa [Eon.init] using h)
  have h2 : Eon.runActs { Eon.init 0 with devs := (Eon.init 0).devs ++ regDevs (Eon.init 0).devs.length names }
      [.task .loop .acc 0, .task .loop .acc 0] = some (boot names, [.will 0, .poll]) := by
    simp [Eon.runActs, Eon.runAct, Eon.step, Eon.stepLoop, Eon.init, boot]
  simpa using Eon.runActs_append h1 h2

theorem boot_ok (names : List Nat) (h : names.Nodup) :
    Quiescent (boot names) ∧ Wf (boot names) ∧ absNode 0 (boot names) = { devs := names.map fun d => { name := d } } := by
  have hx : ∀ x ∈ regDevs 0 names, DevQuiet x ∧ x.flag = false := by
    intro x hx
    obtain ⟨p, -, rfl⟩ := List.mem_map.1 hx
    exact ⟨⟨rfl, rfl, rfl, rfl, rfl⟩, rfl⟩
  refine ⟨⟨⟨rfl, rfl, rfl, rfl, rfl, rfl, rfl, rfl, nofun⟩, fun x hx' => (hx x hx').1⟩,
    ⟨⟨rfl, rfl, nofun⟩, ?_, ?_, fun x hx' hf => ?_, fun _ x hx' => (hx x hx').2, rfl⟩, ?_⟩
  · exact (regDevs_uids 0 names).symm ▸ List.nodup_range'
  · exact (regDevs_names 0 names).symm ▸ h
  · rw [(hx x hx').2] at hf; cases hf
  · exact congrArg (fun ds => ({ devs := ds } : Node)) (regDevs_abs 0 names)

/-! ### operation sequences -/

/-- the operations of the sequential abstraction (`ncmd` = an NCMD with `Node Control/Rebirth = true`) -/
inductive Op where
  | online | offline | pubNode | pubDev (d : Nat) | enable (d : Nat) | disable (d : Nat) | rebirth | ncmd
  deriving DecidableEq, Repr

def Op.apply (n : Node) (ts : Nat) : Op → Node × List H
  | .online => ((n.goOnline ts).1, (n.goOnline ts).2.map projMsg)
  | .offline => offlineOut n
  | .pubNode => ((n.pubNode ts).1, (n.pubNode ts).2.map projMsg)
  | .pubDev d => ((n.pubDev d ts).1, (n.pubDev d ts).2.map projMsg)
  | .enable d => ((n.enable d ts).1, (n.enable d ts).2.map projMsg)
  | .disable d => ((n.disable d ts).1, (n.disable d ts).2.map projMsg)
  | .rebirth => ((n.rebirth ts).1, (n.rebirth ts).2.map projMsg)
  | .ncmd => ((n.rebirth ts).1, (n.rebirth ts).2.map projMsg)

def runOps (n : Node) : List (Op × Nat) → Node × List H
  | [] => (n, [])
  | (op, ts) :: t => ((runOps (op.apply n ts).1 t).1, (op.apply n ts).2 ++ (runOps (op.apply n ts).1 t).2)

theorem op_refines (op : Op) (i ts : Nat) (s : Eon.St) (hq : Quiescent s) (hw : Wf s) :
    Refines s (op.apply (absNode i s) ts) := by
  cases op with
  | online => exact online_refines i ts s hq hw
  | offline => exact offline_refines i s hq hw
  | pubNode => exact pubNode_refines i ts s hq hw
  | pubDev d => exact pubDev_refines d i ts s hq hw
  | enable d => exact enable_refines d i ts s hq hw
  | disable d => exact disable_refines d i ts s hq hw
  | rebirth => exact rebirth_refines i ts s hq hw
  | ncmd => exact ncmd_refines i ts s hq hw

theorem ops_refine : ∀ (ops : List (Op × Nat)) (i : Nat) (s : Eon.St), Quiescent s → Wf s →
    Refines s (runOps (absNode i s) ops) := by
  intro ops
  induction ops with
  | nil => intro i s hq hw; exact ⟨s, [], Runs.refl s, hq, hw, rfl, rfl⟩
  | cons a t ih =>
    intro i s hq hw
    obtain ⟨op, ts⟩ := a
    obtain ⟨s1, o1, hr1, hq1, hw1, ha1, ho1⟩ := op_refines op i ts s hq hw
    obtain ⟨s2, o2, hr2, hq2, hw2, ha2, ho2⟩ := ih (op.apply (absNode i s) ts).1.nextId s1 hq1 hw1
    rw [ha1] at ha2 ho2
    exact ⟨s2, o1 ++ o2, hr1.trans hr2, hq2, hw2, ha2, by rw [projObs_append, ho1, ho2]; rfl⟩

theorem reaches_runs {cd : Nat} {s s' : Eon.St} {tr obs : List Eon.Obs} (h : Eon.Reaches cd s tr) (hr : Runs s s' obs) :
    Eon.Reaches cd s' (tr ++ obs) := by
  obtain ⟨a, ha⟩ := h
  obtain ⟨b, _, hb⟩ := hr
  exact ⟨a ++ b, Eon.runActs_append ha hb⟩
end Srad.Loop.Refine
