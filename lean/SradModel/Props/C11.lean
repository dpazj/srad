/-
C11 — Birth certificates are complete and uniquely identify every metric.
Property theorems only; helper lemmas are in `SradModel/Proofs/Birth.lean`, the vocabulary
(`bdSeqMetric`, `accepted`, `Accepts`, `WellFormed`, `Identifies`, `RegOk`, `DevOk`, `NoCarry`, …)
in `SradModel/Model/BirthSpec.lean`.

Quantification: every theorem holds for an arbitrary hash `h : Name → Nat` (nothing about
SipHash is used), arbitrary build parameters `cfg`, an arbitrary clock reading `now`, an
arbitrary registry `reg` satisfying what `TemplateRegistry::register` guarantees (`RegOk`, itself
a theorem: `C11_registry_ok`) in ANY iteration order (it is a list argument), and an arbitrary
manager `mgr`: any list of registration requests (duplicates, reserved names, every datatype,
with and without value, aliased or not, template instances of registered or unregistered
definitions) or the library's `SimpleMetricManager` with its entries in any iteration order.
Births, rebirths and reconnects all go through `nodeBirth` / `deviceBirth` with the then-current
`bdseq`, registry and device id, so the theorems cover every one of them.
-/
import SradModel.Proofs.Birth
import SradModel.Generated.BirthTable

namespace Srad.Birth

variable {U : Type}

/-! ### what an NBIRTH / DBIRTH contains -/

/-- Every NBIRTH is exactly: bdSeq (Int64, by name, no alias), Node Control/Rebirth (Boolean
false, by name, no alias), one definition metric per registry entry, then the metric of every
request of the manager that was accepted, in order; the manager sees one result per request. -/
theorem C11_nbirth_contents (cfg : Cfg) (h : Name → Nat) (now bdseq : Nat)
    (reg : List (Name × U)) (hreg : RegOk reg) (mgr : Mgr U)
    (ms : List (Metric U)) (res : List (Res MetricId))
    (hb : nodeBirth cfg h now bdseq reg mgr = .ok (ms, res)) :
    ms = bdSeqMetric now bdseq :: rebirthMetric now ::
          (reg.map (defMetric now) ++ accepted (mgrReqs now mgr) res) ∧
    res.length = (mgrReqs now mgr).length := by
  obtain ⟨st', hr, rfl⟩ := birth_run (nodeBirth_eq now bdseq hreg mgr ▸ hb)
  exact ⟨(runReqs_spec hr).metrics, (runReqs_spec hr).length⟩

/-- … and with a manager that looks at its results (a list of requests) an NBIRTH is always
produced: none of the `.unwrap()`s in `generate_birth_payload` can fire. -/
theorem C11_nbirth_total (cfg : Cfg) (h : Name → Nat) (now bdseq : Nat)
    (reg : List (Name × U)) (hreg : RegOk reg) (reqs : List (Req U)) :
    ∃ ms res, nodeBirth cfg h now bdseq reg (.scripted reqs) = .ok (ms, res) := by
  rw [nodeBirth_eq now bdseq hreg]
  exact ⟨_, _, rfl⟩

/-- Every DBIRTH contains exactly the accepted metrics of its device's manager, in order. -/
theorem C11_dbirth_contents (cfg : Cfg) (h : Name → Nat) (now id : Nat) (regNames : List Name)
    (mgr : Mgr U) (ms : List (Metric U)) (res : List (Res MetricId))
    (hb : deviceBirth cfg h now id regNames mgr = .ok (ms, res)) :
    ms = accepted (mgrReqs now mgr) res ∧ res.length = (mgrReqs now mgr).length := by
  obtain ⟨st', hr, rfl⟩ := birth_run (deviceBirth_eq cfg h now id regNames mgr ▸ hb)
  exact ⟨by rw [(runReqs_spec hr).metrics]; rfl, (runReqs_spec hr).length⟩

theorem C11_dbirth_total (cfg : Cfg) (h : Name → Nat) (now id : Nat) (regNames : List Name)
    (reqs : List (Req U)) :
    ∃ ms res, deviceBirth cfg h now id regNames (.scripted reqs) = .ok (ms, res) :=
  ⟨_, _, rfl⟩

/-- In every NBIRTH every metric has a name, a datatype, a timestamp and either a value or
`is_null = true`; names are pairwise distinct; aliases are pairwise distinct. -/
theorem C11_nbirth_well_formed (cfg : Cfg) (h : Name → Nat) (now bdseq : Nat)
    (reg : List (Name × U)) (hreg : RegOk reg) (mgr : Mgr U)
    (ms : List (Metric U)) (res : List (Res MetricId))
    (hb : nodeBirth cfg h now bdseq reg mgr = .ok (ms, res)) :
    (∀ m ∈ ms, WellFormed m) ∧ NamesDistinct ms ∧ AliasesDistinct ms := by
  obtain ⟨st', hr, rfl⟩ := birth_run (nodeBirth_eq now bdseq hreg mgr ▸ hb)
  exact runReqs_well_formed hr (nodeStart_inv now bdseq hreg)

/-- the same in every DBIRTH -/
theorem C11_dbirth_well_formed (cfg : Cfg) (h : Name → Nat) (now id : Nat) (regNames : List Name)
    (mgr : Mgr U) (ms : List (Metric U)) (res : List (Res MetricId))
    (hb : deviceBirth cfg h now id regNames mgr = .ok (ms, res)) :
    (∀ m ∈ ms, WellFormed m) ∧ NamesDistinct ms ∧ AliasesDistinct ms := by
  obtain ⟨st', hr, rfl⟩ := birth_run (deviceBirth_eq cfg h now id regNames mgr ▸ hb)
  exact runReqs_well_formed hr (Inv.init id regNames)

/-! ### which registrations are accepted -/

/-- One registration, in any state of the initializer whose names mirror its metrics: it is
accepted iff its name is not used yet, it is not a Template through `register_metric` and, for a
template instance, its definition is registered. (`hg`: the alias generator does not overflow,
see `C11_alias_generator_total`.) -/
theorem C11_register_accept_iff (cfg : Cfg) (h : Name → Nat) (st : Init U) (r : Req U)
    (hg : genAlias cfg h st r.name ≠ .panic) :
    (∃ id st', runReq cfg h st r = .ok (id, st')) ↔ Accepts st.names st.registry r :=
  runReq_accept_iff hg

/-- … and a rejection names its reason: `DuplicateMetric` iff the name is used (and nothing
else is wrong), `UnregisteredTemplate` iff the instance's definition is not registered,
`UnsupportedDatatype` for a Template through the wrong API, `ValueNotProvided` for template
details without a value (the last two only without debug assertions; with them they panic,
`C11_register_panic_reason`). -/
theorem C11_register_reject_reason (cfg : Cfg) (h : Name → Nat) (st : Init U) (r : Req U) (e : Err)
    (hr : runReq cfg h st r = .err e) :
    (e = .duplicate ∧ r.name ∈ st.names ∧ ¬ WrongApi r ∧ ¬ Unregistered st.registry r ∧
        ¬ NoInstance r) ∨
    (e = .unsupportedDatatype ∧ WrongApi r ∧ cfg.dbg = false) ∨
    (e = .valueNotProvided ∧ NoInstance r ∧ cfg.dbg = false) ∨
    (e = .unregisteredTemplate ∧ Unregistered st.registry r) := by
  have hs := runReq_step cfg h st r
  rw [hr] at hs
  cases hs with
  | wrongApi hw hd => exact .inr (.inl ⟨rfl, hw, hd⟩)
  | noInstance hni hd => exact .inr (.inr (.inl ⟨rfl, hni, hd⟩))
  | unregistered hu => exact .inr (.inr (.inr ⟨rfl, hu⟩))
  | duplicate hw hu hni hn => exact .inl ⟨rfl, hn, hw, hu, hni⟩

theorem C11_register_panic_reason (cfg : Cfg) (h : Name → Nat) (st : Init U) (r : Req U)
    (hr : runReq cfg h st r = .panic) :
    (WrongApi r ∧ cfg.dbg = true) ∨ (NoInstance r ∧ cfg.dbg = true) ∨
    (Accepts st.names st.registry r ∧ r.details.useAlias = true ∧
      genAlias cfg h st r.name = .panic) := by
  have hs := runReq_step cfg h st r
  rw [hr] at hs
  cases hs with
  | wrongApiDbg hw hd => exact .inl ⟨hw, hd⟩
  | noInstanceDbg hni hd => exact .inr (.inl ⟨hni, hd⟩)
  | overflow hacc hua hg => exact .inr (.inr ⟨hacc, hua, hg⟩)

/-- the "names used" of the rule are exactly the names of the metrics already in the birth -/
theorem C11_used_names_are_birth_names (cfg : Cfg) (h : Name → Nat) (now bdseq : Nat)
    (reg : List (Name × U)) (hreg : RegOk reg) (mgr : Mgr U)
    (ms : List (Metric U)) (res : List (Res MetricId))
    (hb : nodeBirth cfg h now bdseq reg mgr = .ok (ms, res)) :
    ∃ st : Init U, st.metrics = ms ∧ ∀ n, n ∈ st.names ↔ some n ∈ ms.map (·.name) := by
  obtain ⟨st', hr, rfl⟩ := birth_run (nodeBirth_eq now bdseq hreg mgr ▸ hb)
  exact ⟨st', rfl, ((runReqs_spec hr).inv (nodeStart_inv now bdseq hreg)).names⟩

/-- A whole NBIRTH: which requests of the manager are accepted is decided by names alone —
request `k` is accepted iff the rule holds with `used` = bdSeq, Node Control/Rebirth, the
registered definitions' names and the names of the requests accepted before it. -/
theorem C11_nbirth_accept_iff (cfg : Cfg) (h : Name → Nat) (now bdseq : Nat)
    (hc : cfg.inHalf = true ∨ cfg.ovf = false)
    (reg : List (Name × U)) (hreg : RegOk reg) (mgr : Mgr U)
    (hl : (mgrReqs now mgr).length < two32)
    (ms : List (Metric U)) (res : List (Res MetricId))
    (hb : nodeBirth cfg h now bdseq reg mgr = .ok (ms, res)) :
    res.map Res.isOk =
      acceptFlags (reg.map (·.1)) (bdSeqName :: rebirthName :: reg.map (·.1)) (mgrReqs now mgr) := by
  obtain ⟨st', hr, _⟩ := birth_run (nodeBirth_eq now bdseq hreg mgr ▸ hb)
  exact ((runReqs_spec hr).flags hc (by simpa [nodeStart] using hl)).trans
    (acceptFlags_congr _ _ _ _ (by intro n; simp [mem_nodeStart_names]))

/-- the same for a DBIRTH: nothing is used before the device's manager runs -/
theorem C11_dbirth_accept_iff (cfg : Cfg) (h : Name → Nat) (now id : Nat)
    (hc : cfg.inHalf = true ∨ cfg.ovf = false) (regNames : List Name) (mgr : Mgr U)
    (hl : (mgrReqs now mgr).length < two32)
    (ms : List (Metric U)) (res : List (Res MetricId))
    (hb : deviceBirth cfg h now id regNames mgr = .ok (ms, res)) :
    res.map Res.isOk = acceptFlags regNames [] (mgrReqs now mgr) := by
  obtain ⟨st', hr, _⟩ := birth_run (deviceBirth_eq cfg h now id regNames mgr ▸ hb)
  exact (runReqs_spec hr).flags hc (by simpa using hl)

/-! ### aliases across the node and all of its devices -/

/-- the repaired alias generator always yields an alias (fewer than 2^32 aliases per object);
with `alias += 1` the only panic is the `u64` overflow under overflow checks -/
theorem C11_alias_generator_total (cfg : Cfg) (h : Name → Nat) (st : Init U) (n : Name)
    (hl : st.aliases.length < two32) :
    (cfg.inHalf = true → ∃ a, genAlias cfg h st n = .ok a) ∧
    (genAlias cfg h st n = .panic →
      cfg.inHalf = false ∧ cfg.ovf = true ∧ (two64 - 1) ∈ st.aliases) :=
  ⟨fun hc => genAlias_total hc hl, genAlias_panic hl⟩

/-- The high half of every alias in an NBIRTH is 0 — for the repaired bump always, for
`alias += 1` under `NoCarry`. -/
theorem C11_nbirth_alias_half (cfg : Cfg) (h : Name → Nat) (now bdseq : Nat)
    (reg : List (Name × U)) (hreg : RegOk reg) (mgr : Mgr U)
    (hc : cfg.inHalf = true ∨ NoCarry h ((mgrReqs now mgr).map (·.name)))
    (ms : List (Metric U)) (res : List (Res MetricId))
    (hb : nodeBirth cfg h now bdseq reg mgr = .ok (ms, res)) :
    ∀ m ∈ ms, ∀ a, m.alias = some a → a / two32 = 0 := by
  obtain ⟨st', hr, rfl⟩ := birth_run (nodeBirth_eq now bdseq hreg mgr ▸ hb)
  exact runReqs_alias_half hr (nodeStart_inv now bdseq hreg) rfl
    (hc.imp_right fun hn => ⟨show 0 < two32 by decide, hn⟩)

/-- The high half of every alias in the DBIRTH of the device with id `id` is `id`. -/
theorem C11_dbirth_alias_half (cfg : Cfg) (h : Name → Nat) (now id : Nat) (hid : id < two32)
    (regNames : List Name) (mgr : Mgr U)
    (hc : cfg.inHalf = true ∨ NoCarry h ((mgrReqs now mgr).map (·.name)))
    (ms : List (Metric U)) (res : List (Res MetricId))
    (hb : deviceBirth cfg h now id regNames mgr = .ok (ms, res)) :
    ∀ m ∈ ms, ∀ a, m.alias = some a → a / two32 = id := by
  obtain ⟨st', hr, rfl⟩ := birth_run (deviceBirth_eq cfg h now id regNames mgr ▸ hb)
  exact runReqs_alias_half hr (Inv.init id regNames) rfl (hc.imp_right fun hn => ⟨hid, hn⟩)

/-- Device ids: after ANY sequence of `register_device` / `unregister_device` calls the device
map holds one id per device name, non-zero (0 is the node), below 2^32 and pairwise distinct. -/
theorem C11_device_ids (cfg : Cfg) (h : Name → Nat) (ops : List DevOp) :
    DevOk (ops.foldl (applyDevOp cfg h) DevMap.empty) := by
  refine foldl_devOk ops ⟨?_, ?_, ?_, ?_⟩ <;> simp [DevMap.empty]

/-- Every alias is unique across the node and all of its devices: an alias of the NBIRTH is
not an alias of any DBIRTH, and DBIRTHs of different devices share no alias — for the
repaired bump always, for `alias += 1` under `NoCarry` for each manager (the excluded point is
finding D10, see the `example` at the end). Within one birth: `C11_*_well_formed`. -/
theorem C11_alias_unique_across (cfg : Cfg) (h : Name → Nat) (now bdseq : Nat)
    (reg : List (Name × U)) (hreg : RegOk reg) (dm : DevMap) (hdm : DevOk dm)
    (mgrN : Mgr U) (msN : List (Metric U)) (resN : List (Res MetricId))
    (hcN : cfg.inHalf = true ∨ NoCarry h ((mgrReqs now mgrN).map (·.name)))
    (hbN : nodeBirth cfg h now bdseq reg mgrN = .ok (msN, resN))
    (d1 d2 : Name × Nat) (hd1 : d1 ∈ dm.devs) (hd2 : d2 ∈ dm.devs)
    (now1 now2 : Nat) (reg1 reg2 : List Name) (mgr1 mgr2 : Mgr U)
    (hc1 : cfg.inHalf = true ∨ NoCarry h ((mgrReqs now1 mgr1).map (·.name)))
    (hc2 : cfg.inHalf = true ∨ NoCarry h ((mgrReqs now2 mgr2).map (·.name)))
    (ms1 ms2 : List (Metric U)) (res1 res2 : List (Res MetricId))
    (hb1 : deviceBirth cfg h now1 d1.2 reg1 mgr1 = .ok (ms1, res1))
    (hb2 : deviceBirth cfg h now2 d2.2 reg2 mgr2 = .ok (ms2, res2)) :
    (∀ a ∈ aliasesOf msN, a ∉ aliasesOf ms1) ∧
    (d1.1 ≠ d2.1 → ∀ a ∈ aliasesOf ms1, a ∉ aliasesOf ms2) := by
  obtain ⟨_, k2, k3, _⟩ := hdm
  have hN := C11_nbirth_alias_half cfg h now bdseq reg hreg mgrN hcN msN resN hbN
  have h1 := C11_dbirth_alias_half cfg h now1 d1.2 (k3 d1 hd1).2 reg1 mgr1 hc1 ms1 res1 hb1
  have h2 := C11_dbirth_alias_half cfg h now2 d2.2 (k3 d2 hd2).2 reg2 mgr2 hc2 ms2 res2 hb2
  exact ⟨aliases_disjoint hN h1 (Nat.ne_of_lt (k3 d1 hd1).1), fun hne =>
    aliases_disjoint h1 h2 fun he =>
      hne (congrArg (·.1) (nodup_map_inj (·.2) dm.devs k2 d1 hd1 d2 hd2 he))⟩

/-- Token fidelity, NBIRTH: if request `k` was accepted with a token carrying `id`, the birth
contains the metric of that request declaring exactly that id (its alias if `id` is an alias,
no alias and the request's name otherwise), and every metric later created from the token —
any value, any time — carries that id and nothing else, and names that birth metric and no
other metric of the birth. -/
theorem C11_token_fidelity_node (cfg : Cfg) (h : Name → Nat) (now bdseq : Nat)
    (reg : List (Name × U)) (hreg : RegOk reg) (mgr : Mgr U)
    (ms : List (Metric U)) (res : List (Res MetricId))
    (hb : nodeBirth cfg h now bdseq reg mgr = .ok (ms, res))
    (k : Nat) (r : Req U) (id : MetricId)
    (hk : (mgrReqs now mgr)[k]? = some r) (hres : res[k]? = some (.ok id))
    (v : Option U) (t : Nat) :
    specMetric r id ∈ ms ∧
    (publishToMetric (createPublish id v t)).alias = idAlias id ∧
    (publishToMetric (createPublish id v t)).name = idName id ∧
    Identifies (publishToMetric (createPublish id v t)) (specMetric r id) ∧
    ∀ b ∈ ms, Identifies (publishToMetric (createPublish id v t)) b → b = specMetric r id := by
  obtain ⟨st', hr, rfl⟩ := birth_run (nodeBirth_eq now bdseq hreg mgr ▸ hb)
  exact runReqs_token_fidelity hr (nodeStart_inv now bdseq hreg) hk hres v t

/-- Token fidelity, DBIRTH. -/
theorem C11_token_fidelity_device (cfg : Cfg) (h : Name → Nat) (now did : Nat)
    (regNames : List Name) (mgr : Mgr U)
    (ms : List (Metric U)) (res : List (Res MetricId))
    (hb : deviceBirth cfg h now did regNames mgr = .ok (ms, res))
    (k : Nat) (r : Req U) (id : MetricId)
    (hk : (mgrReqs now mgr)[k]? = some r) (hres : res[k]? = some (.ok id))
    (v : Option U) (t : Nat) :
    specMetric r id ∈ ms ∧
    (publishToMetric (createPublish id v t)).alias = idAlias id ∧
    (publishToMetric (createPublish id v t)).name = idName id ∧
    Identifies (publishToMetric (createPublish id v t)) (specMetric r id) ∧
    ∀ b ∈ ms, Identifies (publishToMetric (createPublish id v t)) b → b = specMetric r id := by
  obtain ⟨st', hr, rfl⟩ := birth_run (deviceBirth_eq cfg h now did regNames mgr ▸ hb)
  exact runReqs_token_fidelity hr (Inv.init did regNames) hk hres v t

/-! ### SimpleMetricManager and the template registry -/

/-- `SimpleMetricManager::register_metric` keeps its names pairwise distinct -/
theorem C11_simple_names_nodup (ms ms' : List (SimpleMetric U)) (m : SimpleMetric U)
    (hnd : (ms.map (·.name)).Nodup) (hr : simpleRegister ms m = some ms') :
    (ms'.map (·.name)).Nodup ∧ ms' = ms ++ [m] := by
  unfold simpleRegister at hr
  split at hr
  · cases hr
  · rename_i hn
    cases hr
    refine ⟨?_, rfl⟩
    rw [List.map_append]
    exact nodup_concat hnd hn

/-- A node whose manager is a SimpleMetricManager (entries in any iteration order): the
`.unwrap()` in `birth_metric` fires — the node task panics, no NBIRTH — exactly when an entry
is named bdSeq, Node Control/Rebirth or like a registered template definition, or has datatype
Template; otherwise the NBIRTH is that of the scripted manager making the same calls, every
entry gets its token. -/
theorem C11_simple_node_birth (cfg : Cfg) (h : Name → Nat) (now bdseq : Nat)
    (hc : cfg.inHalf = true ∨ cfg.ovf = false)
    (reg : List (Name × U)) (hreg : RegOk reg) (sm : List (SimpleMetric U))
    (hl : sm.length < two32) (hnd : (sm.map (·.name)).Nodup) :
    (nodeBirth cfg h now bdseq reg (.simple sm) = .panic ↔
      ∃ m ∈ sm, m.name = bdSeqName ∨ m.name = rebirthName ∨ m.name ∈ reg.map (·.1) ∨
        m.dt = dtTemplate) ∧
    (∀ ms res, nodeBirth cfg h now bdseq reg (.simple sm) = .ok (ms, res) →
      nodeBirth cfg h now bdseq reg (.scripted (simpleReqs now sm)) = .ok (ms, res) ∧
      ∀ o ∈ res, o.isOk = true) := by
  have := birthOf_simple (cfg := cfg) (h := h) now hc (nodeStart now bdseq reg) sm
    (by simpa [nodeStart] using hl) hnd
  simp only [mem_nodeStart_names, or_assoc] at this
  rw [nodeBirth_eq now bdseq hreg, nodeBirth_eq now bdseq hreg]
  exact this

/-- `cmd_lookup` of a SimpleMetricManager after a birth: an id routes to the entry's callback
only if that entry has a callback and the id is the token the birth gave that very entry -/
theorem C11_cmd_lookup (sm : List (SimpleMetric U)) (ids : List MetricId) (id : MetricId) (n : Name)
    (hm : (id, n) ∈ cmdLookup sm ids) :
    ∃ (k : Nat) (m : SimpleMetric U), sm[k]? = some m ∧ ids[k]? = some id ∧ m.name = n ∧
      m.hasCb = true := by
  obtain ⟨⟨m, i⟩, hmem, hf⟩ := List.mem_filterMap.1 hm
  obtain ⟨k, hk⟩ := List.getElem?_of_mem hmem
  obtain ⟨h1, h2⟩ := List.getElem?_zip_eq_some.1 hk
  cases hcb : m.hasCb <;> simp only [hcb, Bool.false_eq_true, if_false, if_true] at hf <;> cases hf
  exact ⟨k, m, h1, h2, rfl, hcb⟩

/-- `register_device` yields an id whenever the name is valid and new — without overflow checks
always (fewer than 2^32 − 1 devices), with them unless the id 0xFFFF_FFFF is taken (the `u32`
`id += 1` then panics while the device map is locked) -/
theorem C11_device_id_total (cfg : Cfg) (h : Name → Nat) (dm : DevMap) (n : Name)
    (hv : validName n = true) (hn : n ∉ dm.devs.map (·.1)) (hl : dm.ids.length + 1 < two32) :
    (∃ dm' id, addDevice cfg h dm n = .ok dm' id) ∨
    (cfg.ovf = true ∧ (two32 - 1) ∈ dm.ids ∧ ∃ p, addDevice cfg h dm n = p ∧
      match p with | .panic => True | _ => False) := by
  unfold addDevice
  simp only [hv, Bool.not_true, Bool.false_eq_true, if_false, hn]
  cases hg : genDeviceId cfg h dm.ids n with
  | ok id => left; exact ⟨_, id, rfl⟩
  | err e => exact absurd hg (bump_ne_err e)
  | panic =>
    right
    obtain ⟨h1, h2⟩ := bump_panic (by simpa using hl) hg
    refine ⟨h1, ?_, _, rfl, trivial⟩
    simp only [List.mem_cons, Nat.zero_add] at h2
    rcases h2 with h2 | h2
    · unfold two32 at h2; omega
    · exact h2

/-- what `TemplateRegistry::register` / `deregister` / `clear` guarantee, from the empty
registry: keys distinct, never bdSeq or Node Control/Rebirth -/
theorem C11_registry_ok :
    RegOk ([] : List (Name × U)) ∧
    (∀ (reg reg' : List (Name × U)) n u, RegOk reg → regRegister reg n u = .ok reg' →
      RegOk reg' ∧ reg' = reg ++ [(n, u)]) ∧
    (∀ (reg : List (Name × U)) n, RegOk reg → RegOk (regDeregister reg n)) := by
  refine ⟨by simp [RegOk], ?_, ?_⟩
  · intro reg reg' n u ⟨h1, h2, h3⟩ hr
    unfold regRegister at hr
    split at hr
    · cases hr
    · rename_i hres
      split at hr
      · cases hr
      · rename_i hn
        cases hr
        refine ⟨⟨?_, ?_, ?_⟩, rfl⟩
        · rw [List.map_append]
          exact nodup_concat h1 hn
        · simp only [List.map_append, List.mem_append, not_or]
          refine ⟨h2, ?_⟩
          simp; intro hc; exact hres (Or.inr hc.symm)
        · simp only [List.map_append, List.mem_append, not_or]
          refine ⟨h3, ?_⟩
          simp; intro hc; exact hres (Or.inl hc.symm)
  · intro reg n ⟨h1, h2, h3⟩
    unfold regDeregister
    refine ⟨?_, ?_, ?_⟩
    · exact List.Nodup.sublist (List.Sublist.map _ List.filter_sublist) h1
    · intro hc
      obtain ⟨e, he, hex⟩ := List.mem_map.mp hc
      exact h2 (List.mem_map.mpr ⟨e, (List.mem_filter.mp he).1, hex⟩)
    · intro hc
      obtain ⟨e, he, hex⟩ := List.mem_map.mp hc
      exact h3 (List.mem_map.mpr ⟨e, (List.mem_filter.mp he).1, hex⟩)

/-- a device whose manager is a SimpleMetricManager: only a Template-typed entry can panic -/
theorem C11_simple_device_birth (cfg : Cfg) (h : Name → Nat) (now id : Nat)
    (hc : cfg.inHalf = true ∨ cfg.ovf = false) (regNames : List Name)
    (sm : List (SimpleMetric U)) (hl : sm.length < two32) (hnd : (sm.map (·.name)).Nodup) :
    (deviceBirth cfg h now id regNames (.simple sm) = .panic ↔ ∃ m ∈ sm, m.dt = dtTemplate) ∧
    (∀ ms res, deviceBirth cfg h now id regNames (.simple sm) = .ok (ms, res) →
      deviceBirth cfg h now id regNames (.scripted (simpleReqs now sm)) = .ok (ms, res) ∧
      ∀ o ∈ res, o.isOk = true) := by
  have := birthOf_simple (cfg := cfg) (h := h) now hc ({ obj := id, registry := regNames } : Init U)
    sm (by simpa using hl) hnd
  simp only [List.not_mem_nil, false_or] at this
  rw [deviceBirth_eq, deviceBirth_eq]
  exact this

/-! ### T-table: the registration decision of `BirthInitializer`, regenerated on every run by
executing the freshly compiled crate on {node, device} × {register_metric, register_template_metric}
× {Int32, Template} × {value, none} × {alias, name} × {fresh, used name} × {registered,
unregistered definition} (`SradModel/Generated/BirthTable.lean`, 96 rows). A change to any
branch of `register_metric` / `register_template_metric` / `create_metric_token` /
`into_metric_value` breaks one of these two obligations at `lake build`. -/

/-- the compiled code and the model (a full `nodeBirth` / `deviceBirth`) agree on every row -/
theorem C11_table_matches_model :
    ∀ row ∈ Srad.Generated.birthTable,
      rowShape Srad.Generated.birthTableCfg row.1 = row.2 := by
  decide +kernel

/-- in the compiled code itself: a registration is accepted iff its name is not used, it is not
a Template through `register_metric`, and a template instance has a value whose definition is
registered; the accepted metric carries an alias iff one was asked for, the requested
datatype, and `is_null = true` exactly when there is no value. All 96 rows are present. -/
theorem C11_table_decision :
    (∀ row ∈ Srad.Generated.birthTable,
      ((match row.2 with | .ok .. => true | _ => false) =
        (!row.1.dup && (row.1.apiT || row.1.dt != dtTemplate) &&
          (!row.1.apiT || (row.1.hasVal && row.1.reg)))) ∧
      ((match row.2 with
        | .ok a d n v => a == row.1.alias && d == row.1.dt && n == !row.1.hasVal && v == row.1.hasVal
        | _ => true) = true)) ∧
    (Srad.Generated.birthTable.map (·.1)).Nodup ∧ Srad.Generated.birthTable.length = 96 := by
  decide +kernel

/-! ### non-vacuity and the excluded point (tests, not the claim) -/

section Examples

def exH : Name → Nat := fun n =>
  if n = [1] then 0xFFFFFFFF else if n = [2] then 0x1_FFFFFFFF else if n = [3] then 0
  else if n = [4] then 7 else if n = [5] then 7 else 12345

def exCfg : Cfg := { dbg := true, ovf := true, inHalf := true }

/-- a node birth with one registered template `[9]`, a manager that registers: an aliased
metric, the same name again, bdSeq, a null metric by name, a Template through the wrong API, an
instance of the registered template, an instance of an unregistered one, and two names with
colliding hashes -/
def exReqs : List (Req Nat) :=
  [ .metric ⟨[4], true, 3, 100⟩ (some 11),
    .metric ⟨[4], true, 3, 100⟩ (some 12),
    .metric ⟨bdSeqName, false, 4, 100⟩ (some 1),
    .metric ⟨[6], false, 12, 101⟩ none,
    .metric ⟨[7], true, dtTemplate, 100⟩ (some 1),
    .template ⟨[8], true, dtTemplate, 100⟩ (some ([9], 5)),
    .template ⟨[10], true, dtTemplate, 100⟩ (some ([11], 5)),
    .metric ⟨[5], true, 10, 100⟩ (some 13) ]

example :
    nodeBirth exCfg exH 100 3 [([9], 77)] (.scripted exReqs) =
      .ok ([ bdSeqMetric 100 3, rebirthMetric 100, defMetric 100 ([9], 77),
             { name := some [4], alias := some 7, datatype := some 3, timestamp := some 100,
               value := some (.user 11) },
             { name := some [6], datatype := some 12, timestamp := some 101, isNull := some true },
             { name := some [8], alias := some 12345, datatype := some 19, timestamp := some 100,
               value := some (.inst [9] 5) },
             { name := some [5], alias := some 8, datatype := some 10, timestamp := some 100,
               value := some (.user 13) } ],
           [ .ok (.alias 7), .err .duplicate, .err .duplicate, .ok (.name [6]), .panic,
             .ok (.alias 12345), .err .unregisteredTemplate, .ok (.alias 8) ]) := by
  decide +kernel

example : RegOk [(([9] : Name), (77 : Nat))] := by decide +kernel
example : acceptFlags [[9]] (bdSeqName :: rebirthName :: [[9]]) exReqs
    = [true, false, false, true, false, true, false, true] := by decide +kernel

/-- device ids: two names with the same 32-bit hash, and one hashing to 0 -/
example :
    (([DevOp.add [1], .add [2], .add [3], .remove [1], .add [1]].foldl
      (applyDevOp exCfg (fun n => if n = [3] then 0 else 41)) DevMap.empty).devs)
      = [([1], 41), ([3], 1), ([2], 42)] := by decide +kernel

def exCarry : Cfg := { dbg := true, ovf := true, inHalf := false }
def exNodeReqs : List (Req Nat) :=
  [.metric ⟨[1], true, 3, 0⟩ (some 0), .metric ⟨[2], true, 3, 0⟩ (some 0)]
def exDevReqs : List (Req Nat) := [.metric ⟨[3], true, 3, 0⟩ (some 0)]

/-- The excluded point of `C11_alias_unique_across` (finding D10) with `alias += 1`
(`inHalf = false`): two node metrics whose names hash to 0xFFFF_FFFF (low 32 bits) — the second
is bumped to 0x1_0000_0000 — and a metric hashing to 0 in the device with id 1: the NBIRTH and
the DBIRTH declare the same alias. `NoCarry` fails for the node's manager. With the repaired
bump (`exCfg`) the second node alias wraps to 0 inside the node's half. -/
example :
    birthAliases (nodeBirth exCarry exH 0 0 [] (.scripted exNodeReqs)) = [0xFFFFFFFF, 0x100000000] ∧
    birthAliases (deviceBirth exCarry exH 0 1 [] (.scripted exDevReqs)) = [0x100000000] ∧
    ¬ NoCarry exH (exNodeReqs.map (·.name)) ∧
    birthAliases (nodeBirth exCfg exH 0 0 [] (.scripted exNodeReqs)) = [0xFFFFFFFF, 0] := by
  decide +kernel

/-- `NoCarry` is satisfiable together with a genuine collision: [4] and [5] both hash to 7 -/
example : NoCarry exH [[4], [5]] ∧
    birthAliases (nodeBirth exCarry exH 0 0 []
      (.scripted [.metric ⟨[4], true, 3, 0⟩ (some 0), .metric ⟨[5], true, 3, 0⟩ (some (0 : Nat))]))
      = [7, 8] := by
  decide +kernel

/-- the `u64` overflow of `alias += 1` in the device with id 0xFFFF_FFFF: a panic with overflow
checks, alias 0 (the node's half) without -/
example :
    (deviceBirth exCarry exH 0 0xFFFFFFFF [] (.scripted exNodeReqs)).casesOn
      (fun p => p.2) (fun _ => []) [] = [.ok (.alias 0xFFFFFFFFFFFFFFFF), .panic] ∧
    birthAliases (deviceBirth { exCarry with ovf := false } exH 0 0xFFFFFFFF []
      (.scripted exNodeReqs)) = [0xFFFFFFFFFFFFFFFF, 0] := by
  decide +kernel

/-- SimpleMetricManager with an entry named bdSeq: the node birth panics -/
example : nodeBirth exCfg exH 0 0 ([] : List (Name × Nat))
    (.simple [⟨[4], true, 3, 1, false⟩, ⟨bdSeqName, true, 4, 2, false⟩]) = .panic := by
  decide +kernel

end Examples

end Srad.Birth
