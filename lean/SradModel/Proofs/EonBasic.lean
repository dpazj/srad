/-
Facts about the building blocks of the edge-node LTS (`Model/Eon`) that every proof over it needs: what a
hand-over logs and how it is answered (`logged`, `outcome`, `afterCall`), reading the call log back
(`callRes`), when a sequence number is granted, and how the list helpers behave (`setDev`, `findUid`,
`findDev`, `pushAll`, `setUCall`, `reply?`).
-/
import SradModel.Model.EonSpec

namespace Srad.Eon

/-! ### hand-overs -/

/-- the decision the client actually takes: a `try_` call cannot wait, so parking it is a refusal -/
def Dec.eff (isTry : Bool) (dec : Dec) : Dec := if isTry && dec == .park then .rej else dec

/-- how a call handed over with decision `dec` is answered at once (`none` = parked) -/
def outcome (isTry : Bool) (dec : Dec) : Option Bool :=
  match dec.eff isTry with | .acc => some true | .rej => some false | .park => none

def logged (s : St) (c : Call) (dec : Dec) : Call :=
  { c with res := outcome c.isTry dec, gOnline := s.online, gBirthed := s.birthed }

theorem handOver_eq (s : St) (c : Call) (dec : Dec) :
    handOver s c dec =
      ({ s with calls := s.calls ++ [logged s c dec] }, s.calls.length,
       .call s.calls.length c.kind c.dev c.seq c.bd c.isTry (dec.eff c.isTry)) := rfl

@[simp] theorem logged_res (s : St) (c : Call) (dec : Dec) : (logged s c dec).res = outcome c.isTry dec := rfl

@[simp] theorem outcome_acc (t : Bool) : outcome t .acc = some true := by cases t <;> rfl
@[simp] theorem outcome_rej (t : Bool) : outcome t .rej = some false := by cases t <;> rfl
@[simp] theorem outcome_park_try : outcome true .park = some false := rfl
@[simp] theorem outcome_park : outcome false .park = none := rfl

theorem outcome_of_ne_park {dec : Dec} (t : Bool) (h : dec ≠ .park) : ∃ ok, outcome t dec = some ok := by
  cases dec
  · exact ⟨true, outcome_acc t⟩
  · exact ⟨false, outcome_rej t⟩
  · exact absurd rfl h

/-- where a task continues after a hand-over: at `done ok` if the client answered at once, at `wait` if it parked -/
def afterCall {α : Type} (wait : α) (done : Bool → α) : Option Bool → α
  | some ok => done ok
  | none => wait

@[simp] theorem afterCall_some {α : Type} (wait : α) (done : Bool → α) (ok : Bool) :
    afterCall wait done (some ok) = done ok := rfl

@[simp] theorem afterCall_none {α : Type} (wait : α) (done : Bool → α) : afterCall wait done none = wait := rfl

/-! ### the call log -/

theorem callRes_append {s s' : St} {cs : List Call} (hc : s'.calls = s.calls ++ cs) {id : Nat}
    (hid : id < s.calls.length) : callRes s' id = callRes s id := by
  simp [callRes, hc, List.getElem?_append_left hid]

theorem callRes_append_len (l : List Call) (c : Call) (s : St) (h : s.calls = l ++ [c]) :
    callRes s l.length = c.res := by
  simp [callRes, h]

theorem callRes_handOver (s : St) (c : Call) (dec : Dec) :
    callRes { s with calls := s.calls ++ [logged s c dec] } s.calls.length = outcome c.isTry dec :=
  callRes_append_len s.calls (logged s c dec) _ rfl

theorem callRes_set {s s' : St} {id : Nat} {c c' : Call} (hs' : s'.calls = s.calls.set id c')
    (h : s.calls[id]? = some c) (id2 : Nat) : callRes s' id2 = if id2 = id then c'.res else callRes s id2 := by
  have hl := (List.getElem?_eq_some_iff.1 h).1
  by_cases h2 : id2 = id
  · simp [callRes, hs', h2, hl]
  · simp [callRes, hs', h2, List.getElem?_set_ne (Ne.symm h2)]

theorem callRes_lt {s : St} {id : Nat} {r : Bool} (h : callRes s id = some r) : id < s.calls.length := by
  simp only [callRes] at h
  cases hc : s.calls[id]? with
  | none => simp [hc] at h
  | some c => exact (List.getElem?_eq_some_iff.1 hc).1

theorem callRes_some {s : St} {id : Nat} (h1 : ∀ c ∈ s.calls, c.res.isSome = true) (hlt : id < s.calls.length) :
    ∃ ok, callRes s id = some ok := by
  simp only [callRes, List.getElem?_eq_getElem hlt, Option.bind_some]
  exact Option.isSome_iff_exists.1 (h1 _ (List.getElem_mem hlt))

/-! ### sequence numbers -/

theorem nextSeqIn_ok {s : St} {req : Option Nat} {s1 : St} {n : Nat} (h : nextSeqIn s req = .ok (s1, n)) :
    s1 = { s with seq := n } ∧ n = (s.seq + 1) % 256 ∧ s.online = true ∧ s.birthed = true ∧
      ∀ e, req = some e → e = s.epoch := by
  unfold nextSeqIn at h
  cases ho : s.online <;> cases hb : s.birthed <;> simp [ho, hb] at h
  cases req with
  | none => simp at h; obtain ⟨rfl, rfl⟩ := h; simp
  | some e =>
    simp at h
    split at h
    · simp at h; obtain ⟨rfl, rfl⟩ := h; simp_all
    · simp at h

theorem nextSeqIn_granted {s : St} {req : Option Nat} (ho : s.online = true) (hb : s.birthed = true)
    (he : ∀ e, req = some e → e = s.epoch) :
    nextSeqIn s req = .ok ({ s with seq := (s.seq + 1) % 256 }, (s.seq + 1) % 256) := by
  cases req with
  | none => simp [nextSeqIn, ho, hb]
  | some e => simp [nextSeqIn, ho, hb, he e rfl]

theorem nextSeqIn_offline {s : St} {req : Option Nat} (h : s.online = false) :
    nextSeqIn s req = .error .offline := by
  simp [nextSeqIn, h]

theorem nextSeqIn_unbirthed {s : St} {req : Option Nat} (ho : s.online = true) (h : s.birthed = false) :
    nextSeqIn s req = .error .unbirthed := by
  simp [nextSeqIn, h, ho]

theorem nextSeqIn_error {s : St} {req : Option Nat} {e : URes} (h : nextSeqIn s req = .error e) :
    e = .offline ∧ s.online = false ∨
      e = .unbirthed ∧ s.online = true ∧ (s.birthed = false ∨ ∃ ep, req = some ep ∧ ep ≠ s.epoch) := by
  unfold nextSeqIn at h
  cases ho : s.online
  · simp [ho] at h; exact .inl ⟨h.symm, rfl⟩
  cases hb : s.birthed
  · simp [ho, hb] at h; exact .inr ⟨h.symm, rfl, .inl rfl⟩
  cases req with
  | none => simp [ho, hb] at h
  | some ep =>
    by_cases hq : ep = s.epoch
    · simp [ho, hb, hq] at h
    · simp [ho, hb, hq] at h; exact .inr ⟨h.symm, rfl, .inr ⟨ep, rfl, hq⟩⟩

/-! ### device lists -/

theorem setDev_length (x : Dev) (l : List Dev) : (setDev x l).length = l.length := by
  induction l with
  | nil => rfl
  | cons y t ih => simp only [setDev]; split <;> simp [ih]

theorem setDev_map_uid (x : Dev) (l : List Dev) : (setDev x l).map (·.uid) = l.map (·.uid) := by
  induction l with
  | nil => rfl
  | cons y t ih => simp only [setDev]; split <;> simp_all

theorem setDev_setDev (x1 x2 : Dev) (l : List Dev) (h : x1.uid = x2.uid) :
    setDev x2 (setDev x1 l) = setDev x2 l := by
  induction l with
  | nil => rfl
  | cons y t ih =>
    simp only [setDev]
    by_cases hy : y.uid = x1.uid
    · simp [hy, h, setDev]
    · have hy2 : ¬ y.uid = x2.uid := by rw [← h]; exact hy
      simp [hy, hy2, setDev, ih]

theorem mem_setDev_weak (x y : Dev) (l : List Dev) (h : y ∈ setDev x l) : y = x ∨ y ∈ l := by
  induction l with
  | nil => cases h
  | cons z t ih =>
    simp only [setDev] at h
    split at h
    · exact (List.mem_cons.1 h).imp_right (List.mem_cons_of_mem _)
    · rcases List.mem_cons.1 h with rfl | h
      · exact .inr (List.mem_cons_self ..)
      · exact (ih h).imp_right (List.mem_cons_of_mem _)

theorem mem_setDev (x y : Dev) (l : List Dev) (hn : (l.map (·.uid)).Nodup) (h : y ∈ setDev x l) :
    y = x ∨ (y ∈ l ∧ y.uid ≠ x.uid) := by
  induction l with
  | nil => cases h
  | cons z t ih =>
    simp only [List.map_cons, List.nodup_cons, List.mem_map, not_exists, not_and] at hn
    simp only [setDev] at h
    split at h
    · next hz =>
      rcases List.mem_cons.1 h with h | h
      · exact .inl h
      · exact .inr ⟨List.mem_cons_of_mem _ h, fun hu => hn.1 y h (by rw [hu, beq_iff_eq.1 hz])⟩
    · next hz =>
      rcases List.mem_cons.1 h with rfl | h
      · exact .inr ⟨List.mem_cons_self .., fun e => hz (beq_iff_eq.2 e)⟩
      · exact (ih hn.2 h).imp_right fun h => ⟨List.mem_cons_of_mem _ h.1, h.2⟩

theorem forall_setDev {P : Dev → Prop} {x' : Dev} {l : List Dev} (hl : ∀ y ∈ l, P y) (hx : P x') :
    ∀ y ∈ setDev x' l, P y := by
  intro y hy
  rcases mem_setDev_weak _ _ _ hy with rfl | h
  · exact hx
  · exact hl y h

theorem findUid_some {u : Nat} {l : List Dev} {x : Dev} (h : findUid u l = some x) : x ∈ l ∧ x.uid = u :=
  ⟨List.mem_of_find?_eq_some h, by simpa using List.find?_some h⟩

theorem findUid_of_mem {l : List Dev} {x : Dev} (hn : (l.map (·.uid)).Nodup) (hx : x ∈ l) :
    findUid x.uid l = some x := by
  induction l with
  | nil => cases hx
  | cons y t ih =>
    simp only [List.map_cons, List.nodup_cons, List.mem_map, not_exists, not_and] at hn
    simp only [findUid, List.find?_cons]
    rcases List.mem_cons.1 hx with rfl | hx
    · simp
    · have hy : (y.uid == x.uid) = false := by simpa using fun e => hn.1 x hx e.symm
      rw [hy]
      exact ih hn.2 hx

theorem findUid_setDev {u : Nat} {l : List Dev} {x x' : Dev} (h : findUid u l = some x) (hu : x'.uid = u) :
    findUid u (setDev x' l) = some x' := by
  induction l with
  | nil => cases h
  | cons y t ih =>
    simp only [setDev]
    by_cases hy : y.uid = u
    · simp [hy, hu, findUid]
    · have : ¬ y.uid = x'.uid := by rw [hu]; exact hy
      have h' : findUid u t = some x := by simpa [findUid, List.find?_cons, hy] using h
      simpa [this, findUid, List.find?_cons, hy] using ih h'

theorem setDev_split {u : Nat} {l : List Dev} {x : Dev} (h : findUid u l = some x) (x' : Dev) (hu : x'.uid = u) :
    ∃ a b, l = a ++ x :: b ∧ setDev x' l = a ++ x' :: b := by
  induction l with
  | nil => cases h
  | cons y t ih =>
    simp only [findUid, List.find?_cons] at h
    simp only [setDev, hu]
    split at h
    · next hy => cases h; exact ⟨[], t, rfl, by simp [hy]⟩
    · next hy =>
      obtain ⟨a, b, rfl, hb⟩ := ih h
      exact ⟨y :: a, b, rfl, by simp [hy, hb]⟩

/-- replacing a device by one with the same `f` leaves the list of `f`s alone -/
theorem setDev_map {α : Type} (f : Dev → α) {u : Nat} {l : List Dev} {x x' : Dev} (h : findUid u l = some x)
    (hu : x'.uid = u) (hf : f x' = f x) : (setDev x' l).map f = l.map f := by
  obtain ⟨a, b, rfl, he⟩ := setDev_split h x' hu
  rw [he, List.map_append, List.map_append, List.map_cons, List.map_cons, hf]

theorem setDev_map_name {u : Nat} {l : List Dev} {x x' : Dev} (h : findUid u l = some x) (hu : x'.uid = u)
    (hn : x'.name = x.name) : (setDev x' l).map (·.name) = l.map (·.name) :=
  setDev_map _ h hu hn

theorem countP_setDev (p : Dev → Bool) {u : Nat} {l : List Dev} {x x' : Dev} (h : findUid u l = some x) (hu : x'.uid = u) :
    (setDev x' l).countP p + (if p x then 1 else 0) = l.countP p + (if p x' then 1 else 0) := by
  obtain ⟨a, b, rfl, he⟩ := setDev_split h x' hu
  simp only [he, List.countP_append, List.countP_cons]
  omega

@[simp] theorem pushAll_length (m : NS) (l : List Dev) : (pushAll m l).length = l.length := List.length_map ..

theorem findReg_some {d : Nat} {l : List Dev} {x : Dev}
    (h : l.find? (fun x => x.name == d && x.registered && x.pc != .done) = some x) :
    x ∈ l ∧ x.name = d ∧ x.pc ≠ .done ∧ x.registered = true := by
  have := List.find?_some h
  simp at this
  exact ⟨List.mem_of_find?_eq_some h, this.1.1, this.2, this.1.2⟩

theorem findDev_some {d : Nat} {l : List Dev} {x : Dev} (h : findDev d l = some x) :
    x ∈ l ∧ x.name = d ∧ x.pc ≠ .done := by
  unfold findDev at h
  split at h
  · next y hy =>
    cases h
    exact ⟨(findReg_some hy).1, (findReg_some hy).2.1, (findReg_some hy).2.2.1⟩
  · have h1 := List.find?_some h
    simp at h1
    exact ⟨List.mem_reverse.1 (List.mem_of_find?_eq_some h), h1.1, h1.2⟩

/-! ### user calls -/

theorem mem_setUCall {u v : UCall} {l : List UCall} (h : v ∈ setUCall u l) : v ∈ l ∨ v = u := by
  induction l with
  | nil => cases h
  | cons w t ih =>
    simp only [setUCall] at h
    split at h
    · exact (List.mem_cons.1 h).elim .inr fun h => .inl (List.mem_cons_of_mem _ h)
    · exact (List.mem_cons.1 h).elim (fun h => .inl (h ▸ List.mem_cons_self ..))
        fun h => (ih h).imp_left (List.mem_cons_of_mem _)

theorem find?_setUCall {l : List UCall} {j : Nat} {u u' : UCall} (h : l.find? (·.j == j) = some u) (hj : u'.j = j) :
    (setUCall u' l).find? (·.j == j) = some u' := by
  induction l with
  | nil => cases h
  | cons v t ih =>
    simp only [List.find?_cons] at h
    simp only [setUCall]
    split at h
    · next hv => simp [beq_iff_eq.1 hv, hj]
    · next hv =>
      have hv : ¬ v.j = j := by simpa using hv
      simp [hj, hv, ih h]

/-! ### oneshot replies -/

theorem reply?_mem {s : St} {o : Nat} {r : Option Nat} (h : reply? s o = some r) : (o, r) ∈ s.oneshots := by
  obtain ⟨p, hp, rfl⟩ := Option.map_eq_some_iff.1 h
  have h2 : p.1 = o := by simpa using List.find?_some hp
  exact h2 ▸ List.mem_of_find?_eq_some hp

theorem reply?_none {s : St} {o : Nat} (h : reply? s o = none) : ∀ r, (o, r) ∉ s.oneshots := by
  intro r hr
  simpa using List.find?_eq_none.1 (Option.map_eq_none_iff.1 h) _ hr

/-- no reply is there yet on a oneshot above all those that carry one -/
theorem reply?_none_of_lt {s : St} {o : Nat} (h : ∀ p ∈ s.oneshots, p.1 < o) : reply? s o = none :=
  Option.map_eq_none_iff.2 (List.find?_eq_none.2 fun p hp => by simpa using Nat.ne_of_lt (h p hp))

theorem reply?_isSome_of_mem {s : St} {o : Nat} (h : ∃ p ∈ s.oneshots, p.1 = o) : ∃ r, reply? s o = some r := by
  cases hr : reply? s o with
  | some r => exact ⟨r, rfl⟩
  | none =>
    obtain ⟨p, hp, rfl⟩ := h
    exact absurd hp (reply?_none hr p.2)

theorem reply?_append {s s' : St} {o1 : Nat} {x : Option Nat} (h : s'.oneshots = s.oneshots ++ [(o1, x)]) (o : Nat) :
    reply? s' o = (match reply? s o with
      | some r => some r
      | none => if o1 = o then some x else none) := by
  simp only [reply?, h, List.find?_append]
  cases hf : List.find? (fun x => x.fst == o) s.oneshots with
  | some p => simp
  | none => by_cases ho : o1 = o <;> simp [ho]

theorem reply?_snoc {s s' : St} {o o' : Nat} {r : Option Nat} (h : s'.oneshots = s.oneshots ++ [(o, r)])
    (hn : reply? s o' = none) : reply? s' o' = if o = o' then some r else none := by
  rw [reply?_append h, hn]

/-! ### where a task stands -/

/-- the NBIRTH of the birth in progress has been handed over -/
def NodePc.inNbirth : NodePc → Bool
  | .waitNb .. | .nbDone .. => true
  | _ => false

end Srad.Eon
