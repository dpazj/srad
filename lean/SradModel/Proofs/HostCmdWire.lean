/-
The command payloads of `Model/HostCmd.lean`, mapped to the payload records of `Model/Metric.lean`,
are in range when their own fields are, and the command path's view of the mapped record is the
payload again: hence `encWC` / `decWC` round-trip (by `decW_encW`, i.e. by M13).
-/
import SradModel.Model.HostCmdWire
import SradModel.Proofs.MetricWire
import SradModel.Proofs.HostCmd

namespace Srad.HostCmd
open Srad.Codec Srad.Cmd
open Srad.Wire (Val Recs sparkplug encodeMsg encRecs lookupMsg findIn optF repF typedRecs typedRecsF
  typedRecF scalarTyped canonRecs)
open Srad.Metric (PMetric PMeta MVal optRec getOpt subTree encW decW u32 u64 esOf subOK mvalOK
  metricOK metaOK psOK psOKWith inRange lookup_template)

/-! ### the command path's view of the mapped record is the payload -/

theorem mvalToPV_pvToMVal (v : PV) (h : v ≠ .pset ∧ v ≠ .psets) : mvalToPV (pvToMVal v) = v := by
  cases v with
  | template isDef hasRef =>
    cases isDef with
    | none => cases hasRef <;> rfl
    | some b => cases b <;> cases hasRef <;> rfl
  | pset => exact absurd rfl h.1
  | psets => exact absurd rfl h.2
  | _ => rfl

theorem pvOKC_not_prop (valid : Bytes → Bool) (v : PV) (h : pvOKC valid v = true) :
    v ≠ .pset ∧ v ≠ .psets := by
  cases v <;> simp [pvOKC] at h ⊢

theorem ofPMetric_toPMetric (valid : Bytes → Bool) (m : WireMetric)
    (h : wireMetricOK valid m = true) : ofPMetric (toPMetric m) = m := by
  obtain ⟨⟨name, alias, ts, isNull, value⟩, dt, hi, tr, hm, hp⟩ := m
  simp only [wireMetricOK, Bool.and_eq_true] at h
  have hv : (value.map pvToMVal).map mvalToPV = value := by
    cases value with
    | none => rfl
    | some v =>
      simp only [Option.map_some]
      rw [mvalToPV_pvToMVal v (pvOKC_not_prop valid v (by simpa using h.2))]
  have h1 : (if hm = true then some ({} : PMeta) else none).isSome = hm := by cases hm <;> rfl
  have h2 : (if hp = true then some (([], []) : Srad.Metric.PSet) else none).isSome = hp := by
    cases hp <;> rfl
  simp only [ofPMetric, toPMetric, hv, h1, h2]

theorem ofMP_toMP (valid : Bytes → Bool) (p : WirePayload)
    (h : ∀ m ∈ p.metrics, wireMetricOK valid m = true) : ofMP (toMP p) = p := by
  obtain ⟨ts, ms, seq, uuid, body⟩ := p
  simp only [ofMP, toMP, List.map_map]
  congr
  have : ∀ m ∈ ms, (ofPMetric ∘ toPMetric) m = id m := fun m hm =>
    ofPMetric_toPMetric valid m (h m hm)
  rw [List.map_congr_left this, List.map_id]

/-! ### the mapped record is in range -/

theorem fi_template (r t : Nat) : findIn (esOf "Template") r t = findIn [optF 1 .string,
    repF 2 (.message "Metric"), repF 3 (.message "Parameter"), optF 4 .string, optF 5 .bool] r t := by
  rfl

theorem subOK_dataset (valid : Bytes → Bool) : subOK valid 98 "DataSet" dsStandIn = true := by
  have ht : typedRecs valid sparkplug 98 (esOf "DataSet") [(1, .num 0)] = true := by rfl
  have hc : canonRecs sparkplug 98 (esOf "DataSet") [(1, .num 0)] = true := by rfl
  exact Srad.Metric.subOK_of_struct valid 98 "DataSet" [(1, .num 0)] Srad.Metric.lookup_dataset
    (by decide) ht hc

theorem subOK_template (valid : Bytes → Bool) (isDef : Option Bool) (hasRef : Bool)
    (h : hasRef = true → valid refStandIn = true) :
    subOK valid 98 "Template" (templateBytes isDef hasRef) = true := by
  have he : templateBytes isDef hasRef = encRecs sparkplug (esOf "Template")
      (optRec 4 (if hasRef then some (Val.bytes refStandIn) else none) ++
        optRec 5 (isDef.map Val.bool)) := by rfl
  rw [he]
  refine Srad.Metric.subOK_of_struct valid 98 "Template" _ lookup_template (by decide) ?_ ?_
  · show typedRecsF valid sparkplug (typedRecs valid sparkplug 97) (esOf "Template") _ = true
    cases hasRef with
    | false =>
      cases isDef <;> simp [typedRecsF, typedRecF, fi_template, findIn, optF, repF, optRec, scalarTyped]
    | true =>
      have hv : valid [114, 101, 102] = true := h rfl
      cases isDef <;>
        simp [typedRecsF, typedRecF, fi_template, findIn, optF, repF, optRec, scalarTyped, hv, refStandIn]
  · cases hasRef <;> cases isDef with
    | none => rfl
    | some b => cases b <;> rfl

theorem mvalOK_pvToMVal (valid : Bytes → Bool) (v : PV) (h : pvOKC valid v = true) :
    mvalOK valid 98 (pvToMVal v) = true := by
  cases v with
  | dataset => exact subOK_dataset valid
  | template isDef hasRef =>
    refine subOK_template valid isDef hasRef fun hr => ?_
    subst hr
    simpa [pvOKC] using h
  | pset => simp [pvOKC] at h
  | psets => simp [pvOKC] at h
  | _ => first | exact h | rfl

theorem metricOK_toPMetric (valid : Bytes → Bool) (m : WireMetric)
    (h : wireMetricOK valid m = true) : metricOK valid 98 (toPMetric m) = true := by
  obtain ⟨⟨name, alias, ts, isNull, value⟩, dt, hi, tr, hm, hp⟩ := m
  simp only [wireMetricOK, Bool.and_eq_true] at h
  obtain ⟨⟨⟨⟨h1, h2⟩, h3⟩, h4⟩, h5⟩ := h
  have hmd : (if hm = true then some ({} : PMeta) else none).all (metaOK valid) = true := by
    cases hm <;> rfl
  have hps : (if hp = true then some (([], []) : Srad.Metric.PSet) else none).all (psOK valid 98)
      = true := by
    cases hp <;> rfl
  have hv : (value.map pvToMVal).all (mvalOK valid 98) = true := by
    cases value with
    | none => rfl
    | some v => exact mvalOK_pvToMVal valid v (by simpa using h5)
  simp only [metricOK, toPMetric, Bool.and_eq_true]
  exact ⟨⟨⟨⟨⟨⟨h1, h2⟩, h3⟩, h4⟩, hmd⟩, hps⟩, hv⟩

theorem inRange_toMP (valid : Bytes → Bool) (p : WirePayload) (h : inRangeC valid p = true) :
    inRange valid (toMP p) = true := by
  simp only [inRangeC, Bool.and_eq_true, List.all_eq_true, decide_eq_true_eq] at h
  obtain ⟨⟨⟨⟨h1, h2⟩, h3⟩, h4⟩, h5⟩ := h
  simp only [inRange, Bool.and_eq_true, List.all_eq_true, decide_eq_true_eq]
  refine ⟨⟨⟨⟨h1, ?_⟩, h3⟩, h4⟩, h5⟩
  intro q hq
  simp only [toMP, List.mem_map] at hq
  obtain ⟨m, hm, rfl⟩ := hq
  exact metricOK_toPMetric valid m (h2 m hm)

theorem decWC_encWC (valid : Bytes → Bool) (p : WirePayload) (h : inRangeC valid p = true) :
    decWC valid (encWC p) = some p := by
  have hin := inRange_toMP valid p h
  simp only [inRangeC, Bool.and_eq_true, List.all_eq_true] at h
  simp only [decWC, encWC, Srad.Metric.decW_encW valid (toMP p) hin, Option.map_some,
    ofMP_toMP valid p h.1.1.1.2]

/-! ### what the host builds is in range -/

theorem wireMetricOK_toMetric (valid : Bytes → Bool) (pm : PublishMetric)
    (h : pubOK valid pm = true) : wireMetricOK valid (toMetric pm) = true := by
  obtain ⟨id, v, ts⟩ := pm
  simp only [pubOK, Bool.and_eq_true] at h
  cases id <;> simp_all [toMetric, wireMetricOK]

theorem inRangeC_metricsToPayload (valid : Bytes → Bool) (clock : Nat) (ms : List PublishMetric)
    (hc : clock < 2 ^ 64) (hms : ∀ pm ∈ ms, pubOK valid pm = true)
    (hl : (encWC (metricsToPayload clock ms)).length < 2 ^ 64) :
    inRangeC valid (metricsToPayload clock ms) = true := by
  simp only [inRangeC, Bool.and_eq_true, List.all_eq_true, decide_eq_true_eq]
  refine ⟨⟨⟨⟨?_, ?_⟩, rfl⟩, rfl⟩, hl⟩
  · simpa [metricsToPayload, u64] using hc
  · intro m hm
    simp only [metricsToPayload, List.mem_map] at hm
    obtain ⟨pm, hpm, rfl⟩ := hm
    exact wireMetricOK_toMetric valid pm (hms pm hpm)

/-- the rebirth request is a few bytes long, whatever the clock reads -/
theorem encFits_rebirth (clock : Nat) :
    (encWC (metricsToPayload clock [rebirthMetric])).length < 2 ^ 64 := by
  have he : encWC (metricsToPayload clock [rebirthMetric]) =
      Wire.encodeKey 1 0 ++ (Wire.encodeVarint clock ++
        encWC { ts := none, metrics := [toMetric rebirthMetric] }) := by rfl
  have hk : (encWC { ts := none, metrics := [toMetric rebirthMetric] }).length = 26 := by decide +kernel
  have hv := Wire.encVarAux_length_le 10 clock
  have h1 : (Wire.encodeKey 1 0).length = 1 := by decide +kernel
  rw [he]
  simp only [List.length_append, hk, h1]
  unfold Wire.encodeVarint
  omega

end Srad.HostCmd
