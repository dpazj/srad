/-
M13 — the protobuf wire codec (prost 0.13 on the Sparkplug B schema) as a theorem instead of an
assumption. Supports C12 / C13 / C08, whose theorems treat the codec as an abstract pair
`enc`/`dec` with the hypothesis `dec (enc p) = some p`.

Model: `SradModel/Model/Wire.lean` (schema-directed encoder / decoder over value trees, tied to
prost byte for byte by the harness component `wire`).

Vocabulary. A message value is `Val.msg rs` where `rs` lists the records `(tag, value)` in the
order they are written. `WF s`: the schema is what prost-build emits (tags in 1..2^29-1 and
unique per message, oneofs non-empty, referenced messages exist, struct fields sorted by smallest
tag). `Typed valid s M v`: every record of `v` (recursively) carries a tag of its message and a
value of that tag's type — `uint32`/`float` below 2^32, `uint64`/`double` below 2^64, `string`s
satisfy `valid` (UTF-8), every string / bytes / nested message body shorter than 2^64 bytes —
and messages nest at most 100 levels below the top message (prost's recursion limit).
`Canonical s M v`: at every level the records follow the struct-field order, at most one record
per `optional` field and per `oneof` — the shape of every tree printed from a Rust struct.
`WellTyped = Typed ∧ Canonical`.
-/
import SradModel.Proofs.Wire
import SradModel.Props.C13

namespace Srad.Wire

def WF (s : Schema) : Prop := wfSchema s = true

def Typed (valid : Bytes → Bool) (s : Schema) (m : String) (v : Val) : Prop :=
  typedMsg valid s m v = true

def Canonical (s : Schema) (m : String) (v : Val) : Prop := canonMsg s m v = true

def WellTyped (valid : Bytes → Bool) (s : Schema) (m : String) (v : Val) : Prop :=
  Typed valid s m v ∧ Canonical s m v

instance (s : Schema) : Decidable (WF s) := by unfold WF; exact inferInstance
instance (valid : Bytes → Bool) (s : Schema) (m : String) (v : Val) :
    Decidable (Typed valid s m v) := by unfold Typed; exact inferInstance
instance (s : Schema) (m : String) (v : Val) : Decidable (Canonical s m v) := by
  unfold Canonical; exact inferInstance
instance (valid : Bytes → Bool) (s : Schema) (m : String) (v : Val) :
    Decidable (WellTyped valid s m v) := by unfold WellTyped; exact inferInstance

/-! ### wire primitives -/

/-- every `u64` survives `encode_varint` / `decode_varint`, whatever follows it in the buffer -/
theorem M13_varint_roundtrip (n : Nat) (rest : Bytes) (h : n < 2 ^ 64) :
    decodeVarint (encodeVarint n ++ rest) = some (n, rest) :=
  decodeVarint_encodeVarint n rest h

/-- a varint is between 1 and 10 bytes long -/
theorem M13_varint_length (n : Nat) :
    1 ≤ (encodeVarint n).length ∧ (encodeVarint n).length ≤ 10 :=
  ⟨encodeVarint_length_pos n, encVarAux_length_le 10 n⟩

/-- `decode_varint` consumes at least one byte and returns a suffix-length remainder -/
theorem M13_varint_consumes (bs : Bytes) (v : Nat) (rest : Bytes)
    (h : decodeVarint bs = some (v, rest)) : rest.length < bs.length :=
  decodeVarint_length h

/-- `float` bit patterns (and `fixed32`) survive 4 little-endian bytes -/
theorem M13_fixed32_roundtrip (n : Nat) (rest : Bytes) (h : n < 2 ^ 32) :
    decodeFixed 4 (le 4 n ++ rest) = some (n, rest) :=
  decodeFixed_le 4 n rest (by omega)

/-- `double` bit patterns (and `fixed64`) survive 8 little-endian bytes -/
theorem M13_fixed64_roundtrip (n : Nat) (rest : Bytes) (h : n < 2 ^ 64) :
    decodeFixed 8 (le 8 n ++ rest) = some (n, rest) :=
  decodeFixed_le 8 n rest (by omega)

/-- field keys: every legal tag with every wire type prost knows -/
theorem M13_key_roundtrip (tag wt : Nat) (rest : Bytes) (h1 : 1 ≤ tag) (h2 : tag < 2 ^ 29)
    (hw : wt ≤ 5) : decodeKey (encodeKey tag wt ++ rest) = some (tag, wt, rest) :=
  decodeKey_encodeKey tag wt rest h1 (by omega) hw

/-- the key is `8 * tag + wire type` -/
theorem M13_key_form (tag wt : Nat) (hw : wt < 8) : keyOf tag wt = 8 * tag + wt :=
  keyOf_eq tag wt hw

/-- length-delimited payloads -/
theorem M13_len_roundtrip (b rest : Bytes) (h : b.length < 2 ^ 64) :
    decodeLen (encodeVarint b.length ++ (b ++ rest)) = some (b, rest) :=
  decodeLen_enc b rest h

/-! ### the schema-directed codec, any well-formed schema -/

/-- Encoded form: a message is the concatenation of its records, each a key followed by the
value's bytes (nothing is written for absent fields because they are no records). -/
theorem M13_encode_form (s : Schema) (es : List Entry) (rs : Recs) :
    encRecs s es rs = rs.flatMap fun r =>
      match findIn es 1 r.1 with
      | some (_, _, ty) => encodeKey r.1 ty.wire ++ encVal s ty r.2
      | none => [] := by
  induction rs with
  | nil => rfl
  | cons r rest ih =>
    obtain ⟨t, v⟩ := r
    cases hf : findIn es 1 t with
    | none => simp [encRecs, ih, hf]
    | some x => obtain ⟨a, b, c⟩ := x; simp [encRecs, ih, hf]

/-- GENERAL FORM. Decoding the encoding of any typed value — records in any order, optional
fields or oneof members written several times, an optional message written in several pieces —
succeeds and yields its normal form `normMsg` (the struct prost builds by merging the records in
the order written: last one wins for optional scalars and oneofs, piecewise merge for optional
messages and a repeated oneof message member, append for repeated fields). -/
theorem M13_decode_encode_normal_form (valid : Bytes → Bool) (s : Schema) (hs : WF s) (m : String)
    (v : Val) (hv : Typed valid s m v) :
    decodeMsg valid s m (encodeMsg s m v) = some (normMsg s m v) := by
  obtain ⟨es, rs, hl, rfl, ht⟩ := typedMsgD_iff.mp hv
  rw [encodeMsg_msg rs hl, normMsg_msg rs hl]
  exact decodeMsg_encRecs (fun _ h => h) (schemaOK_of_wf s hs) hl (Nat.le_refl _) ht

/-- the normal form of a canonical value is the value itself -/
theorem M13_normal_form_of_canonical (valid : Bytes → Bool) (s : Schema) (m : String) (v : Val)
    (hv : WellTyped valid s m v) : normMsg s m v = v := by
  obtain ⟨es, rs, hl, rfl, ht⟩ := typedMsgD_iff.mp hv.1
  have hc : canonRecs s recursionLimit es rs = true := (canonMsgD_msg hl).symm.trans hv.2
  rw [normMsg_msg rs hl, normRecs_canon valid s recursionLimit es rs ht hc]

/-- MAIN THEOREM. For every well-formed schema and every well-typed value `v` of message `m`:
`decode (encode v) = v`, exactly. Preserved: presence / absence of every optional field (also
`Some 0`, `Some ""`, `Some false`, an empty nested message), the selected oneof member, the
length and order of every repeated field, every number bit for bit (float / double as IEEE bit
patterns, so NaN payloads too), every string and byte string. Not representable, hence not
preserved (neither in `Val` nor in the Rust structs): a "present but empty" repeated field, a
selected oneof without member, field order or repetition on the wire (see the general form). -/
theorem M13_roundtrip (valid : Bytes → Bool) (s : Schema) (hs : WF s) (m : String) (v : Val)
    (hv : WellTyped valid s m v) : decodeMsg valid s m (encodeMsg s m v) = some v := by
  rw [M13_decode_encode_normal_form valid s hs m v hv.1, M13_normal_form_of_canonical valid s m v hv]

/-- the encoder is injective on well-typed values: distinct values have distinct encodings -/
theorem M13_encode_injective (valid : Bytes → Bool) (s : Schema) (hs : WF s) (m : String)
    (v w : Val) (hv : WellTyped valid s m v) (hw : WellTyped valid s m w)
    (h : encodeMsg s m v = encodeMsg s m w) : v = w :=
  inj_of_roundtrip (M13_roundtrip valid s hs m v hv) (M13_roundtrip valid s hs m w hw) h

/-! ### the Sparkplug B schema -/

/-- the transcription of `sparkplug_payload.rs` is a well-formed schema -/
theorem M13_sparkplug_wellformed : WF sparkplug := by unfold WF; decide +kernel

/-- every well-typed Sparkplug `Payload` (and every other message of the schema) round-trips -/
theorem M13_sparkplug_roundtrip (valid : Bytes → Bool) (m : String) (v : Val)
    (hv : WellTyped valid sparkplug m v) :
    decodeMsg valid sparkplug m (encodeMsg sparkplug m v) = some v :=
  M13_roundtrip valid sparkplug M13_sparkplug_wellformed m v hv

theorem M13_sparkplug_payload_roundtrip (valid : Bytes → Bool) (v : Val)
    (hv : WellTyped valid sparkplug "Payload" v) :
    decodeMsg valid sparkplug "Payload" (encodeMsg sparkplug "Payload" v) = some v :=
  M13_sparkplug_roundtrip valid "Payload" v hv


/-! ### the normal form prost produces -/

/-- Whatever bytes the decoder accepts — any field order, repeated optional fields, packed or
unpacked, unknown fields, over-long varints — the value it builds is canonical: records in
struct-field order, at most one per optional field and per oneof, at every nesting level. -/
theorem M13_decode_canonical (valid : Bytes → Bool) (s : Schema) (m : String) (bs : Bytes) (v : Val)
    (h : decodeMsg valid s m bs = some v) : Canonical s m v := by
  unfold decodeMsg at h
  cases hl : lookupMsg s m with
  | none => simp [hl] at h
  | some es =>
    simp only [hl] at h
    obtain ⟨res, hm, rfl⟩ := Option.map_eq_some_iff.mp h
    exact (canonMsgD_msg hl).trans ((Dec.of_mergeLoop hm).canon (canonRecs_nil s _ es))

/-- hence decoding is stable: a decoded value that is typed (always, unless a re-encoded nested
body reaches 2^64 bytes) encodes to bytes that decode to exactly the same value -/
theorem M13_decode_encode_decode (valid : Bytes → Bool) (s : Schema) (hs : WF s) (m : String)
    (bs : Bytes) (v : Val) (h : decodeMsg valid s m bs = some v) (ht : Typed valid s m v) :
    decodeMsg valid s m (encodeMsg s m v) = some v :=
  M13_roundtrip valid s hs m v ⟨ht, M13_decode_canonical valid s m bs v h⟩

/-! ### totality -/

/-- `decodeMsg` is a total function (structural recursion on fuel; Lean accepts no other), so it
"never panics" by construction: every input is answered `some tree` or `none`. The fuel is the
input length and is never the reason for `none`: any larger fuel gives the same answer, so `none`
only ever stands for a prost `DecodeError`. (The loop answers `some` only when the buffer is
empty, and a nested message is decoded on exactly the bytes its length prefix announces: the
input is consumed exactly, by construction.) -/
theorem M13_decode_fuel_irrelevant (valid : Bytes → Bool) (s : Schema) (f d : Nat)
    (es : List Entry) (acc : Recs) (bs : Bytes) (h : bs.length ≤ f) :
    mergeLoop valid s f d es acc bs = mergeLoop valid s bs.length d es acc bs :=
  mergeLoop_fuel f bs.length d es acc bs h (Nat.le_refl _)

/-- the same for skipping unknown fields (`skip_field`, groups included) -/
theorem M13_skip_fuel_irrelevant (f depth wt tag : Nat) (bs : Bytes)
    (h : 2 * bs.length + 2 ≤ f) : skipAux f depth wt tag bs = skipField depth wt tag bs :=
  (skip_fuel f (2 * bs.length + 2)).1 depth wt tag bs h (Nat.le_refl _)

/-- skipping and scalar decoding only ever move forward in the buffer -/
theorem M13_skip_consumes (depth wt tag : Nat) (bs rest : Bytes)
    (h : skipField depth wt tag bs = some rest) : rest.length ≤ bs.length :=
  skipField_length h

/-! ### C13 without the codec assumption

`C13_node_faithful` / `C13_device_faithful` are stated for an abstract payload type `P` and a
codec `enc`/`dec` with `dec (enc p) = some p`. Here `P` is the type of well-typed Sparkplug
`Payload` trees and the codec is the wire model; the assumption is discharged by
`M13_sparkplug_payload_roundtrip`. -/

/-- well-typed `Payload` trees -/
def PayloadTree (valid : Bytes → Bool) : Type :=
  { v : Val // WellTyped valid sparkplug "Payload" v }

def wireEnc (valid : Bytes → Bool) (p : PayloadTree valid) : Bytes :=
  encodeMsg sparkplug "Payload" p.1

/-- `Payload::decode`; the result of a successful decode of a *published* payload is well-typed
again (for arbitrary bytes the check can only fail on a nested body of 2^64 bytes or more) -/
def wireDec (valid : Bytes → Bool) (bs : Bytes) : Option (PayloadTree valid) :=
  match decodeMsg valid sparkplug "Payload" bs with
  | some v => if h : WellTyped valid sparkplug "Payload" v then some ⟨v, h⟩ else none
  | none => none

theorem M13_wire_codec_sound (valid : Bytes → Bool) (p : PayloadTree valid) :
    wireDec valid (wireEnc valid p) = some p := by
  obtain ⟨v, hv⟩ := p
  simp [wireDec, wireEnc, M13_sparkplug_payload_roundtrip valid v hv, hv]

open Srad.Topic in
/-- `C13_node_faithful` with the wire model as codec: no assumption about prost left -/
theorem M13_C13_node_faithful (valid : Bytes → Bool) (g n : Bytes) (v : Verb)
    (p : PayloadTree valid) (hg : validateName g = true) (hn : validateName n = true)
    (hvg : valid g = true) (hvn : valid n = true) (hne : g ≠ STATE) :
    parse valid (wireDec valid) (nodeTopic g v n) (wireEnc valid p) = .node g n (kindOfVerb v) p :=
  C13_node_faithful valid (wireEnc valid) (wireDec valid) (M13_wire_codec_sound valid)
    g n v p hg hn hvg hvn hne

open Srad.Topic in
/-- `C13_device_faithful` with the wire model as codec -/
theorem M13_C13_device_faithful (valid : Bytes → Bool) (g n d : Bytes) (v : Verb)
    (p : PayloadTree valid) (hg : validateName g = true) (hn : validateName n = true)
    (hd : validateName d = true) (hvg : valid g = true) (hvn : valid n = true)
    (hvd : valid d = true) (hne : g ≠ STATE) :
    parse valid (wireDec valid) (deviceTopic g v n d) (wireEnc valid p) =
      .device g n d (kindOfVerb v) p :=
  C13_device_faithful valid (wireEnc valid) (wireDec valid) (M13_wire_codec_sound valid)
    g n d v p hg hn hd hvg hvn hvd hne

/-! ### non-vacuity: the hypotheses are satisfiable by non-trivial inputs -/

/-- an ASCII stand-in for `String::from_utf8(..).is_ok()` (the theorems hold for every `valid`) -/
def asciiValid (b : Bytes) : Bool := b.all (· < 128)

/-- NDATA-like payload: timestamp, a metric with name, alias, datatype, a property set nested
three levels (PropertySet > PropertyValue > PropertySet > PropertyValue), a template value
holding a metric with a double and a parameter, an empty metric, seq 0 -/
def examplePayload : Val :=
  .msg [(1, .num 1727600000000),
    (2, .msg [(1, .bytes [97, 98]), (2, .num 7), (4, .num 19),
      (9, .msg [(1, .bytes [107]),
        (2, .msg [(1, .num 20), (9, .msg [(1, .bytes [120]), (2, .msg [(3, .num 5)])])])]),
      (18, .msg [(1, .bytes []),
        (2, .msg [(1, .bytes [109]), (13, .num 4611686018427387904)]),
        (3, .msg [(1, .bytes [112]), (7, .bool true)]), (5, .bool false)])]),
    (2, .msg []), (3, .num 0)]

example : WellTyped asciiValid sparkplug "Payload" examplePayload := by decide +kernel

example : decodeMsg asciiValid sparkplug "Payload" (encodeMsg sparkplug "Payload" examplePayload) =
    some examplePayload :=
  M13_sparkplug_payload_roundtrip asciiValid examplePayload (by decide +kernel)

/-- the same records written in another order, the optional `seq` twice and the property set in
two pieces: typed but not canonical -/
def exampleShuffled : Val :=
  .msg [(3, .num 9), (2, .msg [(9, .msg [(1, .bytes [107])]), (2, .num 7),
      (9, .msg [(2, .msg [(3, .num 5)])]), (1, .bytes [97])]),
    (1, .num 5), (3, .num 0)]

example : Typed asciiValid sparkplug "Payload" exampleShuffled := by decide +kernel
example : ¬ Canonical sparkplug "Payload" exampleShuffled := by decide +kernel

/-- its normal form: `seq` = the last value, the two pieces of the property set merged, records
back in struct order -/
example : normMsg sparkplug "Payload" exampleShuffled =
    .msg [(1, .num 5),
      (2, .msg [(1, .bytes [97]), (2, .num 7), (9, .msg [(1, .bytes [107]), (2, .msg [(3, .num 5)])])]),
      (3, .num 0)] := by rfl

example : decodeMsg asciiValid sparkplug "Payload" (encodeMsg sparkplug "Payload" exampleShuffled) =
    some (.msg [(1, .num 5),
      (2, .msg [(1, .bytes [97]), (2, .num 7), (9, .msg [(1, .bytes [107]), (2, .msg [(3, .num 5)])])]),
      (3, .num 0)]) :=
  M13_decode_encode_normal_form asciiValid sparkplug M13_sparkplug_wellformed "Payload"
    exampleShuffled (by decide +kernel)

/-- tags outside 1..2^29-1 are not a well-formed schema -/
example : ¬ WF [⟨"M", [optF 0 .uint64]⟩] := by decide +kernel
example : ¬ WF [⟨"M", [optF 1 .uint64, repF 1 .bool]⟩] := by decide +kernel
example : ¬ WF [⟨"M", [optF 1 (.message "N")]⟩] := by decide +kernel

end Srad.Wire
