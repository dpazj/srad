/-
C06 (and the history-universal statements of C05 / C07) WITHOUT quiescence between events.
`Model/HostQ` is the host application as a labelled transition system: the dispatcher with its
inbox, per node a bounded message queue, the capacity-1 rebirth channel, the actor (`Host.step`
as a black box) and the reorder-timeout task; `Reach c q t0 σ outs` = an execution (any
interleaving of push / dispatch / offl / actMsg / actReason / fire / tick) from the initial state
to `σ`, `outs` being the record of what every transition did.

The theorems of `Props/C05.lean`, `C06.lean`, `C07.lean` quantify over ALL input histories of one
actor. Here: in every execution of the LTS every node's actor has run exactly such a history
(`C06Q_actor_trace_is_run`), hence all of them hold without quiescence too.

Hypotheses, explicitly:
* events pushed by the environment are `u8`-well-formed (`AppEv.wf`, the GUARD of `push`: it is
  what the types `u8` of `seq` / `bdseq` in srad-app/src/events.rs guarantee);
* `DeathsPrompt outs` (only `C06Q_actor_trace_is_run`): every NDEATH was handled at the clock
  reading it was dispatched at. `Node::handle_death` marks stale with the DISPATCH time and, on a
  bdSeq mismatch, `issue_rebirth` reads the clock AGAIN: one NDEATH = two actor inputs with two
  readings. `C06Q_actor_trace_is_run_exact` needs no such hypothesis, and in that form
  (`actor_of_run`) the corollaries use it; `C06Q_ndeath_is_one_step` says when the two inputs
  collapse into `Host.step` on the NDEATH;
* ClockCoherent (`birthTs ≤` the clock readings involved) where `C07_ncmd_only_when_stale` has it.
-/
import SradModel.Proofs.HostQ
import SradModel.Props.C05
import SradModel.Props.C06
import SradModel.Props.C07

namespace Srad.HostQ
open Srad.Host

/-- **Every actor's trace is a run of `Host.run`, exact form** (no hypothesis). For every
execution and every node `n`: the effects `n`'s actor produced are those of `Host.run` from
`Host.init` on the history `histOf n outs` of inputs it executed, and its state is the state
that run ends in. The messages it took from its queue followed by those still queued are, in
order, exactly the messages the dispatcher put in (FIFO, none lost, none duplicated); the reasons
it took from the rebirth channel followed by the pending one are exactly the reasons that were
ACCEPTED into the channel (by the dispatcher or the timeout task; a reason offered while one was
pending is in neither list). Every input of the history is well formed, its `now` reading is at
most its `wall` reading (they differ only for an NDEATH: dispatch vs. handling time), `wall` is at
most the clock and never decreases along the history. -/
theorem C06Q_actor_trace_is_run_exact (c : Cfg) (q t0 : Nat) (σ : State) (outs : List Out)
    (h : Reach c q t0 σ outs) (n : Nat) :
    effsOf n outs = (Host.run c Host.init (histOf n outs)).2 ∧
    (σ.node n).st = (Host.run c Host.init (histOf n outs)).1 ∧
    tookMsgsOf n outs ++ (σ.node n).queue = sentOf n outs ∧
    tookReasonsOf n outs ++ (σ.node n).pending.toList = acceptedOf n outs ∧
    (∀ e ∈ histOf n outs, e.inp.WF ∧ e.now ≤ e.wall ∧ e.wall ≤ σ.clock) ∧
    (histOf n outs).Pairwise (fun a b => a.wall ≤ b.wall) := by
  have g := (reach_ginv h).nodes n
  exact ⟨g.effs_eq, g.st_eq, g.fifo, g.chan, g.hist_ok, g.sorted⟩

/-- **Every actor's trace is a run of `Host.run`** — the statement with the history spelled out.
If every NDEATH was handled at the clock reading it was dispatched at (`DeathsPrompt`; e.g. the
clock does not move while an NDEATH waits in a queue), then for every execution and node `n`
there is a history `evs : List Host.Ev` such that
* the effects of `n`'s actor are `(Host.run c Host.init evs).2`, its state `(…).1`;
* the message inputs of `evs` (nbirth / ndeath / rmsg / offline) are, in order, exactly the
  messages the actor took from its queue, and these followed by the queue's content are exactly
  the messages dispatched to `n`: FIFO preserved, none lost, none duplicated;
* the `rebirthReq` inputs of `evs` are, in order, exactly the reasons taken from the rebirth
  channel, and these followed by the pending one are exactly the reasons ACCEPTED into it
  (`timerFire` never occurs: the timeout task's reason arrives as `rebirthReq reorderTimeout`);
* every input is well formed; `now ≤ wall ≤` the clock; `wall` never decreases. -/
theorem C06Q_actor_trace_is_run (c : Cfg) (q t0 : Nat) (σ : State) (outs : List Out)
    (h : Reach c q t0 σ outs) (hp : DeathsPrompt outs) (n : Nat) :
    ∃ evs : List Ev,
      effsOf n outs = (Host.run c Host.init evs).2 ∧
      (σ.node n).st = (Host.run c Host.init evs).1 ∧
      msgInputs evs = (tookMsgsOf n outs).map (·.inp) ∧
      tookMsgsOf n outs ++ (σ.node n).queue = sentOf n outs ∧
      reasonInputs evs = tookReasonsOf n outs ∧
      tookReasonsOf n outs ++ (σ.node n).pending.toList = acceptedOf n outs ∧
      (∀ e ∈ evs, e.inp.WF ∧ e.now ≤ e.wall ∧ e.wall ≤ σ.clock) ∧
      evs.Pairwise (fun a b => a.wall ≤ b.wall) := by
  have G := reach_ginv h
  have g := G.nodes n
  have hpl := wf_plain G.wf hp n
  obtain ⟨hmsg, hreason, hok, hsorted⟩ := wf_plainHist G.wf n
  refine ⟨plainHistOf n outs, ?_, ?_, hmsg, g.fifo, hreason, g.chan, hok, hsorted⟩
  · rw [hpl]; exact g.effs_eq
  · rw [hpl]; exact g.st_eq

/-- when one queued NDEATH is one `Host.step`: the clock did not move between dispatch and
handling, or the birth timestamp the actor holds is not ahead of the dispatch time
(ClockCoherent), or the node is held stale anyway. Otherwise (the excluded point lies inside known
finding K1: node clock ahead of the host's) the code's two clock readings are two inputs. -/
theorem C06Q_ndeath_is_one_step (c : Cfg) (s : St) (bd d t : Nat)
    (h : d = t ∨ s.birthTs ≤ d ∨ s.life = .stale) :
    Host.run c s (actEvs s ⟨.ndeath bd, d⟩ t) = Host.step c s (.ndeath bd) d t :=
  ndeath_is_one_step c s bd d t h

/-- **C06, first sentence, without quiescence.** In every execution, in every node's effect
trace, each data effect on the node's store is preceded, most recently among its lifecycle
effects, by an accepted birth, and each data effect on a device's store likewise for the node
and for that device. (`C06_data_guarded` carried over by `actor_of_run`.) -/
theorem C06Q_data_guarded (c : Cfg) (q t0 : Nat) (σ : State) (outs : List Out)
    (h : Reach c q t0 σ outs) (n : Nat) :
    DataGuarded .stale (fun _ => .stale) (effsOf n outs) :=
  actor_of_run h n (fun _ es => DataGuarded .stale (fun _ => .stale) es) (C06_data_guarded c)

/-- every actor state in every reachable state of the LTS satisfies the invariant -/
theorem C06Q_reachable_inv (c : Cfg) (q t0 : Nat) (σ : State) (outs : List Out)
    (h : Reach c q t0 σ outs) (n : Nat) : HostInv (σ.node n).st :=
  actor_of_run h n (fun s _ => HostInv s) (C06_reachable_inv c)

/-- what an actor records as lifecycle is what its stores were told, in every reachable state -/
theorem C06Q_state_matches_trace (c : Cfg) (q t0 : Nat) (σ : State) (outs : List Out)
    (h : Reach c q t0 σ outs) (n : Nat) :
    (σ.node n).st.life = nodeLife .stale (effsOf n outs) ∧
    ∀ d, devState (σ.node n).st d = devLife d .stale (effsOf n outs) :=
  actor_of_run h n (fun s es => s.life = nodeLife .stale es ∧ ∀ d, devState s d = devLife d .stale es)
    (C06_state_matches_trace c)

/-- **C07 "only for a node it holds stale", without quiescence** (ClockCoherent). In every
reachable state, whichever arm of the actor's `select!` is taken — a queued message or the pending
reason, at whatever position the scheduler chose —: if the step publishes the rebirth NCMD, the
node is held stale afterwards and its store was marked stale if it was not.
`hclock` / `hdisp`: the birth timestamp the actor holds is not ahead of the clock readings the
step uses (the handling time; for a queued NDEATH its dispatch time). -/
theorem C07Q_ncmd_only_when_stale (c : Cfg) (q t0 : Nat) (σ σ' : State) (outs o : List Out)
    (h : Reach c q t0 σ outs) (n : Nat)
    (hs : HostQ.step c q σ (.actMsg n) = some (σ', o) ∨ HostQ.step c q σ (.actReason n) = some (σ', o))
    (hclock : (σ.node n).st.birthTs ≤ σ.clock)
    (hdisp : ∀ m ∈ (σ.node n).queue, (σ.node n).st.birthTs ≤ m.disp)
    (hn : Eff.ncmd ∈ effsOf n o) :
    (σ'.node n).st.life = .stale ∧
    ((σ.node n).st.life = .birthed → Eff.nodeStale ∈ effsOf n o) := by
  have hinv := C06Q_reachable_inv c q t0 σ outs h n
  have g := (reach_ginv h).nodes n
  rcases hs with hs | hs
  · obtain ⟨m, rest, hq, hst, heff⟩ := actMsg_step hs
    have hmem : m ∈ (σ.node n).queue := hq ▸ List.mem_cons_self ..
    have hmd := hdisp m hmem
    have hpl := actEvs_plain c (σ.node n).st m σ.clock (fun bd _ => Or.inr (Or.inl hmd))
    rw [run_single] at hpl
    have hnow : (σ.node n).st.birthTs ≤ m.now σ.clock := by
      unfold QMsg.now
      split
      · exact hmd
      · exact hclock
    rw [heff, hpl] at hn
    rw [hst, heff, hpl]
    exact C07_ncmd_only_when_stale c _ m.inp (m.now σ.clock) σ.clock hinv (g.queue_ok m hmem).1 hnow hn
  · obtain ⟨r, _, hst, heff⟩ := actReason_step hs
    rw [heff] at hn
    rw [hst, heff]
    exact C07_ncmd_only_when_stale c _ (.rebirthReq r) σ.clock σ.clock hinv trivial hclock hn

/-- **C05 order, without quiescence.** In every reachable state, when node `n`'s actor takes a
resequenceable message from its queue — wherever the scheduler placed that step relative to
pending reasons —, the messages the step applies carry consecutive sequence numbers starting at
the expected one, and unless the step ends in staleness the expected number advances by exactly
their count. -/
theorem C05Q_applied_consecutive (c : Cfg) (q t0 : Nat) (σ σ' : State) (outs o : List Out)
    (h : Reach c q t0 σ outs) (n : Nat) (seq ts d : Nat) (rm : RMsg) (rest : List QMsg)
    (hq : (σ.node n).queue = ⟨.rmsg seq ts rm, d⟩ :: rest)
    (hs : HostQ.step c q σ (.actMsg n) = some (σ', o)) (hres : c.resequence = true) :
    (∀ k (hk : k < (appliedSeqs c (σ.node n).st (.rmsg seq ts rm)).length),
        (appliedSeqs c (σ.node n).st (.rmsg seq ts rm))[k] = ((σ.node n).st.reseq.next + k) % 256) ∧
    ((σ'.node n).st.life = .birthed →
        (σ'.node n).st.reseq.next
          = ((σ.node n).st.reseq.next + (appliedSeqs c (σ.node n).st (.rmsg seq ts rm)).length) % 256) := by
  have hinv := C06Q_reachable_inv c q t0 σ outs h n
  have g := (reach_ginv h).nodes n
  obtain ⟨m, rest', hq', hst, _⟩ := actMsg_step hs
  obtain ⟨rfl, rfl⟩ := List.cons.inj (hq.symm.trans hq')
  have hwf : In.WF (.rmsg seq ts rm) := (g.queue_ok _ (hq ▸ List.mem_cons_self ..)).1
  obtain ⟨h1, h2⟩ := C05_applied_consecutive c _ (.rmsg seq ts rm) σ.clock σ.clock hinv hwf hres
  refine ⟨h1, ?_⟩
  rw [hst]
  exact fun hb => h2 hb (fun _ _ _ _ hc => by cases hc)

/-- **The capacity-1 rebirth channel, stated outright**: `try_send` while a reason is pending
changes nothing and reports failure (the new reason is dropped); into the empty channel it is
accepted. -/
theorem HostQ_reason_dropped_when_pending (nd : Node) (r r0 : Reason) (h : nd.pending = some r0) :
    offer nd r = (nd, false) := by
  simp [offer, h]

theorem HostQ_reason_accepted_when_empty (nd : Node) (r : Reason) (h : nd.pending = none) :
    offer nd r = ({ nd with pending := some r }, true) := by
  simp [offer, h]

/-- … at the level of the LTS: the dispatcher handling an invalid payload for a node whose
rebirth channel is occupied records a dropped offer and leaves that node as it was; the same for
the reorder-timeout task completing -/
theorem HostQ_dispatch_drops_reason (c : Cfg) (q : Nat) (σ σ' : State) (o : List Out) (n : Nat)
    (nd : Node) (r0 : Reason) (rest : List AppEv) (hip : c.invalidPayload = true)
    (hin : σ.inbox = .invalid n :: rest) (hsend : σ.sending = [])
    (hg : getNode n σ.nodes = some nd) (hp : nd.pending = some r0)
    (hs : HostQ.step c q σ .dispatch = some (σ', o)) :
    o = [.offered n .invalidPayload false] ∧ σ'.node n = nd ∧ acceptedOf n o = [] := by
  simp only [HostQ.step, hsend, List.isEmpty_nil, if_true, hin, dispatchEv, hip,
    Option.some.injEq, Prod.mk.injEq] at hs
  obtain ⟨rfl, rfl⟩ := hs
  simp [State.node, State.withNode, hg, offer, hp, getNode_setNode_self, acceptedOf, Out.accepted]

theorem HostQ_timeout_drops_reason (c : Cfg) (q : Nat) (σ σ' : State) (o : List Out) (n : Nat)
    (nd : Node) (r0 : Reason) (hg : getNode n σ.nodes = some nd) (hp : nd.pending = some r0)
    (hs : HostQ.step c q σ (.fire n) = some (σ', o)) :
    o = [.offered n .reorderTimeout false] ∧ (σ'.node n).pending = some r0 ∧
    (σ'.node n).task = none := by
  obtain ⟨nd', hf, rfl, _⟩ := onNode_some hs
  rw [node_of_get hg] at hf
  unfold Node.fire at hf
  split at hf
  · cases hf
  · split at hf <;> cases hf
    rw [HostQ_reason_dropped_when_pending { nd with task := none } _ r0 hp, node_withNode_self]
    exact ⟨rfl, hp, rfl⟩

/-! ### non-vacuity -/

/-- srad's default switches plus `invalid_payload`, timeout 100 ms, no cooldown -/
def exQ : Cfg := { exampleCfg (some 100) 0 with invalidPayload := true }

/-- **The unbiased select**: NDATA for an unknown node queues the `UnknownNode` reason, the NBIRTH
right behind it is queued as a message. Schedule A takes the reason first (NCMD, then the birth),
schedule B takes the NBIRTH first and the OLDER reason AFTER it: the node that was just birthed
is marked stale again and asked for a rebirth. Both are executions of the LTS. -/
example :
    (execL exQ 1 (State.init 1000)
      [.push (.node 1 (.rmsg 1 1000 (.ndata 7 .ok))), .push (.node 1 (.nbirth 1000 3 8 .ok)),
       .dispatch, .dispatch, .actReason 1, .actMsg 1]).map (fun r => effsOf 1 r.2)
      = some [.ncmd, .nodeBirth 8 true] := by decide

example :
    (execL exQ 1 (State.init 1000)
      [.push (.node 1 (.rmsg 1 1000 (.ndata 7 .ok))), .push (.node 1 (.nbirth 1000 3 8 .ok)),
       .dispatch, .dispatch, .actMsg 1, .actReason 1]).map (fun r => effsOf 1 r.2)
      = some [.nodeBirth 8 true, .nodeStale, .ncmd] := by decide

/-- **The dispatcher is blocked by a full queue** (capacity 1): the second message cannot be
dispatched until the actor has taken the first -/
example :
    (execL exQ 1 (State.init 1000)
      [.push (.node 1 (.nbirth 1000 3 1 .ok)), .push (.node 1 (.rmsg 1 1001 (.ndata 2 .ok))),
       .dispatch, .dispatch]).isNone = true ∧
    (execL exQ 1 (State.init 1000)
      [.push (.node 1 (.nbirth 1000 3 1 .ok)), .push (.node 1 (.rmsg 1 1001 (.ndata 2 .ok))),
       .dispatch, .actMsg 1, .dispatch, .actMsg 1]).map (fun r => effsOf 1 r.2)
      = some [.nodeBirth 1 true, .nodeData 2] ∧
    -- with room for two the same schedule of the dispatcher is enabled
    (execL exQ 2 (State.init 1000)
      [.push (.node 1 (.nbirth 1000 3 1 .ok)), .push (.node 1 (.rmsg 1 1001 (.ndata 2 .ok))),
       .dispatch, .dispatch]).isSome = true := by decide

/-- **A second reason is dropped while one is pending**: two invalid payloads, one NCMD -/
example :
    (execL exQ 4 (State.init 1000)
      [.push (.invalid 1), .push (.invalid 1), .dispatch, .dispatch, .actReason 1]).map
        (fun r => (effsOf 1 r.2, acceptedOf 1 r.2, (r.1.node 1).pending))
      = some ([.ncmd], [.invalidPayload], none) := by decide

/-- the hypotheses of `C06Q_actor_trace_is_run` are satisfiable by a non-trivial execution: an
NDEATH with a wrong bdSeq handled at the reading it was dispatched at (`DeathsPrompt`), the
history has three inputs, the trace is the `Host.run` of it -/
example :
    (execL exQ 4 (State.init 1000)
      [.push (.node 1 (.nbirth 990 3 1 .ok)), .push (.node 1 (.ndeath 4)), .dispatch, .dispatch,
       .actMsg 1, .actMsg 1]).map (fun r => (effsOf 1 r.2, plainHistOf 1 r.2))
      = some ([.nodeBirth 1 true, .nodeStale, .ncmd],
              [⟨.nbirth 990 3 1 .ok, 1000, 1000⟩, ⟨.ndeath 4, 1000, 1000⟩]) ∧
    (Host.run exQ Host.init [⟨.nbirth 990 3 1 .ok, 1000, 1000⟩, ⟨.ndeath 4, 1000, 1000⟩]).2
      = [.nodeBirth 1 true, .nodeStale, .ncmd] := by decide

/-- ClockCoherent (`hclock`, `hdisp` of `C07Q_ncmd_only_when_stale`) is satisfiable by a reachable
state whose next actor step publishes the NCMD: node 1 birthed with timestamp 990 at clock 1000,
an NDEATH with a wrong bdSeq dispatched at 1000 waiting in its queue -/
example :
    (execL exQ 4 (State.init 1000)
      [.push (.node 1 (.nbirth 990 3 1 .ok)), .push (.node 1 (.ndeath 4)), .dispatch, .dispatch,
       .actMsg 1]).map (fun r =>
        (decide ((r.1.node 1).st.birthTs ≤ r.1.clock),
         (r.1.node 1).queue.all (fun m => decide ((r.1.node 1).st.birthTs ≤ m.disp)),
         (HostQ.step exQ 4 r.1 (.actMsg 1)).map (fun x => (effsOf 1 x.2, (x.1.node 1).st.life))))
      = some (true, true, some ([.nodeStale, .ncmd], .stale)) := by decide

/-- the point `DeathsPrompt` / ClockCoherent exclude, exhibited: the clock moves on while an NDEATH
with a wrong bdSeq, for a node whose birth timestamp (1005) is ahead of the dispatch time (1000),
waits in the queue. The two clock readings of `Node::handle_death` differ: the staleness is the
second one's, the exact history `histOf` has three inputs … -/
example :
    (execL exQ 4 (State.init 1000)
      [.push (.node 1 (.nbirth 1005 3 1 .ok)), .push (.node 1 (.ndeath 4)), .dispatch, .dispatch,
       .actMsg 1, .tick, .tick, .tick, .tick, .tick, .tick, .actMsg 1]).map
        (fun r => (effsOf 1 r.2, histOf 1 r.2))
      = some ([.nodeBirth 1 true, .nodeStale, .ncmd],
              [⟨.nbirth 1005 3 1 .ok, 1000, 1000⟩, ⟨.ndeath 3, 1000, 1006⟩,
               ⟨.rebirthReq .outOfSyncBdSeq, 1006, 1006⟩]) ∧
    -- … while a single `Host.step` on that NDEATH with the dispatch time does not mark stale (K1)
    (Host.run exQ Host.init [⟨.nbirth 1005 3 1 .ok, 1000, 1000⟩, ⟨.ndeath 4, 1000, 1006⟩]).2
      = [.nodeBirth 1 true, .ncmd] := by decide

/-- resequencing on, a queued resequenceable message (hypotheses of `C05Q_applied_consecutive`):
seq 2 before seq 1 in the queue, both applied by the step that takes seq 1 -/
example :
    (execL exQ 4 (State.init 1000)
      [.push (.node 1 (.nbirth 990 3 1 .ok)), .push (.node 1 (.rmsg 2 991 (.ndata 3 .ok))),
       .push (.node 1 (.rmsg 1 991 (.ndata 2 .ok))), .dispatch, .dispatch, .dispatch,
       .actMsg 1, .actMsg 1]).map (fun r =>
        (exQ.resequence, (r.1.node 1).queue,
         appliedSeqs exQ (r.1.node 1).st (.rmsg 1 991 (.ndata 2 .ok))))
      = some (true, [⟨.rmsg 1 991 (.ndata 2 .ok), 1000⟩], [1, 2]) := by decide

/-- executions built by `execL` are executions: the theorems apply to the examples above -/
theorem execL_reach (c : Cfg) (q t0 : Nat) (ls : List Label) (σ : State) (o : List Out)
    (h : execL c q (State.init t0) ls = some (σ, o)) : Reach c q t0 σ o := by
  have := reach_execL ls (Reach.init (c := c) (q := q) (t0 := t0)) h
  simpa using this

end Srad.HostQ
