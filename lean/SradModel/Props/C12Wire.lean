/-
C12W — C12 (metric fields survive the trip from node handle to host store) for the CONCRETE
protobuf codec: the codec parameter `enc`/`dec` of the C12 theorems and its hypothesis
`WireSound enc dec` are replaced by the M13 wire model,

  encW p       = encodeMsg sparkplug "Payload" (toTree p)                 -- `Payload::encode_to_vec`
  decW valid b = decodeMsg valid sparkplug "Payload" b >>= ofTree         -- `Payload::decode`

(`Model/MetricWire.lean`), and the hypothesis is discharged by `M13_sparkplug_payload_roundtrip`.

`WireSound` cannot hold literally for a real codec: the records of `Model/Metric.lean` have
unbounded `Nat` fields and arbitrary byte lists as strings. The hypotheses that remain say that
the values are values of the Rust types:

* `InRange valid p` (decidable, `inRange`): `timestamp`, `seq`, `alias`, `size` are `u64`;
  `datatype` and property `type` codes are `u32`; `Int`/`Float` bit patterns are below 2^32,
  `Long`/`Double` below 2^64; every `String` (names, keys, string values, metadata, `uuid`)
  satisfies `valid` (= `String::from_utf8(..).is_ok()`; the theorems hold for every `valid`);
  nested messages stay within prost's recursion limit of 100 levels below the payload (only
  property sets — two levels per nested set — and templates can nest); and the encoding has
  fewer than 2^64 bytes (`EncFits`; it is a `Vec<u8>`).
* `PubMetric.InRange valid pm` (decidable, `pubMetricOK`): the same for what a task hands to a
  publish call, stated on the edge-side types: name valid / alias a `u64`, timestamp a `u64`, the
  value in range, metadata strings valid and `size` a `u64`, and for the property set (`upsOK`)
  keys valid, scalars in range, sets nested in sets at most 49 deep (type codes come from
  `DataType` and are always in range).
* `PubMetric.WF` as in C12 (a property set is a hash map: distinct keys).

Nothing is kept abstract. Data sets and templates, which `Model/Metric.lean` carries as the prost
bytes `enc` of the sub-message (`MVal.dataset enc` / `.template enc`), are decoded with the M13
decoder for `DataSet` / `Template` into the sub-tree under tag 17 / 18 and re-encoded by `ofTree`;
`InRange` demands of `enc` what the representation means (`subOK`): `enc` decodes, the tree is
typed and canonical with 98 levels left, and encodes to `enc` again — i.e. `enc` IS the encoding
of a `DataSet` / `Template` struct (`C12W_dataset_bytes_of_struct` shows that every such encoding
qualifies).
-/
import SradModel.Proofs.MetricWire

namespace Srad.Metric
open Srad.Codec (Bytes DT)
open Srad.Wire (sparkplug)

/-! ### the tie between payload records and value trees (M13_README steps 1–3) -/

/-- Reading back the tree printed for an in-range payload gives exactly the payload record:
every optional field present or absent as it was, the metrics in order, the selected member of
every oneof, nested property sets and set lists, data sets and templates byte for byte. -/
theorem C12W_ofTree_toTree (valid : Bytes → Bool) (p : Payload) (h : InRange valid p) :
    ofTree (toTree p) = some p :=
  ofTree_toTree valid p h

/-- The tree printed for an in-range payload is a well-typed, canonical `Payload` tree of the
Sparkplug schema: every record carries a tag of its message and a value of the tag's type with
numbers in range and valid strings, records follow the struct-field order with at most one
record per optional field and per oneof, and nesting stays within prost's recursion limit. -/
theorem C12W_toTree_wellTyped (valid : Bytes → Bool) (p : Payload) (h : InRange valid p) :
    Wire.WellTyped valid sparkplug "Payload" (toTree p) :=
  toTree_wellTyped valid p h

/-- `WireSound` for the concrete codec, relativised to the values of the Rust type: decoding the
encoding of an in-range payload gives the payload back, exactly. -/
theorem C12W_wire_sound (valid : Bytes → Bool) (p : Payload) (h : InRange valid p) :
    decW valid (encW p) = some p :=
  decW_encW valid p h

/-- `WireSound` of `Model/MetricSpec.lean` relativised to the values of the Rust type (M13_README
step 4): all that `hostReceive_of_roundtrip` and the C12 end-to-end theorems need of a codec -/
def WireSoundOn (valid : Bytes → Bool) (enc : Payload → Bytes) (dec : Bytes → Option Payload) : Prop :=
  ∀ p, InRange valid p → dec (enc p) = some p

/-- … and the concrete codec has it, for every notion `valid` of a valid string. -/
theorem C12W_wireSoundOn (valid : Bytes → Bool) : WireSoundOn valid encW (decW valid) :=
  fun p h => decW_encW valid p h

/-- Hence the encoder is injective on in-range payloads: two payloads with the same bytes are
the same payload (no field of a metric can be lost or confused on the wire). -/
theorem C12W_encW_injective (valid : Bytes → Bool) (p q : Payload) (hp : InRange valid p)
    (hq : InRange valid q) (h : encW p = encW q) : p = q :=
  Wire.inj_of_roundtrip (decW_encW valid p hp) (decW_encW valid q hq) h

/-- The payload a publish call builds is in range when the sequence number and the clock reading
are `u64`s (they are: a `u8` widened, and `timestamp()`), every published metric is a value of
`PublishMetric`, and the encoding fits a `Vec<u8>`. -/
theorem C12W_payloadOf_inRange (valid : Bytes → Bool) (seq now : Nat) (ms : List PubMetric)
    (hs : seq < 2 ^ 64) (hn : now < 2 ^ 64) (hms : ∀ pm ∈ ms, pm.InRange valid)
    (hl : EncFits (payloadOf seq now ms)) : InRange valid (payloadOf seq now ms) :=
  inRange_payloadOf valid seq now ms hs hn hms hl

/-- The condition `InRange` puts on the bytes of a data set / template value is met by every
encoding of a struct: the bytes the encoder writes for a typed, canonical `DataSet` (`Template`)
tree with at most 98 levels of nested messages below it (2 suffice for a data set) are an
in-range metric value. -/
theorem C12W_dataset_bytes_of_struct (valid : Bytes → Bool) (v : Wire.Val) :
    (Wire.typedMsgD valid sparkplug 98 "DataSet" v = true →
      Wire.canonMsgD sparkplug 98 "DataSet" v = true →
      mvalOK valid 98 (.dataset (Wire.encodeMsg sparkplug "DataSet" v)) = true) ∧
    (Wire.typedMsgD valid sparkplug 98 "Template" v = true →
      Wire.canonMsgD sparkplug 98 "Template" v = true →
      mvalOK valid 98 (.template (Wire.encodeMsg sparkplug "Template" v)) = true) := by
  have key : ∀ m, Wire.lookupMsg sparkplug m = some (esOf m) →
      Wire.typedMsgD valid sparkplug 98 m v = true → Wire.canonMsgD sparkplug 98 m v = true →
      subOK valid 98 m (Wire.encodeMsg sparkplug m v) = true := by
    intro m hm ht hc
    obtain ⟨es, sub, hl, rfl, ht⟩ := Wire.typedMsgD_iff.mp ht
    cases hm.symm.trans hl
    rw [Wire.canonMsgD_msg hm] at hc
    rw [Wire.encodeMsg_msg sub hm]
    exact subOK_of_struct valid 98 m sub hm (by decide) ht hc
  exact ⟨key _ lookup_dataset, key _ lookup_template⟩

/-! ### the C12 end-to-end theorems with the concrete codec (step 4) -/

/-- `C12_single_metric` for the concrete codec. Whatever metric a task publishes — any value or
null, timestamp, flags, metadata, property set — the bytes `Payload::encode_to_vec` writes for the
payload carrying it alone decode (`Payload::decode`) at the host to exactly one store entry with
the same identifier, value, timestamp, flags (absent = false), metadata and a property set equal
as a map; the message carries the sequence number (as a `u8`) and the clock reading it was given. -/
theorem C12W_single_metric (valid : Bytes → Bool) (seq now : Nat) (pm : PubMetric) (hwf : pm.WF)
    (hs : seq < 2 ^ 64) (hn : now < 2 ^ 64) (hr : pm.InRange valid)
    (hl : EncFits (payloadOf seq now [pm])) :
    ∃ d e, hostReceiveData (decW valid) (encW (payloadOf seq now [pm])) = .data d ∧
      d.seq = seq % 256 ∧ d.timestamp = now ∧ d.metrics = [e] ∧ Delivered pm e :=
  single_of_roundtrip encW (decW valid) seq now pm hwf
    (decW_encW valid _ (inRange_payloadOf valid seq now [pm] hs hn
      (fun _ hp => List.mem_singleton.mp hp ▸ hr) hl))

/-- `C12_null_and_absent_flags` for the concrete codec: a null arrives as a null (never as a
missing or rejected metric), and an absent flag arrives as `false`. -/
theorem C12W_null_and_absent_flags (valid : Bytes → Bool) (seq now : Nat) (pm : PubMetric)
    (hwf : pm.WF) (hs : seq < 2 ^ 64) (hn : now < 2 ^ 64) (hr : pm.InRange valid)
    (hl : EncFits (payloadOf seq now [pm]))
    (hnull : pm.value = none) (hh : pm.isHistorical = none) (ht : pm.isTransient = none) :
    ∃ d e, hostReceiveData (decW valid) (encW (payloadOf seq now [pm])) = .data d ∧
      d.metrics = [e] ∧ e.1 = pm.id ∧ e.2.value = none ∧ e.2.isHistorical = false ∧
      e.2.isTransient = false :=
  null_absent_of_roundtrip encW (decW valid) seq now pm hwf
    (decW_encW valid _ (inRange_payloadOf valid seq now [pm] hs hn
      (fun _ hp => List.mem_singleton.mp hp ▸ hr) hl)) hnull hh ht

/-- `C12_batch_in_order` for the concrete codec: the bytes of a batch handed over in one payload
decode to one host message whose entries are the batch's metrics, entry by entry in the same
order. -/
theorem C12W_batch_in_order (valid : Bytes → Bool) (seq now : Nat) (ms : List PubMetric)
    (hwf : ∀ pm ∈ ms, pm.WF) (hs : seq < 2 ^ 64) (hn : now < 2 ^ 64)
    (hr : ∀ pm ∈ ms, pm.InRange valid) (hl : EncFits (payloadOf seq now ms)) :
    ∃ d, hostReceiveData (decW valid) (encW (payloadOf seq now ms)) = .data d ∧
      d.seq = seq % 256 ∧ d.timestamp = now ∧ InOrder Delivered ms d.metrics :=
  batch_of_roundtrip encW (decW valid) seq now ms hwf
    (decW_encW valid _ (inRange_payloadOf valid seq now ms hs hn hr hl))

/-- `C12_publish_unsorted_end_to_end` for the concrete codec. The non-sorting variants
(`publish_metric`, `publish_metrics_unsorted` and their `try_` forms; node handle, or device handle
of a birthed device): a non-empty batch is handed to the client as ONE payload with the next
sequence number, and the host, decoding the bytes written for it, sees the metrics in the
published order. No hypothesis about the sequence number is left: it is a `u8`. -/
theorem C12W_publish_unsorted_end_to_end (valid : Bytes → Bool) (now : Nat) (s : EdgeState)
    (hs : s.Ready) (ms : List PubMetric) (hne : ms ≠ []) (hwf : ∀ pm ∈ ms, pm.WF)
    (hn : now < 2 ^ 64) (hr : ∀ pm ∈ ms, pm.InRange valid)
    (hl : EncFits (payloadOf ((s.seq + 1) % 256) now ms)) :
    ∃ p s' d, publishUnsorted true now s ms = .handedOver p s' ∧
      s'.seq = (s.seq + 1) % 256 ∧
      hostReceiveData (decW valid) (encW p) = .data d ∧
      d.seq = (s.seq + 1) % 256 ∧ d.timestamp = now ∧ InOrder Delivered ms d.metrics :=
  unsorted_of_roundtrip encW (decW valid) now s hs ms hne hwf
    (decW_encW valid _ (inRange_payloadOf valid _ now ms (by omega) hn hr hl))

/-- `C12_publish_sorted_end_to_end` for the concrete codec. The sorting variants
(`publish_metrics`, `try_publish_metrics`): one payload, and the host, decoding the bytes written
for it, sees the batch stably sorted by timestamp — a permutation of the batch, ascending,
metrics with equal timestamps in their published order. -/
theorem C12W_publish_sorted_end_to_end (valid : Bytes → Bool) (now : Nat) (s : EdgeState)
    (hs : s.Ready) (ms : List PubMetric) (hne : ms ≠ []) (hwf : ∀ pm ∈ ms, pm.WF)
    (hn : now < 2 ^ 64) (hr : ∀ pm ∈ ms, pm.InRange valid)
    (hl : EncFits (payloadOf ((s.seq + 1) % 256) now (sortByTs ms))) :
    ∃ p s' d sorted, publishSorted true now s ms = .handedOver p s' ∧
      s'.seq = (s.seq + 1) % 256 ∧
      hostReceiveData (decW valid) (encW p) = .data d ∧
      d.seq = (s.seq + 1) % 256 ∧ d.timestamp = now ∧
      StableSortedByTs ms sorted ∧ InOrder Delivered sorted d.metrics :=
  sorted_of_roundtrip encW (decW valid) now s hs ms hne hwf
    (decW_encW valid _ (inRange_payloadOf valid _ now _ (by omega) hn
      (fun pm hp => hr pm ((sortByTs_perm ms).mem_iff.mp hp)) hl))

/-! ### non-vacuity (tests, not the claim) -/

/-- an ASCII stand-in for `String::from_utf8(..).is_ok()` -/
def asciiOK (b : Bytes) : Bool := b.all (· < 128)

/-- the prost bytes of a 2-column, 2-row data set -/
def exDataSetBytes : Bytes :=
  Wire.encodeMsg sparkplug "DataSet"
    (.msg [(1, .num 2), (2, .bytes [97]), (2, .bytes [98]), (3, .num 3), (3, .num 12),
      (4, .msg [(1, .msg [(1, .num 5)]), (1, .msg [(6, .bytes [120])])]),
      (4, .msg [(1, .msg [(1, .num 6)]), (1, .msg [(6, .bytes [121])])])])

example : Wire.typedMsgD asciiOK sparkplug 98 "DataSet"
      (.msg [(1, .num 2), (2, .bytes [97]), (3, .num 3), (4, .msg [(1, .msg [(1, .num 5)])])]) = true ∧
    Wire.canonMsgD sparkplug 98 "DataSet"
      (.msg [(1, .num 2), (2, .bytes [97]), (3, .num 3), (4, .msg [(1, .msg [(1, .num 5)])])]) = true := by
  decide +kernel

/-- a metric by alias holding that data set, historical, with a property set that nests a set -/
def exWireA : PubMetric :=
  ((PubMetric.new 1000 none (.alias 7) (some (.dataset exDataSetBytes))).historical true).withProperties
    [([98], some .propertyset, .set [(qualityKey, some .int32, .sc (.int 0))]),
     (qualityKey, some .int32, .sc (.int 192))]

/-- a null metric by name with metadata, published with an earlier timestamp -/
def exWireB : PubMetric :=
  ((PubMetric.new 1001 none (.name [109]) none).withMetadata
    { description := some [100], size := some 5 }).withTimestamp 900

/-- a double with a NaN bit pattern -/
def exWireC : PubMetric := PubMetric.new 1001 none (.alias 8) (some (.double 0x7ff8000000000001))

example : exWireA.InRange asciiOK ∧ exWireB.InRange asciiOK ∧ exWireC.InRange asciiOK := by decide +kernel
example : exWireA.WF ∧ exWireB.WF ∧ exWireC.WF := by
  refine ⟨?_, ?_, ?_⟩ <;> intro m h <;> cases h
  unfold UPS.KeysDistinct; decide +kernel
set_option maxRecDepth 8192 in
example : EncFits (payloadOf 3 1234 [exWireA, exWireB, exWireC]) := by decide +kernel
set_option maxRecDepth 8192 in
example : EncFits (payloadOf 3 1234 (sortByTs [exWireA, exWireB, exWireC])) := by decide +kernel
set_option maxRecDepth 8192 in
example : InRange asciiOK (payloadOf 3 1234 [exWireA, exWireB, exWireC]) := by decide +kernel
/-- the sorted end-to-end theorem applies to this batch: every hypothesis is discharged -/
example : ∃ p s' d sorted,
    publishSorted true 1234 { seq := 255, online := true, birthed := true }
      [exWireA, exWireB, exWireC] = .handedOver p s' ∧ s'.seq = 0 ∧
    hostReceiveData (decW asciiOK) (encW p) = .data d ∧ d.seq = 0 ∧ d.timestamp = 1234 ∧
    StableSortedByTs [exWireA, exWireB, exWireC] sorted ∧ InOrder Delivered sorted d.metrics :=
  C12W_publish_sorted_end_to_end asciiOK 1234 { seq := 255, online := true, birthed := true }
    ⟨rfl, rfl⟩ [exWireA, exWireB, exWireC] (by simp)
    (by
      intro pm h
      simp only [List.mem_cons, List.not_mem_nil, or_false] at h
      rcases h with rfl | rfl | rfl <;> intro m h <;> cases h
      unfold UPS.KeysDistinct; decide +kernel)
    (by decide +kernel)
    (by
      intro pm h
      simp only [List.mem_cons, List.not_mem_nil, or_false] at h
      rcases h with rfl | rfl | rfl <;> decide +kernel)
    (by decide +kernel)
example : (sortByTs [exWireA, exWireB, exWireC]).map (·.id) = [.name [109], .alias 7, .alias 8] := by
  decide +kernel
example : (encW (payloadOf 3 1234 [exWireB])) =
    [8, 210, 9, 18, 15, 10, 1, 109, 24, 132, 7, 56, 1, 66, 5, 24, 5, 66, 1, 100, 24, 3] := by decide +kernel
/-- out of range: a sequence number that is no `u64`, a string that is not valid, a data set
value whose bytes are no data set -/
example : ¬ InRange asciiOK (payloadOf (2 ^ 64) 1234 [exWireB]) := by decide +kernel
example : ¬ (PubMetric.new 1 none (.name [200]) none).InRange asciiOK := by decide +kernel
example : ¬ (PubMetric.new 1 none (.alias 1) (some (.dataset [8]))).InRange asciiOK := by decide +kernel

end Srad.Metric
