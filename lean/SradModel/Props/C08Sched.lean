/-
C08, continued — FAULT-FREE SCHEDULES: beyond the one deterministic continuation `settle`.  PARTIAL.

Property theorems only (helper lemmas: `SradModel/Proofs/LoopSched.lean`; executable vocabulary:
`Model/LoopSched.lean`; the earlier theorems: `Props/C08.lean`, `Props/C08Reach.lean`).

The gap left by `C08_convergence_reachable_iff`: "it is NOT a theorem about every fair fault-free
schedule". A FAULT-FREE SCHEDULE is any list of the actions `deliver 0` (FIFO delivery to the host),
`deliverNcmd`, `advance k` (any `k`), `publishNode`, `publishDev d`, `hostConnect`, `nodeConnect`
(`FaultFree`), in any interleaving and multiplicity; reordering (`deliver (k+1)`), `duplicate`, `drop`,
`dropNcmd`, the disconnects and the operator actions `enable` / `disable` / `manualRebirth` are excluded.

What is proved here:
* (G3, full) `C08S_stability`, `C08S_stability_reachable`, `C08S_insync_stays`: from a state that is in
  sync — or only "in sync up to what is still in flight" (`Sys.syncUpTo`) — EVERY fault-free schedule
  keeps the system in sync up to what is in flight; no rebirth is ever requested; delivering what is in
  flight gives the in-sync view again, and the host's effects are exactly the data effects of what was
  in flight and of what the node handed over during the schedule, once each, in hand-over order.
* (G2, full) `C08S_interleave` (any state): any interleaving of publishes with FIFO deliveries flushes
  to the same state as the publishes alone; `C08S_round_order_independent` (every reachable state): a
  settling round whose publishes are interleaved with FIFO deliveries in ANY way is the round of
  `settle` — same state, same effects; `C08S_rounds_are_settle` for sequences of such rounds.
* (G1, partial) `C08S_convergence_schedules_partial`, `C08S_convergence_schedules_iff`,
  `C08S_convergence_all_enabled`: from EVERY reachable state (any fault history), under the same side
  condition (H2) as `C08_convergence_reachable_iff` (and it is still necessary), every schedule of the
  shape  k ≥ 2 generalised rounds ++ ANY fault-free schedule ++ deliver what is in flight  ends with
  the in-sync view, and the whole of it is a fault-free schedule of `Sys.step`. PARTIAL: inside a
  round only the publishing phase is free (publishes × FIFO deliveries); the delivery phases of a
  round keep `settle`'s order (everything in flight first, the clock advances before each NCMD reaches
  the node, a running reorder timeout expires before the publishes). The two theorems below remove
  the round structure after the FIRST round; what stays fixed is that first round's delivery phases
  (they dispose of whatever the faults left in flight, in `settle`'s order) and the expiry of a running
  reorder timeout before anything else. Still missing for "every fair fault-free schedule": arbitrary
  interleavings while messages of the fault history are in flight or while the host is waiting behind
  a gap (timer running).
* (G1, second family, full for its class) `C08S_convergence_stale_host`: from every reachable state
  with both sides connected, nothing in flight towards the host and the host's record STALE (any
  number of NCMDs in flight), EVERY fault-free schedule — deliveries, NCMD deliveries, clock
  advances, publishes in ANY interleaving — in which the clock advances before each NCMD delivery
  (`ticked`), followed by `drain`, one more publish and `drain`, ends with the in-sync view. No round
  structure, no (H2).
* (G1, combined) `C08S_convergence_round_then_any_partial`: from EVERY reachable state with (H2): ONE
  generalised round, the expiry of a running reorder timeout, then ANY fault-free schedule that lets
  the clock tick before each NCMD delivery, `drain`, one publish, `drain` — in sync.
* That some discipline of this kind is NEEDED is shown by `C08S_same_tick_rebirths_out_of_sync`: a
  schedule of fault-free actions only, from the initial state, in which two rebirth NCMDs reach the
  node within one clock reading; after everything is delivered the host is NOT in sync (the second
  NBIRTH carries the timestamp of the first and is ignored, its DBIRTHs are buffered, the reorder
  timer runs) — fault-free schedules are not confluent. (`settle` repairs it, like any reachable state.)
-/
import SradModel.Proofs.LoopSched
import SradModel.Props.C08Reach

namespace Srad.Loop
open Srad Srad.Host

/-! ### (G3) stability under every fault-free schedule -/

/-- **Stability: every fault-free schedule keeps an in-sync system in sync up to what is in flight.**
Take ANY state `s` under the full configuration whose node bookkeeping is consistent (`flagsOk`: a
device flagged as birthed is enabled — a fact of every reachable state) and that is IN SYNC UP TO
WHAT IS IN FLIGHT (`Sys.syncUpTo`: both sides connected, node online and birthed, the host holds the
node birthed with nothing buffered and no timer, holds exactly the enabled devices birthed, no NCMD
in flight, the messages in flight are NDATA / DDATA of enabled devices numbered consecutively from
the number the host expects up to the node's current number and not older than the host's record,
the host's stamps are not in the future). With nothing in flight this is the in-sync view.
Then for EVERY fault-free schedule `σ` — any interleaving of FIFO deliveries, NCMD deliveries, clock
advances of any size, node and device publishes, connects; any length — with `t` the state after `σ`
and `ms` what the node handed over during `σ`:
(1) `t` is again in sync up to what is in flight, and its node bookkeeping is consistent;
(2) `ms` consists of NDATA / DDATA only: no birth, no death — no rebirth happened;
(3) delivering what is in flight (`drain`, which here is a plain FIFO `flush`: no NCMD is ever in
    flight) gives the IN-SYNC VIEW;
(4) the host's effects from `s` to there are EXACTLY the data effects of the messages that were in
    flight in `s` followed by those of `ms`: every publish applied once, in hand-over order, and
    nothing else (no staleness, no NCMD, no timer). -/
theorem C08S_stability (d : Nat) (s : Sys) (σ : List Action)
    (hcfg : s.cfg = Sys.fullCfg d) (hflags : Sys.flagsOk s = true) (hsync : Sys.syncUpTo s = true)
    (hff : FaultFree σ = true) :
    let t := s.run σ
    let ms := t.sent.drop s.sent.length
    Sys.syncUpTo t = true ∧ Sys.flagsOk t = true ∧ t.sent = s.sent ++ ms ∧
    (∀ m ∈ ms, (Msg.dataShape m).isSome = true) ∧
    Sys.drain t = Sys.flush t ∧ Sys.InSyncView (Sys.drain t) = true ∧
    (Sys.drain t).effs = s.effs ++ (s.toHost ++ ms).filterMap Msg.dataEff ∧
    (Sys.drain t).sent = t.sent :=
  (upTo_iff.mpr ⟨hcfg, hflags, hsync⟩).sched σ hff

/-- **Stability from every reachable in-sync state.** After ANY action sequence (any faults) from the
initial system under the full configuration: if the state reached has the in-sync view, then every
fault-free schedule `σ` keeps it in sync up to what is in flight, hands over data messages only, and
delivering what is in flight gives the in-sync view again with exactly the schedule's publishes
applied, once each, in order. Every other hypothesis of `C08S_stability` is discharged by reachability. -/
theorem C08S_stability_reachable (d : Nat) (devs : List Dev) (acts σ : List Action)
    (hnames : (devs.map (·.name)).Nodup) (hflags : ∀ x ∈ devs, x.flag = false) :
    let s := (Sys.init (Sys.fullCfg d) devs).run acts
    Sys.InSyncView s = true → FaultFree σ = true →
    let t := s.run σ
    let ms := t.sent.drop s.sent.length
    Sys.syncUpTo t = true ∧ t.sent = s.sent ++ ms ∧ (∀ m ∈ ms, (Msg.dataShape m).isSome = true) ∧
    Sys.InSyncView (Sys.drain t) = true ∧
    (Sys.drain t).effs = s.effs ++ ms.filterMap Msg.dataEff := by
  intro s hv hff t ms
  have hu := (reach_run d devs acts hnames hflags).upTo hv
  obtain ⟨a1, _, a3, a4, _, a6, a7, _⟩ := hu.sched σ hff
  rw [view_flight hv, List.nil_append] at a7
  exact ⟨a1, a3, a4, a6, a7⟩

/-- `InSync` is the in-sync view plus the clause about the last round's effects. -/
theorem C08S_inSync_is_view_and_last (s : Sys) (last : List Eff) :
    Sys.InSync s last = (Sys.InSyncView s && Sys.lastRoundIs s last) := rfl

/-- **`InSync` keeps holding under every fault-free schedule** (the "keeps holding" half of the
property, for arbitrary schedules): from a state that is `InSync` (for any `last`) with the host's
stamps not in the future, under the full configuration with consistent node bookkeeping, after every
fault-free schedule `σ` and the delivery of what is in flight the in-sync view holds again. -/
theorem C08S_insync_stays (d : Nat) (s : Sys) (last : List Eff) (σ : List Action)
    (hcfg : s.cfg = Sys.fullCfg d) (hflags : Sys.flagsOk s = true) (hclock : Coherent s.host s.clock)
    (hsync : Sys.InSync s last = true) (hff : FaultFree σ = true) :
    Sys.syncUpTo (s.run σ) = true ∧ Sys.InSyncView (Sys.drain (s.run σ)) = true := by
  obtain ⟨a1, _, _, _, _, a6, _⟩ :=
    (upTo_of_view d s hcfg ((flagsOk_iff s).mp hflags) hclock (inSync_view s last hsync)).sched σ hff
  exact ⟨a1, a6⟩

/-! ### (G2) order-independence inside a round -/

/-- **Publishes and FIFO deliveries commute.** In ANY state, for any schedule `σ` made of publishes
(`publishNode`, `publishDev d`) and FIFO deliveries (`deliver 0`) in any interleaving: delivering
what is still in flight after `σ` gives the same state as performing only the publishes of `σ` (in
their order) and then delivering everything — node, host record, effects, NCMDs requested, ghost
history, all fields equal. (A delivery may happen between two publishes, or before all of them when
something is in flight already, or not at all.) -/
theorem C08S_interleave (s : Sys) (σ : List Action) (h : σ.all Action.isPubDel = true) :
    Sys.flush (s.run σ) = Sys.flush (s.run (σ.filter Action.isPub)) :=
  flush_interleave σ s h

/-- **Order-independence inside a round, from every reachable state.** After ANY action sequence from
the initial system under the full configuration, with fewer than 255 devices enabled: let `σ` be ANY
interleaving of the round's publishes (node metric, then each enabled device) with any number of FIFO
deliveries at any positions (`Sys.roundOk`). Then the generalised round `gRound σ` — delivery phases,
clock tick, `σ`, deliver what is in flight — ends in the SAME state as `settle`'s round (all publishes
first, then all deliveries) and returns the same effects. No hypothesis about the host's record or
about what is in flight. -/
theorem C08S_round_order_independent (d : Nat) (devs : List Dev) (acts σ : List Action)
    (hnames : (devs.map (·.name)).Nodup) (hflags : ∀ x ∈ devs, x.flag = false) :
    let s := (Sys.init (Sys.fullCfg d) devs).run acts
    s.node.enabledNames.length < 255 → Sys.roundOk s σ = true →
    Sys.gRound σ s = Sys.round s := by
  intro s hfew hok
  exact gRound_eq_round d s (reach_run d devs acts hnames hflags) hfew σ hok

/-- … and for any number of rounds, each with its own interleaving: `gSettle σs = settle #σs`. -/
theorem C08S_rounds_are_settle (d : Nat) (devs : List Dev) (acts : List Action) (σs : List (List Action))
    (hnames : (devs.map (·.name)).Nodup) (hflags : ∀ x ∈ devs, x.flag = false) :
    let s := (Sys.init (Sys.fullCfg d) devs).run acts
    s.node.enabledNames.length < 255 → Sys.roundsOk σs s = true →
    Sys.gSettle σs s = Sys.settle σs.length s := by
  intro s hfew hok
  exact gSettle_eq_settle d σs s (reach_run d devs acts hnames hflags) hfew hok

/-! ### (G1) convergence for a family of fault-free schedules -/

/-
Full statement aimed at (not proved): "from every reachable state satisfying (H2), EVERY fair
fault-free schedule in which the node goes on publishing ends in sync." Proved instead: the statement
for the schedules  k ≥ 2 generalised rounds ++ any fault-free schedule ++ drain. Missing: freedom
INSIDE the delivery phases of a round (deliveries interleaved with clock advances and NCMD
deliveries); `C08S_same_tick_rebirths_out_of_sync` shows that not every interleaving there works.
-/

/-- **Convergence for generalised schedules (sufficient condition, checkable).**
After ANY action sequence (any faults) from the initial system under the full configuration, with
fewer than 255 devices enabled, assume (H2) for the record left by the delivery phases of the first
round (`Sys.quiesce s` = `Sys.firstPhase s`): it is not "in step while holding a device birthed that
the node has not enabled". Let `σs` be `k ≥ 2` round schedules, each an arbitrary interleaving of its
round's publishes with FIFO deliveries (`Sys.roundsOk`, a `Bool`), and `τ` ANY fault-free schedule.
Then
(1) after the rounds the system is `InSync`;
(2) after `τ` it is in sync up to what is in flight; what the node handed over during `τ` is data only;
(3) after delivering what is in flight the in-sync view holds, and the host's effects since the end
    of the rounds are exactly the data effects of what the node handed over during `τ`;
(4) the whole — rounds, `τ`, final delivery — is a run of `Sys.step` over a fault-free schedule. -/
theorem C08S_convergence_schedules_partial (d : Nat) (devs : List Dev) (acts : List Action)
    (σs : List (List Action)) (τ : List Action)
    (hnames : (devs.map (·.name)).Nodup) (hflags : ∀ x ∈ devs, x.flag = false) :
    let s := (Sys.init (Sys.fullCfg d) devs).run acts
    s.node.enabledNames.length < 255 →
    (InStep (Sys.quiesce s).host (Sys.quiesce s).node → DevsBelow (Sys.quiesce s).host (Sys.quiesce s).node) →
    Sys.roundsOk σs s = true → 2 ≤ σs.length → FaultFree τ = true →
    let g := (Sys.gSettle σs s).1
    let t := g.run τ
    let ms := t.sent.drop g.sent.length
    Sys.InSync g (Sys.gSettle σs s).2 = true ∧
    Sys.syncUpTo t = true ∧ (∀ m ∈ ms, (Msg.dataShape m).isSome = true) ∧
    Sys.InSyncView (Sys.drain t) = true ∧
    (Sys.drain t).effs = g.effs ++ ms.filterMap Msg.dataEff ∧
    (∃ sched, FaultFree sched = true ∧ s.run sched = Sys.drain t) := by
  intro s hfew hb hok hlen hff g t ms
  have hr := reach_run d devs acts hnames hflags
  have heq : Sys.gSettle σs s = Sys.settle σs.length s := gSettle_eq_settle d σs s hr hfew hok
  obtain ⟨k, hk⟩ : ∃ k, σs.length = k + 2 := ⟨σs.length - 2, by omega⟩
  have hsync : Sys.InSync g (Sys.gSettle σs s).2 = true := by
    show Sys.InSync (Sys.gSettle σs s).1 (Sys.gSettle σs s).2 = true
    rw [heq, hk]
    exact settle_reach d s hr hfew hb k
  have hfr := gSettle_frun σs s hok
  have hv := inSync_view g _ hsync
  obtain ⟨a1, _, _, a4, _, a6, a7, _⟩ := ((hr.frun hfr).upTo hv).sched τ hff
  rw [view_flight hv, List.nil_append] at a7
  exact ⟨hsync, a1, a4, a6, a7, hfr.trans ((FRun.of_run g τ hff).trans (drain_frun _))⟩

/-- **One generalised round: in sync, or the reorder timer is running.** From every reachable state
with fewer than 255 devices enabled and (H2), after ONE generalised round (any interleaving of its
publishes with FIFO deliveries) exactly one of two things holds: (a) the system has the in-sync view
and is in sync up to (nothing) in flight — so `C08S_stability` applies from here: EVERY fault-free
schedule keeps it so; or (b) everything is quiet (both sides connected, nothing in flight in either
direction) but the host, birthed, is waiting behind a gap with its reorder timer running — the
timeout has to expire (the timer phase of the next round) before the rebirth that repairs it. -/
theorem C08S_one_round (d : Nat) (devs : List Dev) (acts σ : List Action)
    (hnames : (devs.map (·.name)).Nodup) (hflags : ∀ x ∈ devs, x.flag = false) :
    let s := (Sys.init (Sys.fullCfg d) devs).run acts
    s.node.enabledNames.length < 255 →
    (InStep (Sys.quiesce s).host (Sys.quiesce s).node → DevsBelow (Sys.quiesce s).host (Sys.quiesce s).node) →
    Sys.roundOk s σ = true →
    let g := (Sys.gRound σ s).1
    (Sys.InSyncView g = true ∧ Sys.syncUpTo g = true ∧ Sys.flagsOk g = true) ∨
    ((g.nodeConn = true ∧ g.hostConn = true) ∧ (g.toHost = [] ∧ g.toNode = 0) ∧
      g.host.life = .birthed ∧ ∃ dl, g.host.timer = .armed dl) := by
  intro s hfew hb hok g
  have hr := reach_run d devs acts hnames hflags
  have hg : g = (Sys.round s).1 := by
    show (Sys.gRound σ s).1 = _
    rw [gRound_eq_round d s hr hfew σ hok]
  have hset := round_reach d s hr hfew hb
  rw [← hg] at hset
  rcases hset.host with hs | ha
  · have hu := hs.upTo hset.quiet hset.toNode
    exact .inl ⟨hu.view hset.quiet.flight, (upTo_iff.mp hu).2.2, (upTo_iff.mp hu).2.1⟩
  · exact .inr ⟨⟨hset.quiet.nodeConn, hset.quiet.hostConn⟩, ⟨hset.quiet.flight, hset.toNode⟩, ha.life, ha.armed⟩

/-- the canonical round schedule (`settle`'s own order) is a valid round schedule -/
theorem C08S_settle_order_ok (s : Sys) : Sys.roundOk s s.roundPubs = true := by
  have h1 : s.roundPubs.all Action.isPub = true := by
    simp [Sys.roundPubs, Action.isPub, List.all_map]
  have h2 : s.roundPubs.all Action.isPubDel = true := by
    simp [Sys.roundPubs, Action.isPubDel, List.all_map]
  simp only [Sys.roundOk, h2, Bool.true_and, decide_eq_true_eq]
  exact List.filter_eq_self.mpr (by simpa [List.all_eq_true] using h1)

/-- **(H2) is exactly the condition, also for generalised rounds.** From every reachable state with
fewer than 255 devices enabled: SOME non-empty sequence of generalised rounds ends `InSync` if and
only if (H2) holds for the record left by the first delivery phases — and then EVERY sequence of at
least two generalised rounds does. -/
theorem C08S_convergence_schedules_iff (d : Nat) (devs : List Dev) (acts : List Action)
    (hnames : (devs.map (·.name)).Nodup) (hflags : ∀ x ∈ devs, x.flag = false) :
    let s := (Sys.init (Sys.fullCfg d) devs).run acts
    s.node.enabledNames.length < 255 →
    ((∃ σs, σs ≠ [] ∧ Sys.roundsOk σs s = true ∧
        Sys.InSync (Sys.gSettle σs s).1 (Sys.gSettle σs s).2 = true) ↔
      (InStep (Sys.quiesce s).host (Sys.quiesce s).node → DevsBelow (Sys.quiesce s).host (Sys.quiesce s).node)) := by
  intro s hfew
  have hr := reach_run d devs acts hnames hflags
  have hiff := C08_convergence_reachable_iff d devs acts hnames hflags hfew
  constructor
  · intro ⟨σs, hne, hok, hsync⟩
    rw [gSettle_eq_settle d σs s hr hfew hok] at hsync
    exact hiff.1.mp ⟨σs.length, by cases σs with | nil => exact absurd rfl hne | cons _ _ => simp, hsync⟩
  · intro hb
    refine ⟨[s.roundPubs, (Sys.gRound s.roundPubs s).1.roundPubs], by simp, ?_, ?_⟩
    · simp only [Sys.roundsOk, C08S_settle_order_ok, Bool.and_self]
    · have hok : Sys.roundsOk [s.roundPubs, (Sys.gRound s.roundPubs s).1.roundPubs] s = true := by
        simp only [Sys.roundsOk, C08S_settle_order_ok, Bool.and_self]
      rw [gSettle_eq_settle d _ s hr hfew hok]
      exact hiff.2 hb 0

/-- **No hypothesis at all when no registered device is disabled**: from every reachable state in
which every registered device is enabled (fewer than 255), every sequence of at least two
generalised rounds followed by ANY fault-free schedule and the delivery of what is in flight ends
with the in-sync view. -/
theorem C08S_convergence_all_enabled (d : Nat) (devs : List Dev) (acts : List Action)
    (σs : List (List Action)) (τ : List Action)
    (hnames : (devs.map (·.name)).Nodup) (hflags : ∀ x ∈ devs, x.flag = false) :
    let s := (Sys.init (Sys.fullCfg d) devs).run acts
    (∀ x ∈ s.node.devs, x.enabled = true) → s.node.enabledNames.length < 255 →
    Sys.roundsOk σs s = true → 2 ≤ σs.length → FaultFree τ = true →
    Sys.InSync (Sys.gSettle σs s).1 (Sys.gSettle σs s).2 = true ∧
    Sys.syncUpTo ((Sys.gSettle σs s).1.run τ) = true ∧
    Sys.InSyncView (Sys.drain ((Sys.gSettle σs s).1.run τ)) = true := by
  intro s hall hfew hok hlen hff
  have hb : InStep (Sys.quiesce s).host (Sys.quiesce s).node →
      DevsBelow (Sys.quiesce s).host (Sys.quiesce s).node := by
    exact fun _ => allEnabled_firstPhase s (DevNames_run acts _ (DevNames_init _ devs)) hall
  obtain ⟨a1, a2, _, a4, _⟩ :=
    C08S_convergence_schedules_partial d devs acts σs τ hnames hflags hfew hb hok hlen hff
  exact ⟨a1, a2, a4⟩

/-! ### (G1, second family) a stale host record: ANY fault-free interleaving that lets the clock tick -/

/-- **Convergence from a stale host record under arbitrary fault-free interleavings.**
After ANY action sequence (any faults) from the initial system under the full configuration, with
fewer than 255 devices enabled, suppose both sides are connected, nothing is in flight towards the
host, and the host's record of the node is STALE (the host application (re)started, lost its
connection, or gave the node up after a timeout or a death certificate; any number of rebirth NCMDs
may be in flight). Let `σ` be ANY fault-free schedule — FIFO deliveries, NCMD deliveries, clock
advances, node and device publishes, in any interleaving and multiplicity — subject to ONE condition,
`ticked false σ` (a `Bool`): the clock advances (by at least 1) before each delivery of an NCMD to the
node, since the previous one. (Rebirth storms are covered: a stale record answers EVERY data message
with an NCMD, cooldown 0, and every one of them may cause a rebirth, while more publishes and
deliveries go on in between.) Then, with `t` the state after `σ` and `u := drain t` (deliver what is
in flight; for each NCMD still in flight: tick, deliver it, deliver its births):
(1) `u` has the in-sync view — unless the host's record is still stale with nothing in flight in
    either direction, which means that no message reached it (it has nothing to ask a rebirth for);
(2) in either case, after ONE more publish on the node metric and `drain`, the in-sync view holds.
No `settle` round is involved; (H2) is not needed (a stale record holds no device birthed).
`C08S_same_tick_rebirths_out_of_sync` shows that the condition `ticked` cannot simply be dropped. -/
theorem C08S_convergence_stale_host (d : Nat) (devs : List Dev) (acts σ : List Action)
    (hnames : (devs.map (·.name)).Nodup) (hflags : ∀ x ∈ devs, x.flag = false) :
    let s := (Sys.init (Sys.fullCfg d) devs).run acts
    s.node.enabledNames.length < 255 → s.nodeConn = true ∧ s.hostConn = true → s.toHost = [] →
    s.host.life = .stale → FaultFree σ = true → ticked false σ = true →
    let u := Sys.drain (s.run σ)
    (Sys.InSyncView u = true ∨ (u.host.life = .stale ∧ u.toHost = [] ∧ u.toNode = 0)) ∧
    Sys.InSyncView (Sys.drain (u.step .publishNode)) = true := by
  intro s hfew hconn he hst hff htk u
  have hr := reach_run d devs acts hnames hflags
  exact (hr.heal hfew hconn.1 hconn.2 he hst).converges hr σ hff htk

/-- **One generalised round, the reorder timeout, then ANY fault-free interleaving that lets the clock
tick.** From EVERY reachable state (any fault history) with fewer than 255 devices enabled and (H2):
run ONE generalised round (its publishes interleaved with FIFO deliveries in any way, `Sys.roundOk`);
if the host is then waiting behind a gap, let its reorder timeout expire (`timerPhase`: one clock
advance; nothing happens otherwise). From there let `τ` be ANY fault-free schedule in which the clock
advances before each NCMD delivery (`ticked false τ`) — no round structure, any interleaving of
deliveries, NCMD deliveries, clock advances and publishes. Then after `drain` the in-sync view holds,
unless the host's record is stale with nothing in flight (only if `τ` brought it no message); and in
either case one more publish on the node metric and `drain` give the in-sync view.
(Compared with `C08S_convergence_schedules_partial` the second round is replaced by an arbitrary
schedule; what remains fixed is the first round's delivery phases — which dispose of whatever the
faults left in flight — and the expiry of the timeout before anything else happens.) -/
theorem C08S_convergence_round_then_any_partial (d : Nat) (devs : List Dev) (acts σ τ : List Action)
    (hnames : (devs.map (·.name)).Nodup) (hflags : ∀ x ∈ devs, x.flag = false) :
    let s := (Sys.init (Sys.fullCfg d) devs).run acts
    s.node.enabledNames.length < 255 →
    (InStep (Sys.quiesce s).host (Sys.quiesce s).node → DevsBelow (Sys.quiesce s).host (Sys.quiesce s).node) →
    Sys.roundOk s σ = true → FaultFree τ = true → ticked false τ = true →
    let g := Sys.timerPhase (Sys.gRound σ s).1
    let u := Sys.drain (g.run τ)
    (Sys.InSyncView u = true ∨ (u.host.life = .stale ∧ u.toHost = [] ∧ u.toNode = 0)) ∧
    Sys.InSyncView (Sys.drain (u.step .publishNode)) = true ∧
    (∃ sched, FaultFree sched = true ∧ s.run sched = Sys.drain (u.step .publishNode)) := by
  intro s hfew hb hok hff htk g u
  have hr := reach_run d devs acts hnames hflags
  have hfr : FRun s (Sys.drain (u.step .publishNode)) :=
    (gRound_frun σ s (by simp only [Sys.roundOk, Bool.and_eq_true] at hok; exact hok.1)).trans
      ((timerPhase_frun _).trans ((FRun.of_run _ τ hff).trans ((drain_frun _).trans
        ((FRun.step _ _).trans (drain_frun _)))))
  have hg : g = Sys.timerPhase (Sys.round s).1 := by
    show Sys.timerPhase (Sys.gRound σ s).1 = _
    rw [gRound_eq_round d s hr hfew σ hok]
  have hrg : Reach d g := by rw [hg]; exact hr.round.frun (timerPhase_frun _)
  have hheal : Heal d g false := by rw [hg]; exact (round_reach d s hr hfew hb).heal hr.round
  obtain ⟨c1, c2⟩ := hheal.converges hrg τ hff htk
  exact ⟨c1, c2, hfr⟩

/-! ### fault-free schedules are not confluent -/

/-- only fault-free actions, from the initial system: the node connects and its births are delivered
before the host application is connected (lost to it); the host connects; the node publishes NDATA
and DDATA(1), both delivered: the host's record of the node is stale, it answers each with a rebirth
NCMD (cooldown 0): two NCMDs in flight. BOTH reach the node within one clock reading. -/
def exSameTick : List Action :=
  [.nodeConnect, .deliver 0, .deliver 0, .deliver 0, .hostConnect, .advance 1, .publishNode, .publishDev 1,
   .deliver 0, .deliver 0, .deliverNcmd, .deliverNcmd]

/-- the same with one clock tick between the two NCMD deliveries (what `drainNet` does) -/
def exTickBetween : List Action :=
  [.nodeConnect, .deliver 0, .deliver 0, .deliver 0, .hostConnect, .advance 1, .publishNode, .publishDev 1,
   .deliver 0, .deliver 0, .deliverNcmd, .advance 1, .deliverNcmd]

/-- **Not every fault-free schedule ends in sync once everything is delivered — the clock must move
between two rebirths.** `exSameTick` is a fault-free schedule from the initial system (three devices,
two enabled) after which six messages are in flight: NBIRTH(t=2) DBIRTH DBIRTH NBIRTH(t=2) DBIRTH
DBIRTH. Delivered in order (`drain`): the first birth is applied (the host expects 3); the second
NBIRTH has the timestamp of the first and is ignored (`ts ≤ birthTs`); its DBIRTHs (seq 1, 2) are
buffered behind a gap that does not exist and the reorder timer is armed. Nothing is in flight any
more in either direction, yet the host is NOT in sync. With one clock tick between the two NCMD
deliveries (`exTickBetween`) the same deliveries end in sync. And like every reachable state without
session confusion, the out-of-sync state is repaired by `settle` (the timeout fires, a third rebirth).
So the statement "every fault-free schedule followed by delivering what is in flight ends in sync"
is FALSE in the model even from the initial state, and a fairness condition has to let the clock
advance before each rebirth — which the rounds of `settle` / `gSettle` do. -/
theorem C08S_same_tick_rebirths_out_of_sync :
    let s := (Sys.init (Sys.fullCfg 100) exDevs).run exSameTick
    let s' := (Sys.init (Sys.fullCfg 100) exDevs).run exTickBetween
    FaultFree exSameTick = true ∧ s.toHost.length = 6 ∧
    (Sys.drain s).toHost = [] ∧ (Sys.drain s).toNode = 0 ∧
    Sys.InSyncView (Sys.drain s) = false ∧ Sys.syncUpTo (Sys.drain s) = false ∧
    (Sys.drain s).host.timer = .armed 102 ∧ (Sys.drain s).host.reseq.buf.length = 2 ∧
    FaultFree exTickBetween = true ∧ Sys.InSyncView (Sys.drain s') = true ∧
    Sys.InSync (Sys.settle 2 s).1 (Sys.settle 2 s).2 = true := by decide

/-! ### non-vacuity -/

/-- connect both sides and deliver the births: in sync -/
def exSynced : List Action := [.hostConnect, .nodeConnect, .deliver 0, .deliver 0, .deliver 0]

/-- a fault-free schedule that is nothing like `settle`: device 3 publishes before the node metric, the
clock jumps, one delivery, device 1 publishes, a publish on the DISABLED device 2 (nothing happens),
a spurious NCMD delivery and reconnects (nothing happens), … — three messages are left in flight -/
def exBusy : List Action :=
  [.publishDev 3, .publishNode, .advance 5, .deliver 0, .publishDev 1, .publishDev 2, .deliverNcmd,
   .nodeConnect, .publishNode, .deliver 0, .hostConnect, .advance 0, .publishDev 3]

/-- `C08S_stability` / `C08S_stability_reachable`: hypotheses and conclusions on a concrete run; after
`exBusy` the view is NOT in sync (3 messages in flight), it is in sync up to them; after the delivery
it is, and the five publishes were applied in hand-over order -/
example :
    let s := (Sys.init (Sys.fullCfg 100) exDevs).run exSynced
    let t := s.run exBusy
    s.cfg = Sys.fullCfg 100 ∧ Sys.flagsOk s = true ∧ Sys.InSyncView s = true ∧ Sys.syncUpTo s = true ∧
    FaultFree exBusy = true ∧
    t.toHost.length = 3 ∧ Sys.InSyncView t = false ∧ Sys.syncUpTo t = true ∧
    Sys.InSyncView (Sys.drain t) = true ∧
    (Sys.drain t).effs.drop s.effs.length =
      [.devData 3 3, .nodeData 4, .devData 1 5, .nodeData 6, .devData 3 7] := by
  intro s t
  exact ⟨rfl, by decide⟩

/-- `C08S_stability` from a state that is only in sync UP TO what is in flight (two publishes not yet
delivered), and `C08S_insync_stays` from the `InSync` state two rounds of `settle` reach after the
lossy run of `Props/C08.lean` -/
example :
    let s := ((Sys.init (Sys.fullCfg 100) exDevs).run exSynced).run [.publishNode, .publishDev 1]
    let z := (Sys.settle 2 ((Sys.init (Sys.fullCfg 100) exDevs).run exLossy))
    Sys.InSyncView s = false ∧ Sys.syncUpTo s = true ∧ Sys.flagsOk s = true ∧
    Sys.syncUpTo (s.run exBusy) = true ∧ Sys.InSyncView (Sys.drain (s.run exBusy)) = true ∧
    Sys.InSync z.1 z.2 = true ∧ Sys.flagsOk z.1 = true ∧ z.1.host.birthTs ≤ z.1.clock ∧
    z.1.host.staleTs ≤ z.1.clock ∧ Sys.InSyncView (Sys.drain (z.1.run exBusy)) = true := by decide

/-- round schedules that are not `settle`'s: a delivery after the first publish, two after the second
(the second finds nothing to deliver); a delivery before the first publish -/
def exR1 : List Action := [.publishNode, .deliver 0, .publishDev 1, .deliver 0, .deliver 0, .publishDev 3]
def exR2 : List Action := [.deliver 0, .publishNode, .publishDev 1, .deliver 0, .publishDev 3, .deliver 0]

/-- `C08S_interleave` on a state that is NOT in sync (the lossy run: gap, timer armed): the
interleaved run and the publishes-only run differ before the flush (the host has already handled two
messages in one, none in the other) and agree after it -/
example :
    let s := ((Sys.init (Sys.fullCfg 100) exDevs).run exLossy).step (.advance 1)
    let a := s.run exR1
    let b := s.run (exR1.filter Action.isPub)
    exR1.all Action.isPubDel = true ∧ exR1.filter Action.isPub ≠ exR1 ∧
    a.toHost.length = 1 ∧ b.toHost.length = 3 ∧ a.host.reseq ≠ b.host.reseq ∧
    (Sys.flush a).host.reseq = (Sys.flush b).host.reseq ∧ (Sys.flush a).effs = (Sys.flush b).effs ∧
    (Sys.flush a).toNode = (Sys.flush b).toNode ∧ (Sys.flush a).sent = (Sys.flush b).sent := by decide

/-- `C08S_round_order_independent`, `C08S_rounds_are_settle`, `C08S_convergence_schedules_partial`: the
hypotheses hold of the lossy run (not in sync: gap, timer armed) with the round schedules `exR1`,
`exR2` (neither is `settle`'s order) and the tail `exBusy`; the conclusions, evaluated -/
example :
    let s := (Sys.init (Sys.fullCfg 100) exDevs).run exLossy
    let g := (Sys.gSettle [exR1, exR2] s).1
    s.node.enabledNames.length < 255 ∧ Sys.InSync s [] = false ∧
    Sys.roundOk s exR1 = true ∧ exR1 ≠ s.roundPubs ∧
    Sys.roundsOk [exR1, exR2] s = true ∧ exR2 ≠ (Sys.gRound exR1 s).1.roundPubs ∧
    (InStep (Sys.quiesce s).host (Sys.quiesce s).node → DevsBelow (Sys.quiesce s).host (Sys.quiesce s).node) ∧
    FaultFree exBusy = true ∧
    (Sys.gRound exR1 s).2 = (Sys.round s).2 ∧
    Sys.InSync g (Sys.gSettle [exR1, exR2] s).2 = true ∧
    Sys.InSyncView (g.run exBusy) = false ∧ Sys.syncUpTo (g.run exBusy) = true ∧
    Sys.InSyncView (Sys.drain (g.run exBusy)) = true :=
  ⟨by decide, by decide, by decide, by decide, by decide, by decide,
    fun _ => devsBelow_of_all _ _ (by decide), by decide, by decide, by decide, by decide, by decide, by decide⟩

/-- `C08S_convergence_all_enabled`: two devices, both enabled, the lossy run -/
example :
    let s := (Sys.init (Sys.fullCfg 100) [{ name := 1, enabled := true }, { name := 3, enabled := true }]).run exLossy
    (∀ x ∈ s.node.devs, x.enabled = true) ∧ s.node.enabledNames.length < 255 ∧
    Sys.roundsOk [exR1, exR2] s = true ∧ s.host.timer = .armed 102 ∧
    Sys.InSyncView (Sys.drain ((Sys.gSettle [exR1, exR2] s).1.run exBusy)) = true := by decide

/-- one NDATA lost without the host noticing yet (nothing buffered, no timer): the host expects 3,
the node will send 4 -/
def exSilentLoss : List Action :=
  [.hostConnect, .nodeConnect, .deliver 0, .deliver 0, .deliver 0, .publishNode, .drop 0]

/-- `C08S_one_round`, both branches: from the lossy run one generalised round ends in sync (the timer
that was running expired in the round's delivery phases); from the silent loss it ends quiet with the
three publishes buffered behind the gap and the reorder timer running -/
example :
    let a := (Sys.gRound exR1 ((Sys.init (Sys.fullCfg 100) exDevs).run exLossy)).1
    let s := (Sys.init (Sys.fullCfg 100) exDevs).run exSilentLoss
    let b := (Sys.gRound exR1 s).1
    Sys.InSyncView a = true ∧ Sys.syncUpTo a = true ∧
    Sys.roundOk s exR1 = true ∧ s.host.timer = .none ∧ s.host.reseq.buf = [] ∧
    Sys.InSyncView b = false ∧ b.toHost = [] ∧ b.toNode = 0 ∧ b.host.timer = .armed 102 ∧
    b.host.reseq.buf.length = 3 := by decide

/-- the host application connects late: the node's births are lost to it; its record is stale -/
def exLate : List Action := [.nodeConnect, .deliver 0, .deliver 0, .deliver 0, .hostConnect]

/-- a rebirth storm with everything interleaved: two publishes, the first is delivered (NCMD 1), tick,
the NCMD reaches the node (rebirth 1) while DDATA(1) is still in flight; it is delivered to the stale
record (NCMD 2); device 3 publishes; the NBIRTH is delivered; tick; NCMD 2 reaches the node (rebirth
2) while the DBIRTHs of rebirth 1 and a DDATA are still in flight; more publishes and deliveries -/
def exStorm : List Action :=
  [.publishNode, .publishDev 1, .deliver 0, .advance 1, .deliverNcmd, .deliver 0, .publishDev 3, .deliver 0,
   .advance 2, .deliverNcmd, .publishNode, .deliver 0, .deliver 0, .publishDev 1, .advance 0, .deliver 0]

/-- `C08S_convergence_stale_host`: hypotheses and conclusion on the storm (five messages are still in
flight after it; after `drain` the view is in sync); and the other branch: an NCMD-free schedule
leaves the record stale, one publish repairs it -/
example :
    let s := (Sys.init (Sys.fullCfg 100) exDevs).run exLate
    let t := s.run exStorm
    let u' := Sys.drain (s.run [.advance 3, .deliverNcmd])
    s.node.enabledNames.length < 255 ∧ (s.nodeConn = true ∧ s.hostConn = true) ∧ s.toHost = [] ∧
    s.host.life = .stale ∧ FaultFree exStorm = true ∧ ticked false exStorm = true ∧
    t.toHost.length = 5 ∧ Sys.InSyncView t = false ∧ Sys.InSyncView (Sys.drain t) = true ∧
    (Sys.drain t).sent.length = 14 ∧
    Sys.InSyncView u' = false ∧ u'.host.life = .stale ∧
    Sys.InSyncView (Sys.drain (u'.step .publishNode)) = true := by decide

/-- after the round and the timeout: a publish answered by a second NCMD, two rebirths with publishes
and deliveries in between, each NCMD delivery preceded by a clock tick -/
def exAfter : List Action :=
  [.publishDev 3, .deliver 0, .advance 1, .deliverNcmd, .publishNode, .deliver 0, .advance 4, .deliverNcmd,
   .deliver 0, .publishDev 1]

/-- `C08S_convergence_round_then_any_partial`: the silent loss (one round ends with the timer
running); after the timeout the record is stale with one NCMD in flight; `exAfter` leaves six
messages in flight and the view out of sync; `drain` ends in sync -/
example :
    let s := (Sys.init (Sys.fullCfg 100) exDevs).run exSilentLoss
    let g := Sys.timerPhase (Sys.gRound exR1 s).1
    let t := g.run exAfter
    s.node.enabledNames.length < 255 ∧
    (InStep (Sys.quiesce s).host (Sys.quiesce s).node → DevsBelow (Sys.quiesce s).host (Sys.quiesce s).node) ∧
    Sys.roundOk s exR1 = true ∧ FaultFree exAfter = true ∧ ticked false exAfter = true ∧
    g.host.life = .stale ∧ g.toNode = 1 ∧ t.toHost.length = 6 ∧ Sys.InSyncView t = false ∧
    Sys.InSyncView (Sys.drain t) = true ∧
    Sys.InSyncView (Sys.drain ((Sys.drain t).step .publishNode)) = true :=
  ⟨by decide, fun _ => devsBelow_of_all _ _ (by decide), by decide, by decide, by decide, by decide,
    by decide, by decide, by decide, by decide, by decide⟩

end Srad.Loop
