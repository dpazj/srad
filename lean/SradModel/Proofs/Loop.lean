/-
The closed loop node ↔ broker ↔ host (`Model/Loop.lean`), behind `Props/C08.lean`. Safety: `Sys.step` in
rule form, and the invariants `SafeInv`, `LiveInv`, `NodeInv` move by move. Convergence: what one burst
of the node does to a host record that is stale, tracking or lagging, and the phases of `settle` from it.
(`Model/LoopSched2` is imported for `Action.keepsSwitches`, which the rule form of `Sys.step` speaks of.)
-/
import SradModel.Model.LoopSpec
import SradModel.Model.LoopSched2
import SradModel.Proofs.Host
import SradModel.Proofs.HostSeq

namespace Srad.Loop
open Srad Srad.Host

/-! ## the host step: silent pieces, and what every step keeps -/

def carries : Eff → Bool
  | .nodeBirth _ _ | .nodeData _ | .devBirth _ _ _ | .devData _ _ => true
  | _ => false

/-- `Q` holds of every id-carrying effect that applying `m` could emit -/
def MsgQ (Q : Eff → Prop) : RMsg → Prop
  | .ndata id _ => Q (.nodeData id)
  | .dbirth d id _ => ∀ b, Q (.devBirth d id b)
  | .ddeath _ _ => True
  | .ddata d id _ => Q (.devData d id)

def BufQ (Q : Eff → Prop) (s : St) : Prop := ∀ x ∈ s.reseq.buf, MsgQ Q x.2.2

/-- `r` buffers nothing that `s` did not, leaves the device table alone or marks every device stale,
and emits no effect that names a message id -/
def Silent (s : St) (r : St × List Eff) : Prop :=
  (∀ x ∈ r.1.reseq.buf, x ∈ s.reseq.buf) ∧
  (r.1.devices = s.devices ∨ r.1.devices = s.devices.map fun d => (d.1, Life.stale)) ∧
  ∀ e ∈ r.2, carries e = false

theorem Silent.refl (s : St) : Silent s (s, []) := ⟨fun _ h => h, .inl rfl, fun _ h => nomatch h⟩

theorem Silent.trans {s : St} {r1 r2 : St × List Eff} (h1 : Silent s r1) (h2 : Silent r1.1 r2) :
    Silent s (r2.1, r1.2 ++ r2.2) := by
  refine ⟨fun x hx => h1.1 x (h2.1 x hx), ?_, fun e he => (List.mem_append.mp he).elim (h1.2.2 e) (h2.2.2 e)⟩
  rcases h1.2.1 with e1 | e1 <;> rcases h2.2.1 with e2 | e2
  · exact .inl (e2.trans e1)
  · exact .inr (by rw [e2, e1])
  · exact .inr (by rw [e2, e1])
  · exact .inr (by rw [e2, e1, List.map_map]; rfl)

theorem cancelTimer_silent (s : St) : Silent s (cancelTimer s) :=
  ⟨fun x hx => by rwa [cancelTimer_fst] at hx, .inl (cancelTimer_devices s),
    fun e he => by rw [cancelTimer_snd s e he]; rfl⟩

theorem startTimer_silent (c : Cfg) (s : St) (now : Nat) : Silent s (startTimer c s now) :=
  ⟨fun x hx => by rwa [startTimer_fst_eq] at hx, .inl (by rw [startTimer_fst_eq]),
    fun e he => by rw [startTimer_snd c s now e he]; rfl⟩

theorem carries_of_staleish (e : Eff) (h : e.staleish = true) : carries e = false := by
  cases e <;> first | rfl | cases h

theorem setStale_silent (s : St) (t : Nat) : Silent s (setStale s t) := by
  have he := fun e he => carries_of_staleish e (setStale_staleish s t e he).1
  rcases setStale_cases s t with h | ⟨_, _, h⟩ <;> rw [h] at he ⊢
  · exact ⟨fun _ hx => hx, .inl rfl, he⟩
  · exact ⟨fun _ hx => (nomatch hx), .inr rfl, he⟩

theorem issueRebirth_silent (c : Cfg) (s : St) (r : Reason) (now wall : Nat) :
    Silent s (issueRebirth c s r now wall) := by
  have he := fun e he => carries_of_staleish e (issueRebirth_staleish c s r now wall e he)
  rcases issueRebirth_cases c s r now wall with h | ⟨_, _, h⟩ <;> rw [h] at he ⊢
  · exact ⟨fun _ hx => hx, .inl rfl, he⟩
  · exact ⟨(setStale_silent { s with lastRebirth := wall } now).1,
      (setStale_silent { s with lastRebirth := wall } now).2.1, he⟩

/-! ### what a host step keeps

`B` of every buffered message, `D` of the device table, `E` of every effect — provided `apply` keeps
them for a message that satisfies `B`, marking every device stale keeps `D`, and `E` holds of the
effects that carry no message id. -/

section
variable {B : RMsg → Prop} {D : List (Nat × Life) → Prop} {E : Eff → Prop}
  (hE : ∀ e, carries e = false → E e) (hD : ∀ L, D L → D (L.map fun d => (d.1, Life.stale)))
  (hA : ∀ (s : St) (m : RMsg), D s.devices → B m → D (apply s m).1.devices ∧ ∀ e ∈ (apply s m).2.1, E e)

def Ok (B : RMsg → Prop) (D : List (Nat × Life) → Prop) (E : Eff → Prop) (r : St × List Eff) : Prop :=
  (∀ x ∈ r.1.reseq.buf, B x.2.2) ∧ D r.1.devices ∧ ∀ e ∈ r.2, E e

def InOk (B : RMsg → Prop) (E : Eff → Prop) : In → Prop
  | .nbirth _ _ id _ => ∀ b, E (.nodeBirth id b)
  | .rmsg _ _ m => B m
  | _ => True

theorem Ok.acc {acc : List Eff} (ha : ∀ e ∈ acc, E e) {r : St × List Eff} (h : Ok B D E r) :
    Ok B D E (r.1, acc ++ r.2) :=
  ⟨h.1, h.2.1, fun e he => (List.mem_append.mp he).elim (ha e) (h.2.2 e)⟩

include hE hD in
theorem Silent.ok {s : St} {r : St × List Eff} (h : Silent s r) (hb : Ok B D E (s, [])) : Ok B D E r :=
  ⟨fun x hx => hb.1 x (h.1 x hx), by rcases h.2.1 with e | e <;> rw [e]; exact hb.2.1; exact hD _ hb.2.1,
    fun e he => hE e (h.2.2 e he)⟩

include hA in
theorem applyAll_ok (ms : List RMsg) : ∀ s : St, D s.devices → (∀ m ∈ ms, B m) →
    D (applyAll s ms).1.devices ∧ ∀ e ∈ (applyAll s ms).2.1, E e := by
  induction ms with
  | nil => intro s h _; exact ⟨h, nofun⟩
  | cons m t ih =>
    intro s h hb
    obtain ⟨a1, a2⟩ := hA s m h (hb m (List.mem_cons_self ..))
    rw [applyAll_cons]
    cases hr : (apply s m).2.2 with
    | some r => exact ⟨a1, a2⟩
    | none =>
      obtain ⟨i1, i2⟩ := ih _ a1 (fun m' h' => hb m' (List.mem_cons_of_mem _ h'))
      exact ⟨i1, fun e he => (List.mem_append.mp he).elim (a2 e) (i2 e)⟩

include hE hD hA in
theorem handleRMsg_ok (c : Cfg) (s : St) (seq ts : Nat) (m : RMsg) (now : Nat)
    (hb : Ok B D E (s, [])) (hm : B m) :
    Ok B D E ((handleRMsg c s seq ts m now).1, (handleRMsg c s seq ts m now).2.1) := by
  rcases handleRMsg_cases c s seq ts m now with ⟨_, h⟩ | ⟨_, _, h⟩ | ⟨hf, hl, ⟨_, h⟩ | hres⟩
  · rw [h]; exact hb
  · rw [h]; exact hb
  · rw [h]; exact ⟨fun x hx => hb.1 x (by rwa [apply_reseq] at hx), hA s m hb.2.1 hm⟩
  -- the resequencer's buffer afterwards holds what it held, and possibly the input
  have hpm : ∀ r' res, Reseq.process s.reseq seq (seq, m) = (r', res) → ∀ x ∈ r'.buf, B x.2.2 := by
    intro r' res hp x hx
    rcases Reseq.process_mem s.reseq seq (seq, m) x (by rw [hp]; exact hx) with h | h
    · exact hb.1 x h
    · rw [h]; exact hm
  rcases handleRMsg_char c s seq ts m now hf hl hres with
    ⟨r', hp, h, _⟩ | ⟨r', hp, h, _⟩ | ⟨r', ms, r1, hp, hch, _, h, _⟩ <;> rw [h]
  · exact ⟨hpm r' _ hp, hb.2⟩
  · have hb1 : Ok B D E ({ s with reseq := r' }, []) := ⟨hpm r' _ hp, hb.2⟩
    split
    · exact (startTimer_silent c _ now).ok hE hD hb1
    · exact hb1
  · -- the input and what it frees are applied; the rest stays buffered
    obtain ⟨a1, a2⟩ := applyAll_ok hA (m :: ms.map (·.2)) s hb.2.1 (fun x hx => by
      rcases List.mem_cons.mp hx with rfl | hx
      · exact hm
      · obtain ⟨y, hy, rfl⟩ := List.mem_map.mp hx
        obtain ⟨k, hk⟩ := hch.mem.1 y hy
        exact hpm r' _ hp _ hk)
    obtain ⟨te, he, hte⟩ := drained_effs c now (!ms.isEmpty) s [] (m :: ms.map (·.2)) r1
    refine ⟨fun x hx => hpm r' _ hp x (hch.mem.2 x (drained_buf _ _ _ _ _ _ _ x hx)),
      by rw [drained_fst]; exact a1, ?_⟩
    rw [he]
    intro e hmem
    rcases List.mem_append.mp hmem with hmem | hmem
    · exact a2 e (by simpa using hmem)
    · exact hE e (by rcases hte e hmem with rfl | rfl <;> rfl)

include hE hD hA in
theorem step_ok (c : Cfg) (s : St) (i : In) (now wall : Nat) (hb : Ok B D E (s, [])) (hi : InOk B E i) :
    Ok B D E (step c s i now wall) := by
  have hbody : Ok B D E (body c s i now) := by
    cases i with
    | nbirth ts bd id ans =>
      simp only [body]
      split
      · exact hb
      split
      · exact ⟨hb.1, hb.2.1, fun e he => by cases List.mem_singleton.mp he; exact hi _⟩
      · refine ⟨fun x hx => by simp [Reseq.setNext, Reseq.init] at hx, hD _ hb.2.1, fun e he => ?_⟩
        rcases List.mem_append.mp he with he | he
        · rcases List.mem_append.mp he with he | he
          · cases List.mem_singleton.mp he; exact hi _
          · exact hE e ((cancelTimer_silent s).2.2 e he)
        · obtain ⟨x, _, rfl⟩ := List.mem_map.mp he
          exact hE _ rfl
    | ndeath bd => exact ((cancelTimer_silent s).trans (setStale_silent _ now)).ok hE hD hb
    | rmsg seq ts m => exact handleRMsg_ok hE hD hA c s seq ts m now hb hi
    | offline => exact (setStale_silent s now).ok hE hD hb
    | rebirthReq r => exact hb
    | timerFire =>
      simp only [body]
      split <;> exact hb
  rw [step_eq]
  split
  · exact hbody
  · exact ((issueRebirth_silent c _ _ now wall).ok hE hD ⟨hbody.1, hbody.2.1, nofun⟩).acc hbody.2.2

end

def InQ (Q : Eff → Prop) : In → Prop := InOk (MsgQ Q) Q

theorem apply_Q {Q : Eff → Prop} (hQ : ∀ e, carries e = false → Q e) (s : St) (m : RMsg) (hm : MsgQ Q m) :
    ∀ e ∈ (apply s m).2.1, Q e := by
  cases m with
  | ndata id ans => simpa [apply, MsgQ] using hm
  | dbirth d id ans =>
    simp only [apply]
    intro e he
    split at he <;> split at he <;> simp at he
    all_goals first
      | (rcases he with rfl | rfl; exact hQ _ rfl; exact hm _)
      | (subst he; exact hm _)
  | ddeath d id =>
    simp only [apply]
    intro e he
    split at he
    · simp at he
    · simp at he; subst he; exact hQ _ rfl
  | ddata d id ans =>
    simp only [apply]
    intro e he
    split at he
    · simp at he
    · simp at he
    · simp at he; subst he; exact hm

/-- a host step only emits ids of its input or of earlier inputs it had buffered -/
theorem step_Q {Q : Eff → Prop} (hQ : ∀ e, carries e = false → Q e) (c : Cfg) (s : St) (i : In) (now wall : Nat)
    (hb : BufQ Q s) (hi : InQ Q i) : BufQ Q (step c s i now wall).1 ∧ ∀ e ∈ (step c s i now wall).2, Q e :=
  have h := step_ok (D := fun _ => True) hQ (fun _ _ => trivial)
    (fun s m _ hm => ⟨trivial, apply_Q hQ s m hm⟩) c s i now wall ⟨hb, trivial, nofun⟩ hi
  ⟨h.1, h.2.2⟩

/-! ## the composed system -/

theorem carries_EffOk (sent : List Msg) : ∀ e, carries e = false → EffOk sent e := by
  intro e he; cases e <;> simp_all [carries, EffOk]

theorem EffOk_mono {a b : List Msg} (h : ∀ m ∈ a, m ∈ b) (e : Eff) (he : EffOk a e) : EffOk b e := by
  cases e <;> simp only [EffOk] at he ⊢
  · obtain ⟨x, y, hx⟩ := he; exact ⟨x, y, h _ hx⟩
  · obtain ⟨x, y, hx⟩ := he; exact ⟨x, y, h _ hx⟩
  · obtain ⟨x, y, hx⟩ := he; exact ⟨x, y, h _ hx⟩
  · obtain ⟨x, y, hx⟩ := he; exact ⟨x, y, h _ hx⟩

theorem MsgQ_mono {a b : List Msg} (h : ∀ m ∈ a, m ∈ b) (m : RMsg) (hm : MsgQ (EffOk a) m) :
    MsgQ (EffOk b) m := by
  cases m <;> simp only [MsgQ] at hm ⊢
  · exact EffOk_mono h _ hm
  · exact fun b' => EffOk_mono h _ (hm b')
  · exact EffOk_mono h _ hm

theorem InQ_of_mem (sent : List Msg) (m : Msg) (h : m ∈ sent) : InQ (EffOk sent) m.toIn := by
  cases m <;> simp only [Msg.toIn, InQ, InOk, MsgQ, EffOk]
  · exact fun _ => ⟨_, _, h⟩
  · exact ⟨_, _, h⟩
  · exact fun _ => ⟨_, _, h⟩
  · exact ⟨_, _, h⟩

def Msg.WF (m : Msg) : Prop := m.toIn.WF

/-- timestamps the input carries into the record -/
def In.tsLe (now : Nat) : In → Prop
  | .nbirth ts _ _ _ => ts ≤ now
  | _ => True

def Msg.tsLe (now : Nat) (m : Msg) : Prop := In.tsLe now m.toIn

/-- flags and switches of the abstract node are consistent in every reachable state -/
structure NodeInv (n : Node) : Prop where
  online : n.birthed = true → n.online = true
  seq : n.seq < 256
  flagEn : ∀ x ∈ n.devs, x.flag = true → x.enabled = true
  enFlag : n.birthed = true → ∀ x ∈ n.devs, x.enabled = true → x.flag = true
  names : (n.devs.map (·.name)).Nodup

theorem NodeInv.frame {n n' : Node} (h : NodeInv n) (h1 : n'.online = n.online) (h2 : n'.birthed = n.birthed)
    (h3 : n'.devs = n.devs) (h4 : n'.seq < 256) : NodeInv n' :=
  ⟨by rw [h1, h2]; exact h.online, h4, by rw [h3]; exact h.flagEn, by rw [h2, h3]; exact h.enFlag,
    by rw [h3]; exact h.names⟩

theorem setDev_names (x : Dev) (l : List Dev) : (Node.setDev x l).map (·.name) = l.map (·.name) := by
  induction l with
  | nil => rfl
  | cons y t ih =>
    simp only [Node.setDev]
    split
    · rename_i h
      simp only [List.map_cons]
      have : y.name = x.name := by simpa using h
      rw [this]
    · simp only [List.map_cons, ih]

theorem mem_setDev (x : Dev) (l : List Dev) (y : Dev) (h : y ∈ Node.setDev x l) : y = x ∨ y ∈ l := by
  induction l with
  | nil => cases h
  | cons z t ih =>
    simp only [Node.setDev] at h
    split at h
    · rcases List.mem_cons.mp h with h | h
      · exact Or.inl h
      · exact Or.inr (List.mem_cons_of_mem _ h)
    · rcases List.mem_cons.mp h with h | h
      · exact Or.inr (h ▸ List.mem_cons_self ..)
      · rcases ih h with h | h
        · exact Or.inl h
        · exact Or.inr (List.mem_cons_of_mem _ h)

theorem findDev_some (n : Node) (d : Nat) (x : Dev) (h : n.findDev d = some x) : x ∈ n.devs ∧ x.name = d :=
  ⟨List.mem_of_find?_eq_some h, by simpa using List.find?_some h⟩

theorem NodeInv.setDev {n n' : Node} (h : NodeInv n) (x : Dev) (h1 : n'.online = n.online)
    (h2 : n'.birthed = n.birthed) (h3 : n'.devs = Node.setDev x n.devs) (h4 : n'.seq < 256)
    (hx1 : x.flag = true → x.enabled = true) (hx2 : n.birthed = true → x.enabled = true → x.flag = true) :
    NodeInv n' := by
  refine ⟨by rw [h1, h2]; exact h.online, h4, ?_, ?_, by rw [h3, setDev_names]; exact h.names⟩
  · intro y hy
    rw [h3] at hy
    rcases mem_setDev x _ y hy with rfl | hy
    · exact hx1
    · exact h.flagEn y hy
  · intro hb y hy
    rw [h3] at hy
    rw [h2] at hb
    rcases mem_setDev x _ y hy with rfl | hy
    · exact hx2 hb
    · exact h.enFlag hb y hy

theorem nextSeq_some (n n1 : Node) (k : Nat) (h : n.nextSeq = some (n1, k)) :
    k = (n.seq + 1) % 256 ∧ n1 = { n with seq := k } ∧ n.online = true ∧ n.birthed = true := by
  unfold Node.nextSeq at h
  split at h
  · rename_i hg
    cases h
    simp only [Bool.and_eq_true] at hg
    exact ⟨rfl, rfl, hg.1, hg.2⟩
  · cases h

theorem nextSeq_gate (n : Node) (h1 : n.online = true) (h2 : n.birthed = true) :
    n.nextSeq = some ({ n with seq := (n.seq + 1) % 256 }, (n.seq + 1) % 256) := by
  simp [Node.nextSeq, h1, h2]

/-- per-device messages of one burst: the device at position `j` (counted from `i`) gets
sequence number `(k + j) % 256` and id `id0 + j` -/
def devMsgs (mk : Nat → Nat → Nat → Nat → Msg) (ts k id0 : Nat) : Nat → List Nat → List Msg
  | _, [] => []
  | i, d :: t => mk d ((k + i) % 256) ts (id0 + i) :: devMsgs mk ts k id0 (i + 1) t

theorem devMsgs_length (mk : Nat → Nat → Nat → Nat → Msg) (ts k id0 : Nat) (L : List Nat) :
    ∀ i, (devMsgs mk ts k id0 i L).length = L.length := by
  induction L with
  | nil => intro i; rfl
  | cons d t ih => intro i; simp [devMsgs, ih]

/-- What a node operation `r` on `n` at clock reading `ts` does, whichever it is: the connection flag, the
bdSeq and the registered names stay, `birthed` stays or is set; every message handed over is well formed and
stamped `ts`, and a DBIRTH names a device that is enabled afterwards; `NodeInv` is kept. `keeps` says that
the operation is not `enable` / `disable`: then every device's switch stays as it is. -/
structure OpOk (ts : Nat) (n : Node) (keeps : Bool) (r : Node × List Msg) : Prop where
  online : r.1.online = n.online
  birthed : r.1.birthed = n.birthed ∨ r.1.birthed = true
  bd : r.1.bdseq = n.bdseq
  names : r.1.devs.map (·.name) = n.devs.map (·.name)
  switches : keeps = true → (r.1.devs.map fun x => (x.name, x.enabled)) = n.devs.map fun x => (x.name, x.enabled)
  msgs : ∀ m ∈ r.2, (n.bdseq < 256 → Msg.WF m) ∧ Msg.tsLe ts m
  births : ∀ d seq t id, Msg.dbirth d seq t id ∈ r.2 → d ∈ r.1.enabledNames
  inv : NodeInv n → NodeInv r.1

theorem OpOk.refl (ts : Nat) (n : Node) (k : Bool) : OpOk ts n k (n, []) :=
  ⟨rfl, .inl rfl, rfl, rfl, fun _ => rfl, nofun, (fun _ _ _ _ h => nomatch h), id⟩

/-- the operation took the next sequence number for one message that is not a DBIRTH -/
theorem OpOk.data {ts : Nat} {n : Node} {k : Bool} {m : Msg} (hwf : Msg.WF m) (hts : Msg.tsLe ts m)
    (hnb : ∀ d seq t id, m ≠ .dbirth d seq t id) :
    OpOk ts n k ({ n with seq := (n.seq + 1) % 256, nextId := n.nextId + 1 }, [m]) :=
  ⟨rfl, .inl rfl, rfl, rfl, fun _ => rfl, fun _ h => by cases List.mem_singleton.mp h; exact ⟨fun _ => hwf, hts⟩,
    fun d seq t id h => absurd (List.mem_singleton.mp h).symm (hnb d seq t id),
    (·.frame rfl rfl rfl (Nat.mod_lt _ (by omega)))⟩

theorem pubNode_ok (ts : Nat) (n : Node) : OpOk ts n true (n.pubNode ts) := by
  unfold Node.pubNode
  split
  · exact .refl ts n _
  · rename_i n1 k hk
    obtain ⟨rfl, rfl, _, _⟩ := nextSeq_some n n1 k hk
    exact .data (Nat.mod_lt _ (by omega)) trivial nofun

theorem pubDev_ok (d ts : Nat) (n : Node) : OpOk ts n true (n.pubDev d ts) := by
  unfold Node.pubDev
  split
  · exact .refl ts n _
  split
  · exact .refl ts n _
  split
  · exact .refl ts n _
  · rename_i n1 k hk
    obtain ⟨rfl, rfl, _, _⟩ := nextSeq_some n n1 k hk
    exact .data (Nat.mod_lt _ (by omega)) trivial nofun

theorem mem_enabledNames_setDev (x : Dev) (l : List Dev) (h : x.enabled = true) (hx : x.name ∈ l.map (·.name)) :
    x.name ∈ ((Node.setDev x l).filter (·.enabled)).map (·.name) := by
  induction l with
  | nil => cases hx
  | cons y t ih =>
    simp only [Node.setDev]
    split
    · simp [h]
    · rename_i hne
      have : x.name ∈ t.map (·.name) := by
        rcases List.mem_cons.mp hx with he | ht
        · simp [he] at hne
        · exact ht
      simp only [List.filter_cons]
      split
      · exact List.mem_cons_of_mem _ (ih this)
      · exact ih this

/-- the operation stored `x` in place of the registered device of that name, and handed over `ms` about it -/
theorem OpOk.setDev {ts : Nat} {n n' : Node} {x : Dev} {ms : List Msg} (h1 : n'.online = n.online)
    (h2 : n'.birthed = n.birthed) (hbd : n'.bdseq = n.bdseq) (h3 : n'.devs = Node.setDev x n.devs)
    (h4 : n.seq < 256 → n'.seq < 256) (hx1 : x.flag = true → x.enabled = true)
    (hx2 : NodeInv n → n.birthed = true → x.enabled = true → x.flag = true)
    (hms : ∀ m ∈ ms, Msg.WF m ∧ Msg.tsLe ts m)
    (hb : ∀ d seq t id, Msg.dbirth d seq t id ∈ ms → d = x.name ∧ x.enabled = true ∧ x.name ∈ n.devs.map (·.name)) :
    OpOk ts n false (n', ms) where
  online := h1
  birthed := .inl h2
  bd := hbd
  names := by rw [h3, setDev_names]
  switches := nofun
  msgs := fun m hm => ⟨fun _ => (hms m hm).1, (hms m hm).2⟩
  births := fun d seq t id h => by
    obtain ⟨rfl, he, hn⟩ := hb d seq t id h
    simp only [Node.enabledNames, h3]
    exact mem_enabledNames_setDev x n.devs he hn
  inv := fun h => h.setDev x h1 h2 h3 (h4 h.seq) hx1 (hx2 h)

theorem disable_ok (d ts : Nat) (n : Node) : OpOk ts n false (n.disable d ts) := by
  unfold Node.disable
  split
  · exact .refl ts n _
  split
  · rename_i hf
    refine .setDev rfl rfl rfl rfl id (fun hfl => ?_) (fun _ _ he => nomatch he) nofun nofun
    simp only at hfl
    rw [hfl] at hf
    cases hf
  split
  · exact .setDev rfl rfl rfl rfl id (fun hfl => nomatch hfl) (fun _ _ he => nomatch he) nofun nofun
  · rename_i n1 k hk
    obtain ⟨rfl, rfl, _, _⟩ := nextSeq_some n n1 k hk
    refine .setDev rfl rfl rfl rfl (fun _ => Nat.mod_lt _ (by omega)) (fun hfl => nomatch hfl)
      (fun _ _ he => nomatch he) (fun m hm => ?_) (fun _ _ _ _ hm => ?_)
    · cases List.mem_singleton.mp hm; exact ⟨Nat.mod_lt _ (by omega), trivial⟩
    · cases List.mem_singleton.mp hm

theorem devBirth_cases (rb : Bool) (ts : Nat) (n : Node) (x : Dev) :
    (Node.devBirth rb ts n x = (n, x, []) ∧
      (n.online = true → n.birthed = true → x.enabled = true → x.flag = true)) ∨
    (x.enabled = true ∧ n.online = true ∧ n.birthed = true ∧
      Node.devBirth rb ts n x = ({ n with seq := (n.seq + 1) % 256, nextId := n.nextId + 1 },
        { x with flag := true }, [.dbirth x.name ((n.seq + 1) % 256) ts n.nextId])) := by
  unfold Node.devBirth
  cases he : x.enabled with
  | false => exact .inl ⟨rfl, fun _ _ h => nomatch h⟩
  | true =>
    simp only [Bool.not_true, Bool.false_eq_true, if_false]
    split
    · rename_i hf
      simp only [Bool.and_eq_true, Bool.not_eq_true'] at hf
      exact .inl ⟨rfl, fun _ _ _ => hf.2⟩
    split
    · rename_i hns
      refine .inl ⟨rfl, fun ho hb _ => ?_⟩
      rw [nextSeq_gate n ho hb] at hns
      cases hns
    · rename_i n1 k hk
      obtain ⟨rfl, rfl, ho, hb⟩ := nextSeq_some n n1 k hk
      exact .inr ⟨trivial, ho, hb, rfl⟩

theorem enable_ok (d ts : Nat) (n : Node) : OpOk ts n false (n.enable d ts) := by
  unfold Node.enable
  split
  · exact .refl ts n _
  · rename_i x hx
    rcases devBirth_cases false ts n { x with enabled := true } with ⟨h, hf⟩ | ⟨_, ho, hb, h⟩ <;> rw [h]
    · exact .setDev rfl rfl rfl rfl id (fun _ => rfl) (fun hi hb _ => hf (hi.online hb) hb rfl) nofun nofun
    · refine .setDev rfl rfl rfl rfl (fun _ => Nat.mod_lt _ (by omega)) (fun _ => rfl) (fun _ _ _ => rfl)
        (fun m hm => ?_) (fun _ _ _ _ hm => ?_)
      · cases List.mem_singleton.mp hm; exact ⟨Nat.mod_lt _ (by omega), trivial⟩
      · cases List.mem_singleton.mp hm
        exact ⟨rfl, rfl, List.mem_map.mpr ⟨x, (findDev_some n d x hx).1, rfl⟩⟩

/-! `DeviceMap::birth_devices` in closed form -/

/-- the devices a `birth_devices` pass births: enabled and, unless it is a rebirth, not yet flagged -/
def toBirth (rb : Bool) (l : List Dev) : List Dev := l.filter fun x => x.enabled && (rb || !x.flag)

/-- the device map after the pass -/
def flagged (l : List Dev) : List Dev := l.map fun x => if x.enabled then { x with flag := true } else x

/-- with the gate open (online and birthed) the pass births `toBirth rb l` in order, numbering on from the
node's counters, and leaves every enabled device flagged -/
theorem birthDevs_eq (rb : Bool) (ts K id0 : Nat) (l : List Dev) : ∀ (i : Nat) (n : Node), n.online = true →
    n.birthed = true → n.seq < 256 → (n.seq + 1) % 256 = (K + i) % 256 → n.nextId = id0 + i →
    Node.birthDevs rb ts n l =
      ({ n with seq := (n.seq + (toBirth rb l).length) % 256, nextId := n.nextId + (toBirth rb l).length },
       flagged l, devMsgs .dbirth ts K id0 i ((toBirth rb l).map (·.name))) := by
  induction l with
  | nil =>
    intro i n _ _ hs _ _
    simp only [Node.birthDevs, devMsgs, toBirth, flagged, List.filter_nil, List.length_nil, Nat.add_zero,
      Nat.mod_eq_of_lt hs, List.map_nil]
  | cons x t ih =>
    intro i n h1 h2 hs hK hid
    simp only [Node.birthDevs]
    cases hb : (x.enabled && (rb || !x.flag)) with
    | true =>
      have hdb : Node.devBirth rb ts n x =
          ({ n with seq := (n.seq + 1) % 256, nextId := n.nextId + 1 },
           (if x.enabled then { x with flag := true } else x),
           [.dbirth x.name ((K + i) % 256) ts (id0 + i)]) := by
        simp only [Bool.and_eq_true, Bool.or_eq_true, Bool.not_eq_true'] at hb
        rcases hb with ⟨he, hr | hf⟩ <;> simp [Node.devBirth, *, nextSeq_gate n h1 h2]
      rw [hdb]
      simp only
      rw [ih (i + 1) { n with seq := (n.seq + 1) % 256, nextId := n.nextId + 1 } h1 h2 (Nat.mod_lt _ (by omega))
        (by simp only; omega) (by simp only; omega)]
      have e1 : ((n.seq + 1) % 256 + (toBirth rb t).length) % 256
          = (n.seq + ((toBirth rb t).length + 1)) % 256 := by omega
      have e2 : n.nextId + 1 + (toBirth rb t).length = n.nextId + ((toBirth rb t).length + 1) := by omega
      have e3 : toBirth rb (x :: t) = x :: toBirth rb t := by simp only [toBirth, List.filter_cons, hb, if_true]
      simp only [e3, flagged, List.length_cons, List.map_cons, devMsgs, List.singleton_append, e1, e2]
    | false =>
      -- not birthed: disabled, or (no rebirth) flagged already, and then the flag is set as it is
      have hdb : Node.devBirth rb ts n x = (n, (if x.enabled then { x with flag := true } else x), []) := by
        cases he : x.enabled with
        | false => simp [Node.devBirth, he]
        | true =>
          simp only [he, Bool.true_and, Bool.or_eq_false_iff, Bool.not_eq_false'] at hb
          have hxx : ({ name := x.name, enabled := true, flag := true } : Dev) = x := by cases x; simp_all
          simp [Node.devBirth, he, hb.1, hb.2, hxx]
      rw [hdb]
      simp only
      rw [ih i n h1 h2 hs hK hid]
      have e3 : toBirth rb (x :: t) = toBirth rb t := by simp [toBirth, hb]
      simp only [e3, flagged, List.map_cons, List.nil_append]

theorem birthDevs_shut (rb : Bool) (ts : Nat) (l : List Dev) (n : Node) (h : (n.online && n.birthed) = false) :
    Node.birthDevs rb ts n l = (n, l, []) := by
  induction l with
  | nil => rfl
  | cons x t ih =>
    have hdb : Node.devBirth rb ts n x = (n, x, []) := by
      simp only [Node.devBirth, Node.nextSeq, h]
      split
      · rfl
      split <;> rfl
    simp only [Node.birthDevs, hdb, ih, List.nil_append]

theorem devMsgs_dbirth (ts k id0 now : Nat) (L : List Nat) : ∀ i, ∀ m ∈ devMsgs .dbirth ts k id0 i L,
    Msg.WF m ∧ Msg.tsLe now m ∧ ∃ d ∈ L, ∃ seq id, m = .dbirth d seq ts id := by
  induction L with
  | nil => intro i m hm; cases hm
  | cons d t ih =>
    intro i m hm
    rcases List.mem_cons.mp hm with rfl | hm
    · exact ⟨Nat.mod_lt _ (by omega), trivial, d, List.mem_cons_self .., _, _, rfl⟩
    · obtain ⟨a, b, d', hd', c⟩ := ih (i + 1) m hm
      exact ⟨a, b, d', List.mem_cons_of_mem _ hd', c⟩

theorem flagged_switches (l : List Dev) :
    ((flagged l).map fun x => (x.name, x.enabled)) = l.map fun x => (x.name, x.enabled) := by
  simp only [flagged, List.map_map]
  refine List.map_congr_left fun x _ => ?_
  simp only [Function.comp]
  split <;> rfl

/-- names and enabled names are read off the switches -/
theorem names_of_switches {l l' : List Dev}
    (h : (l'.map fun x => (x.name, x.enabled)) = l.map fun x => (x.name, x.enabled)) :
    l'.map (·.name) = l.map (·.name) ∧ (l'.filter (·.enabled)).map (·.name) = (l.filter (·.enabled)).map (·.name) := by
  have e : ∀ l : List Dev, l.map (·.name) = (l.map fun x => (x.name, x.enabled)).map (·.1) ∧
      (l.filter (·.enabled)).map (·.name) = ((l.map fun x => (x.name, x.enabled)).filter (·.2)).map (·.1) := fun l => by
    simp [List.filter_map, List.map_map, Function.comp_def]
  rw [(e l').1, (e l').2, (e l).1, (e l).2, h]
  exact ⟨rfl, rfl⟩

theorem flagged_flags (l : List Dev) : ∀ y ∈ flagged l,
    (y.enabled = true → y.flag = true) ∧
    ((∀ x ∈ l, x.flag = true → x.enabled = true) → y.flag = true → y.enabled = true) := by
  intro y hy
  obtain ⟨x, hx, rfl⟩ := List.mem_map.mp hy
  split
  · rename_i he
    exact ⟨fun _ => rfl, fun _ _ => he⟩
  · rename_i he
    exact ⟨fun h => absurd h he, fun hl => hl x hx⟩

theorem flagged_id (l : List Dev) (h : ∀ x ∈ l, x.flag = x.enabled) : flagged l = l := by
  have : ∀ x ∈ l, (if x.enabled then { x with flag := true } else x) = x := by
    intro x hx
    have := h x hx
    cases x; split <;> simp_all
  simp only [flagged, List.map_congr_left this, List.map_id']

/-- `Node::birth`; the node is online whenever it runs (`on_online` has just marked it so, a rebirth needs a
birthed node), which `NodeInv` alone does not say -/
theorem nodeBirth_ok (rb : Bool) (ts : Nat) (n : Node) (hon : NodeInv n → n.online = true) :
    OpOk ts n true (Node.nodeBirth rb ts n) := by
  have hnb : (n.bdseq < 256 → Msg.WF (.nbirth ts n.bdseq n.nextId)) ∧ Msg.tsLe ts (.nbirth ts n.bdseq n.nextId) :=
    ⟨id, Nat.le_refl _⟩
  cases ho : n.online with
  | false =>
    have hs := birthDevs_shut rb ts n.devs { n with birthed := true, seq := 0, nextId := n.nextId + 1 }
      (by simp only [ho, Bool.false_and])
    simp only [Node.nodeBirth, hs]
    refine ⟨rfl, .inr rfl, rfl, rfl, fun _ => rfl, fun m hm => by cases List.mem_singleton.mp hm; exact hnb,
      (fun _ _ _ _ hm => nomatch List.mem_singleton.mp hm), fun h0 => ?_⟩
    rw [hon h0] at ho
    cases ho
  | true =>
    have he := birthDevs_eq rb ts 0 n.nextId n.devs 1 { n with birthed := true, seq := 0, nextId := n.nextId + 1 }
      ho rfl (Nat.zero_lt_succ 255) rfl rfl
    simp only [Node.nodeBirth, he]
    have hsw := names_of_switches (flagged_switches n.devs)
    refine ⟨rfl, .inr rfl, rfl, hsw.1, fun _ => flagged_switches n.devs, fun m hm => ?_, fun d seq t id hm => ?_,
      fun h0 => ⟨fun _ => ho, Nat.mod_lt _ (by omega), fun y hy => (flagged_flags n.devs y hy).2 h0.flagEn,
        fun _ y hy _ => (flagged_flags n.devs y hy).1 ‹_›, hsw.1.symm ▸ h0.names⟩⟩
    · rcases List.mem_cons.mp hm with rfl | hm
      · exact hnb
      · obtain ⟨a, b, _⟩ := devMsgs_dbirth ts 0 n.nextId ts _ 1 m hm
        exact ⟨fun _ => a, b⟩
    · rcases List.mem_cons.mp hm with hm | hm
      · cases hm
      · obtain ⟨_, _, d', hd', _, _, hmd⟩ := devMsgs_dbirth ts 0 n.nextId ts _ 1 _ hm
        cases hmd
        obtain ⟨x, hx, rfl⟩ := List.mem_map.mp hd'
        obtain ⟨h1, h2⟩ := List.mem_filter.mp hx
        simp only [Bool.and_eq_true] at h2
        simp only [Node.enabledNames, hsw.2]
        exact List.mem_map_of_mem (List.mem_filter.mpr ⟨h1, h2.1⟩)

theorem rebirth_ok (ts : Nat) (n : Node) : OpOk ts n true (n.rebirth ts) := by
  unfold Node.rebirth
  split
  · exact .refl ts n _
  · rename_i hb
    exact nodeBirth_ok true ts n fun h => h.online (by simpa using hb)

/-- `on_online`, seen from the node already marked online -/
theorem goOnline_ok (ts : Nat) (n : Node) : OpOk ts { n with online := true } true (n.goOnline ts) := by
  unfold Node.goOnline
  split
  · rename_i h
    exact ⟨h, .inl rfl, rfl, rfl, fun _ => rfl, nofun, (fun _ _ _ _ h => nomatch h),
      fun hi => ⟨fun _ => h, hi.seq, hi.flagEn, hi.enFlag, hi.names⟩⟩
  · exact nodeBirth_ok false ts { n with online := true } fun _ => rfl

theorem NodeInv.markOnline {n : Node} (h : NodeInv n) : NodeInv { n with online := true } :=
  ⟨fun _ => rfl, h.seq, h.flagEn, h.enFlag, h.names⟩

theorem goOffline_inv (n : Node) (h : NodeInv n) : NodeInv n.goOffline.1 := by
  unfold Node.goOffline
  split
  · exact h
  · refine ⟨(fun hb => nomatch hb), h.seq, ?_, (fun hb => nomatch hb), ?_⟩
    · intro y hy hf
      obtain ⟨z, _, rfl⟩ := List.mem_map.mp hy
      cases hf
    · simp only [List.map_map]
      exact h.names

/-- the flag says whether the operation leaves every device's switch as it is -/
inductive NodeOp (ts : Nat) (n : Node) : Bool → Node × List Msg → Prop
  | pubNode : NodeOp ts n true (n.pubNode ts)
  | pubDev (d : Nat) : NodeOp ts n true (n.pubDev d ts)
  | enable (d : Nat) : NodeOp ts n false (n.enable d ts)
  | disable (d : Nat) : NodeOp ts n false (n.disable d ts)
  | rebirth : NodeOp ts n true (n.rebirth ts)

theorem NodeOp.ok {ts : Nat} {n : Node} {k : Bool} {r : Node × List Msg} (h : NodeOp ts n k r) : OpOk ts n k r := by
  cases h
  · exact pubNode_ok ts n
  · exact pubDev_ok _ ts n
  · exact enable_ok _ ts n
  · exact disable_ok _ ts n
  · exact rebirth_ok ts n

def HostIn (s : Sys) (i : In) : Prop := i = .offline ∨ i = .timerFire ∨ ∃ m ∈ s.toHost, i = m.toIn

/-- Every action is made of at most two of six elementary moves: the node runs an operation and hands
over its messages (one that keeps the switches, unless the action is `enable` / `disable`); the host
actor handles an input; messages in flight are removed or repeated; the host's connection flag or the
NCMD counter changes or the clock advances; the node connects and births; the node's connection
breaks. A property kept by each move is kept by every action. -/
theorem Sys.step_induct {P : Sys → Prop} (s : Sys) (a : Action) (h : P s)
    (send : ∀ s r k, P s → NodeOp s.clock s.node k r → (a.keepsSwitches = true → k = true) →
      P (s.send r.1 r.2))
    (host : ∀ s i, P s → HostIn s i → P (s.hostStep i))
    (flight : ∀ s l, P s → (∀ m ∈ l, m ∈ s.toHost) → P { s with toHost := l })
    (ctl : ∀ s k hc ms, P s → P { s with toNode := k, hostConn := hc, clock := s.clock + ms })
    (connect : ∀ s, P s → s.nodeConn = false →
      P { s.send (s.node.goOnline s.clock).1 (s.node.goOnline s.clock).2 with nodeConn := true })
    (death : ∀ s, P s →
      P { s with node := s.node.goOffline.1, nodeConn := false, will := s.node.goOffline.2.getD s.will,
                 toHost := s.toHost ++ [.ndeath s.will], sent := s.sent ++ [.ndeath s.will] }) :
    P (s.step a) := by
  cases a with
  | publishNode => exact send s _ _ h .pubNode fun _ => rfl
  | publishDev d => exact send s _ _ h (.pubDev d) fun _ => rfl
  | enable d => exact send s _ _ h (.enable d) fun hk => nomatch hk
  | disable d => exact send s _ _ h (.disable d) fun hk => nomatch hk
  | manualRebirth => exact send s _ _ h .rebirth fun _ => rfl
  | deliver k =>
    simp only [Sys.step]
    split
    · exact h
    · rename_i m hm
      simp only [Sys.recv]
      split
      · exact flight _ _ (host s _ h (.inr (.inr ⟨m, List.mem_of_getElem? hm, rfl⟩)))
          fun m' hm' => (List.eraseIdx_sublist ..).subset hm'
      · exact flight s _ h fun m' hm' => (List.eraseIdx_sublist ..).subset hm'
  | duplicate k =>
    simp only [Sys.step]
    split
    · exact h
    · rename_i m hm
      refine flight s _ h fun m' hm' => ?_
      rcases List.mem_append.mp hm' with hm' | hm'
      · exact hm'
      · cases List.mem_singleton.mp hm'; exact List.mem_of_getElem? hm
  | drop k =>
    simp only [Sys.step]
    split
    · exact h
    · split
      · exact flight s _ h fun m' hm' => (List.eraseIdx_sublist ..).subset hm'
      · exact h
  | deliverNcmd =>
    simp only [Sys.step]
    split
    · exact h
    · have h1 := ctl s (s.toNode - 1) s.hostConn 0 h
      split
      · exact send _ _ _ h1 .rebirth fun _ => rfl
      · exact h1
  | dropNcmd => exact ctl s (s.toNode - 1) s.hostConn 0 h
  | nodeDisconnect =>
    simp only [Sys.step]
    split
    · exact h
    · exact death s h
  | nodeConnect =>
    simp only [Sys.step]
    split
    · exact h
    · rename_i hc
      exact connect s h (by simpa using hc)
  | hostDisconnect =>
    simp only [Sys.step]
    split
    · exact h
    · exact ctl _ _ false 0 (host s _ h (.inl rfl))
  | hostConnect => exact ctl s s.toNode true 0 h
  | advance ms =>
    simp only [Sys.step]
    have h1 := ctl s s.toNode s.hostConn ms h
    split
    · split
      · exact host _ _ h1 (.inr (.inl rfl))
      · exact h1
    · exact h1

/-- Everything in flight was sent and is well formed; ids of buffered messages and of all
effects so far are justified by `sent`; the host half is a run of the host model from `init`. -/
structure SafeInv (c : Cfg) (s : Sys) : Prop where
  cfg : s.cfg = c
  bd : s.node.bdseq < 256
  will : s.will < 256
  flight : ∀ m ∈ s.toHost, m ∈ s.sent ∧ Msg.WF m
  buf : BufQ (EffOk s.sent) s.host
  effs : ∀ e ∈ s.effs, EffOk s.sent e
  isRun : ∃ evs : List Ev, (∀ e ∈ evs, e.inp.WF) ∧ Host.run c Host.init evs = (s.host, s.effs)

theorem SafeInv_init (c : Cfg) (devs : List Dev) : SafeInv c (Sys.init c devs) where
  cfg := rfl
  bd := by simp [Sys.init]
  will := by simp [Sys.init]
  flight := by simp [Sys.init]
  buf := by intro x hx; simp [Sys.init, Host.init, Reseq.init] at hx
  effs := by simp [Sys.init]
  isRun := ⟨[], by simp, rfl⟩

theorem SafeInv.more {c : Cfg} {s : Sys} (h : SafeInv c s) (ms : List Msg) :
    BufQ (EffOk (s.sent ++ ms)) s.host ∧ ∀ e ∈ s.effs, EffOk (s.sent ++ ms) e :=
  ⟨fun x hx => MsgQ_mono (fun _ hm => List.mem_append_left _ hm) _ (h.buf x hx),
    fun e he => EffOk_mono (fun _ hm => List.mem_append_left _ hm) _ (h.effs e he)⟩

theorem SafeInv_send (c : Cfg) (s : Sys) (r : Node × List Msg) (h : SafeInv c s) {n0 : Node} {k : Bool}
    (hr : OpOk s.clock n0 k r) (h0 : n0.bdseq = s.node.bdseq) : SafeInv c (s.send r.1 r.2) where
  cfg := h.cfg
  bd := (hr.bd.trans h0).symm ▸ h.bd
  will := h.will
  flight := by
    intro m hm
    rcases List.mem_append.mp hm with hm | hm
    · exact ⟨List.mem_append_left _ (h.flight m hm).1, (h.flight m hm).2⟩
    · exact ⟨List.mem_append_right _ hm, (hr.msgs m hm).1 (h0 ▸ h.bd)⟩
  buf := (h.more r.2).1
  effs := (h.more r.2).2
  isRun := h.isRun

theorem SafeInv.hostIn {c : Cfg} {s : Sys} {i : In} (h : SafeInv c s) (hi : HostIn s i) :
    InQ (EffOk s.sent) i ∧ i.WF := by
  rcases hi with rfl | rfl | ⟨m, hm, rfl⟩
  · exact ⟨trivial, trivial⟩
  · exact ⟨trivial, trivial⟩
  · exact ⟨InQ_of_mem _ _ (h.flight m hm).1, (h.flight m hm).2⟩

theorem SafeInv_hostStep (c : Cfg) (s : Sys) (i : In) (h : SafeInv c s) (hi : HostIn s i) :
    SafeInv c (s.hostStep i) := by
  obtain ⟨hq, hwf⟩ := h.hostIn hi
  obtain ⟨hq1, hq2⟩ := step_Q (carries_EffOk s.sent) s.cfg s.host i s.clock s.clock h.buf hq
  refine ⟨h.cfg, h.bd, h.will, h.flight, hq1, ?_, ?_⟩
  · intro e he
    rcases List.mem_append.mp he with he | he
    · exact h.effs e he
    · exact hq2 e he
  · obtain ⟨evs, hw, hrun⟩ := h.isRun
    refine ⟨evs ++ [⟨i, s.clock, s.clock⟩], ?_, ?_⟩
    · intro e he
      rcases List.mem_append.mp he with he | he
      · exact hw e he
      · cases List.mem_singleton.mp he; exact hwf
    · rw [run_append, hrun, run_single]
      simp only [Sys.hostStep, h.cfg]

theorem SafeInv.sub {c : Cfg} {s : Sys} (h : SafeInv c s) {l : List Msg} (hl : ∀ m ∈ l, m ∈ s.toHost) :
    SafeInv c { s with toHost := l } :=
  ⟨h.cfg, h.bd, h.will, fun m hm => h.flight m (hl m hm), h.buf, h.effs, h.isRun⟩

theorem SafeInv.frame {c : Cfg} {s : Sys} (h : SafeInv c s) (k : Nat) (nc hc : Bool) (clk : Nat) :
    SafeInv c { s with toNode := k, nodeConn := nc, hostConn := hc, clock := clk } :=
  ⟨h.cfg, h.bd, h.will, h.flight, h.buf, h.effs, h.isRun⟩

/-- the broker publishes the will, which is `u8` like the `bdseq` that replaces it -/
theorem SafeInv.death {c : Cfg} {s : Sys} (h : SafeInv c s) :
    SafeInv c { s with node := s.node.goOffline.1, nodeConn := false, will := s.node.goOffline.2.getD s.will,
                       toHost := s.toHost ++ [.ndeath s.will], sent := s.sent ++ [.ndeath s.will] } := by
  have hoff : s.node.goOffline.1.bdseq < 256 ∧ s.node.goOffline.2.getD s.will < 256 := by
    unfold Node.goOffline
    split
    · exact ⟨h.bd, h.will⟩
    · exact ⟨Nat.mod_lt _ (by omega), Nat.mod_lt _ (by omega)⟩
  refine ⟨h.cfg, hoff.1, hoff.2, fun m hm => ?_, (h.more _).1, (h.more _).2, h.isRun⟩
  rcases List.mem_append.mp hm with hm | hm
  · exact ⟨List.mem_append_left _ (h.flight m hm).1, (h.flight m hm).2⟩
  · refine ⟨List.mem_append_right _ hm, ?_⟩
    cases List.mem_singleton.mp hm
    exact h.will

theorem SafeInv_step (c : Cfg) (s : Sys) (a : Action) (h : SafeInv c s) : SafeInv c (s.step a) :=
  Sys.step_induct s a h (fun s r _ h ho _ => SafeInv_send c s r h ho.ok rfl) (SafeInv_hostStep c)
    (fun _ _ h hl => h.sub hl) (fun s k hc _ h => h.frame k s.nodeConn hc _)
    (fun s h _ => (SafeInv_send c s _ h (goOnline_ok s.clock s.node) rfl).frame _ true _ _) (fun _ h => h.death)

/-- what every action keeps holds after every action sequence -/
theorem Sys.run_induct {P : Sys → Prop} (step : ∀ s a, P s → P (s.step a)) (as : List Action) :
    ∀ s : Sys, P s → P (s.run as) := by
  induction as with
  | nil => intro s h; exact h
  | cons a as ih => intro s h; exact ih _ (step s a h)

theorem SafeInv_run (c : Cfg) (as : List Action) : ∀ (s : Sys), SafeInv c s → SafeInv c (s.run as) :=
  Sys.run_induct (SafeInv_step c) as


/-! ## host steps under the full configuration -/

theorem enabled_full (d : Nat) (r : Reason) : (Sys.fullCfg d).enabled r = true := by
  cases r <;> rfl
theorem full_cooldown (d : Nat) : (Sys.fullCfg d).cooldown = 0 := rfl
theorem full_reseq (d : Nat) : (Sys.fullCfg d).resequence = true := rfl
theorem full_timeout (d : Nat) : (Sys.fullCfg d).reorderTimeout = some d := rfl

/-- what a rebirth request does to a birthed record -/
def goStale (s : St) (now : Nat) : St :=
  { s with lastRebirth := now, reseq := Reseq.init, timer := .none, life := .stale, staleTs := now,
           devices := s.devices.map fun p => (p.1, .stale) }

theorem issueRebirth_full (d : Nat) (s : St) (r : Reason) (now : Nat)
    (hb : s.life = .birthed) (hclk : s.birthTs ≤ now) :
    (issueRebirth (Sys.fullCfg d) s r now now).1 = goStale s now ∧
    (issueRebirth (Sys.fullCfg d) s r now now).2.count Eff.ncmd = 1 := by
  rw [issueRebirth_eq]
  simp only [enabled_full, full_cooldown, Bool.not_true, Bool.false_eq_true, if_false, Nat.not_lt_zero]
  have hn := setStale_no_ncmd { s with lastRebirth := now } now
  rw [setStale_go { s with lastRebirth := now } now hb hclk] at hn ⊢
  refine ⟨rfl, ?_⟩
  rw [List.count_append, List.count_eq_zero_of_not_mem hn]
  simp

theorem goStale_inv (s : St) (now : Nat) (hn : (s.devices.map Prod.fst).Nodup) :
    HostInv (goStale s now) := by
  refine ⟨Reseq.init_inv, fun _ => ⟨rfl, rfl, ?_⟩, ?_⟩
  · intro p hp
    simp only [goStale, List.mem_map] at hp
    obtain ⟨q, _, rfl⟩ := hp
    rfl
  · simpa [goStale, List.map_map, Function.comp_def] using hn

theorem step_stale_rmsg (d : Nat) (h : St) (seq ts : Nat) (m : RMsg) (now : Nat)
    (hst : h.life = .stale) (hf1 : h.birthTs ≤ ts) (hf2 : h.staleTs ≤ ts) :
    step (Sys.fullCfg d) h (.rmsg seq ts m) now now = ({ h with lastRebirth := now }, [.ncmd]) := by
  obtain ⟨a, b, c⟩ := handleRMsg_stale (Sys.fullCfg d) h seq ts m now hst
  rw [step_rmsg_eq, c ⟨hf1, hf2⟩, a, b]
  simp [issueRebirth_eq, enabled_full, full_cooldown, setStale_eq, hst]

theorem step_nbirth (c : Cfg) (h : St) (ts bd id now : Nat) (hnew : h.birthTs < ts) :
    (step c h (.nbirth ts bd id .ok) now now).1 =
      { h with timer := .none, birthTs := ts, life := .birthed, bdseq := bd,
               reseq := { buf := [], next := 1, mode := .good },
               devices := h.devices.map fun p => (p.1, Life.stale) } ∧
    (step c h (.nbirth ts bd id .ok) now now).2.count Eff.ncmd = 0 := by
  simp only [step]
  rw [handleBirth_eq, if_neg (by omega), if_neg (by simp), cancelTimer_fst]
  refine ⟨rfl, List.count_eq_zero_of_not_mem fun hm => ?_⟩
  rcases List.mem_append.mp hm with hm | hm
  · rcases List.mem_append.mp hm with hm | hm
    · simp at hm
    · cases cancelTimer_snd h _ hm
  · obtain ⟨x, _, hx⟩ := List.mem_map.mp hm
    cases hx

theorem reseq_eta (r : Reseq.St (Nat × RMsg)) (h1 : r.buf = []) (h2 : r.mode = .good) :
    r = { buf := [], next := r.next, mode := .good } := by
  cases r; simp_all

/-- tracking: birthed, nothing buffered, no timer, expecting `e` -/
structure Track (h : St) (e : Nat) : Prop where
  life : h.life = .birthed
  reseq : h.reseq = { buf := [], next := e, mode := .good }
  timer : h.timer = .none

def tracked (h : St) (e : Nat) : St := { h with reseq := { buf := [], next := (e + 1) % 256, mode := .good } }

theorem tracked_track (h : St) (e : Nat) (ht : Track h e) : Track (tracked h e) ((e + 1) % 256) :=
  ⟨ht.life, rfl, ht.timer⟩

theorem Track.step {h : St} {k i : Nat} (ht : Track h ((k + i) % 256)) :
    Track (tracked h ((k + i) % 256)) ((k + (i + 1)) % 256) := by
  have := tracked_track h _ ht
  have he : ((k + i) % 256 + 1) % 256 = (k + (i + 1)) % 256 := by omega
  rwa [he] at this

/-- a tracking host applies the expected message at once; nothing is buffered, so nothing follows it -/
theorem handleRMsg_track (d : Nat) (h : St) (e ts : Nat) (m : RMsg) (now : Nat) (ht : Track h e)
    (hf1 : h.birthTs ≤ ts) (hf2 : h.staleTs ≤ ts) :
    handleRMsg (Sys.fullCfg d) h e ts m now = apply (tracked h e) m := by
  have hp : Reseq.process h.reseq e (e, m) = ((tracked h e).reseq, .next (e, m)) := by
    rw [ht.reseq]; simp [Reseq.process, tracked, Reseq.wadd]
  rcases handleRMsg_char (Sys.fullCfg d) h e ts m now ⟨hf1, hf2⟩ ht.life rfl with
    ⟨_, hp', _⟩ | ⟨_, hp', _⟩ | ⟨r', ms, r1, hp', hch, _, hh, _⟩ <;> rw [hp] at hp' <;> cases hp'
  have hms : ms = [] := List.eq_nil_of_length_eq_zero (by have := hch.length; simp only [tracked, List.length_nil] at this; omega)
  subst hms
  cases hch.nil_eq
  rw [hh, apply_sim (tracked h e) h m rfl]
  unfold drained
  simp only [List.map_nil, applyAll_single, List.nil_append]
  cases hr : (apply h m).2.2 with
  | some r => rfl
  | none => simp [drainEnd, Reseq.drain_nil, cancelTimer, ht.timer, tracked]

theorem step_track_ndata (d : Nat) (h : St) (e ts id now : Nat) (ht : Track h e)
    (hf1 : h.birthTs ≤ ts) (hf2 : h.staleTs ≤ ts) :
    step (Sys.fullCfg d) h (.rmsg e ts (.ndata id .ok)) now now = (tracked h e, [.nodeData id]) := by
  rw [step_rmsg_eq, handleRMsg_track d h e ts _ now ht hf1 hf2]
  rfl

/-- the device table after an accepted DBIRTH of `d` -/
def birthDev (d : Nat) (D : List (Nat × Life)) : List (Nat × Life) :=
  setDev d .birthed (match findDev d D with | some _ => D | none => D ++ [(d, .stale)])

theorem step_track_dbirth (d : Nat) (h : St) (e ts dv id now : Nat) (ht : Track h e)
    (hf1 : h.birthTs ≤ ts) (hf2 : h.staleTs ≤ ts) :
    (step (Sys.fullCfg d) h (.rmsg e ts (.dbirth dv id .ok)) now now).1
        = { tracked h e with devices := birthDev dv h.devices } ∧
    Eff.ncmd ∉ (step (Sys.fullCfg d) h (.rmsg e ts (.dbirth dv id .ok)) now now).2 := by
  rw [step_rmsg_eq, handleRMsg_track d h e ts _ now ht hf1 hf2]
  cases hfd : findDev dv h.devices <;> simp [apply, tracked, birthDev, hfd]

theorem step_track_ddata_ok (d : Nat) (h : St) (e ts dv id now : Nat) (ht : Track h e)
    (hf1 : h.birthTs ≤ ts) (hf2 : h.staleTs ≤ ts) (hdev : findDev dv h.devices = some .birthed) :
    step (Sys.fullCfg d) h (.rmsg e ts (.ddata dv id .ok)) now now = (tracked h e, [.devData dv id]) := by
  rw [step_rmsg_eq, handleRMsg_track d h e ts _ now ht hf1 hf2]
  simp [apply, tracked, hdev]

theorem step_track_ddata_bad (d : Nat) (h : St) (e ts dv id now : Nat) (ht : Track h e)
    (hf1 : h.birthTs ≤ ts) (hf2 : h.staleTs ≤ ts) (hclk : h.birthTs ≤ now)
    (hdev : findDev dv h.devices ≠ some .birthed) :
    (step (Sys.fullCfg d) h (.rmsg e ts (.ddata dv id .ok)) now now).1 = goStale (tracked h e) now ∧
    (step (Sys.fullCfg d) h (.rmsg e ts (.ddata dv id .ok)) now now).2.count Eff.ncmd = 1 := by
  have key : ∃ r, step (Sys.fullCfg d) h (.rmsg e ts (.ddata dv id .ok)) now now =
      issueRebirth (Sys.fullCfg d) (tracked h e) r now now := by
    rw [step_rmsg_eq, handleRMsg_track d h e ts _ now ht hf1 hf2]
    cases hfd : findDev dv h.devices with
    | none => exact ⟨.unknownDevice, by simp [apply, tracked, hfd]⟩
    | some l =>
      cases l with
      | birthed => exact absurd hfd hdev
      | stale => exact ⟨.recordedStateStale, by simp [apply, tracked, hfd]⟩
  obtain ⟨r, hr⟩ := key
  rw [hr]
  exact issueRebirth_full d (tracked h e) r now ht.life hclk

theorem step_track_gap (d : Nat) (h : St) (e seq ts : Nat) (m : RMsg) (now : Nat) (ht : Track h e)
    (hf1 : h.birthTs ≤ ts) (hf2 : h.staleTs ≤ ts) (hne : seq ≠ e) :
    step (Sys.fullCfg d) h (.rmsg seq ts m) now now =
      ({ h with reseq := { buf := [(Reseq.wsub seq e, (seq, m))], next := e, mode := .reseq e },
                timer := .armed (now + d) }, [.timerStart]) := by
  have hne' : ¬ e = seq := fun h => hne h.symm
  have hp : Reseq.process h.reseq seq (seq, m) =
      ({ buf := [(Reseq.wsub seq e, (seq, m))], next := e, mode := .reseq e }, .inserted) := by
    rw [ht.reseq]; simp [Reseq.process, hne', Reseq.hasKey, Reseq.insertSorted]
  rcases handleRMsg_char (Sys.fullCfg d) h seq ts m now ⟨hf1, hf2⟩ ht.life rfl with
    ⟨_, hp', _⟩ | ⟨_, hp', hh, _⟩ | ⟨_, _, _, hp', _⟩ <;> rw [hp] at hp' <;> cases hp'
  rw [step_rmsg_eq, hh]
  simp [full_timeout, startTimer, ht.timer]


/-- lagging: birthed, messages buffered, reorder timer running; every buffered message is one of
the first `i` messages of the stream that numbers its messages `(k + j) % 256` -/
structure Lag (h : St) (k i : Nat) : Prop where
  life : h.life = .birthed
  inv : HostInv h
  armed : ∃ dl, h.timer = .armed dl
  ne : h.reseq.buf ≠ []
  seqs : ∀ x ∈ h.reseq.buf, ∃ j, j < i ∧ x.2.1 = (k + j) % 256

/-- the outcome "went stale and asked for a rebirth" -/
structure WentStale (h0 : St) (now : Nat) (r : St × List Eff) : Prop where
  life : r.1.life = .stale
  inv : HostInv r.1
  birthTs : r.1.birthTs = h0.birthTs
  staleTs : r.1.staleTs = now
  ncmd : r.2.count Eff.ncmd = 1

theorem step_lag (d : Nat) (h : St) (k i ts : Nat) (m : RMsg) (now : Nat) (hl : Lag h k i)
    (hi : i < 255) (hf1 : h.birthTs ≤ ts) (hf2 : h.staleTs ≤ ts) (hclk : h.birthTs ≤ now) :
    let r := step (Sys.fullCfg d) h (.rmsg ((k + i) % 256) ts m) now now
    (Lag r.1 k (i + 1) ∧ r.1.birthTs = h.birthTs ∧ r.1.staleTs = h.staleTs ∧ r.2.count Eff.ncmd = 0) ∨
    WentStale h now r := by
  intro r
  have hseq : (k + i) % 256 < 256 := Nat.mod_lt _ (by omega)
  have hinvR : HostInv r.1 := (Host.step_spec (Sys.fullCfg d) h (.rmsg ((k + i) % 256) ts m) now now hl.inv hseq).1
  -- the frame and the effect alphabet of the message's own handling
  have hsp := (handleRMsg_spec (Sys.fullCfg d) h ((k + i) % 256) ts m now).1
  have hno : Eff.ncmd ∉ (handleRMsg (Sys.fullCfg d) h ((k + i) % 256) ts m now).2.1 :=
    fun hm => nomatch hsp.plain _ hm
  have hr : r = _ := step_rmsg_eq (Sys.fullCfg d) h ((k + i) % 256) ts m now now
  cases hro : (handleRMsg (Sys.fullCfg d) h ((k + i) % 256) ts m now).2.2 with
  | some rsn =>
    -- a reason is raised: the rebirth request marks the birthed record stale
    right
    simp only [hro] at hr
    obtain ⟨q1, q2⟩ := issueRebirth_full d _ rsn now (hsp.frame.life.trans hl.life)
      (hsp.frame.birthTs ▸ hclk)
    rw [hr] at hinvR ⊢
    refine ⟨by rw [q1]; rfl, hinvR, by rw [q1]; exact hsp.frame.birthTs, by rw [q1]; rfl, ?_⟩
    rw [List.count_append, q2, List.count_eq_zero_of_not_mem hno]
  | none =>
    left
    obtain ⟨dl, hdl⟩ := hl.armed
    -- the timer keeps running, and the buffer holds what it held and possibly the message
    have key : (handleRMsg (Sys.fullCfg d) h ((k + i) % 256) ts m now).1.timer = .armed dl ∧
        (handleRMsg (Sys.fullCfg d) h ((k + i) % 256) ts m now).1.reseq.buf ≠ [] ∧
        ∀ x ∈ (handleRMsg (Sys.fullCfg d) h ((k + i) % 256) ts m now).1.reseq.buf,
          x ∈ h.reseq.buf ∨ x.2.1 = (k + i) % 256 := by
      have hpi := Reseq.process_inv h.reseq _ m hl.inv.1 hseq
      rcases handleRMsg_char (Sys.fullCfg d) h _ ts m now ⟨hf1, hf2⟩ hl.life rfl with
        ⟨r', _, hh, _⟩ | ⟨r', hp, hh, _⟩ | ⟨r', ms, r1, hp, hch, hstop, hh, _⟩ <;> rw [hh] at hro ⊢
      · cases hro
      · -- filed behind the gap
        rw [hp] at hpi
        have hne : r'.buf ≠ [] := fun hb => by
          rcases Reseq.process_cases h.reseq ((k + i) % 256) ((k + i) % 256, m) with
            ⟨_, hq⟩ | ⟨_, hq, _, _, hk⟩ | ⟨_, hq, _⟩ <;> rw [hp] at hq <;> cases hq
          rw [hk] at hb
          exact Reseq.insertSorted_ne_nil _ _ _ hb
        simp only [hdl, reduceCtorEq, if_false]
        exact ⟨trivial, hne, fun x hx => (Reseq.process_mem h.reseq _ _ x (by rw [hp]; exact hx)).imp_right
          fun hx => by rw [hx]⟩
      · -- the expected message is applied; what is buffered does not follow it
        rw [drained_reason] at hro
        obtain ⟨_, hnx, rfl⟩ := Reseq.process_next_eq hp
        rw [hp] at hpi
        obtain ⟨i1, _, i3⟩ := hch.inv hpi
        have hms : ms = [] := by
          cases ms with
          | nil => rfl
          | cons x t =>
            obtain ⟨key, hx⟩ := hch.mem.1 x (List.mem_cons_self ..)
            obtain ⟨j, hj, hxj⟩ := hl.seqs _ hx
            have := i3 0 (Nat.zero_lt_succ _)
            simp only [List.getElem_cons_zero, Reseq.wadd, hnx, Nat.add_zero] at this
            simp only at hxj
            omega
        subst hms
        cases hch.nil_eq
        rw [drained_clean hro i1 (hstop hro)]
        have hb : ¬ h.reseq.buf = [] := hl.ne
        simp only [hb, if_false, Bool.not_true, List.isEmpty_nil, Bool.false_eq_true]
        exact ⟨hdl, hl.ne, fun x hx => .inl hx⟩
    simp only [hro] at hr
    rw [hr] at hinvR ⊢
    refine ⟨⟨hsp.frame.life.trans hl.life, hinvR, ⟨dl, key.1⟩, key.2.1, fun x hx => ?_⟩,
      hsp.frame.birthTs, hsp.frame.staleTs, List.count_eq_zero_of_not_mem hno⟩
    rcases key.2.2 x hx with hx | hx
    · obtain ⟨j, hj, hxj⟩ := hl.seqs x hx
      exact ⟨j, by omega, hxj⟩
    · exact ⟨i, by omega, hx⟩


def ev (clk : Nat) (m : Msg) : Ev := ⟨m.toIn, clk, clk⟩

def feed (c : Cfg) (clk : Nat) (h : St) (ms : List Msg) : St × List Eff := Host.run c h (ms.map (ev clk))

theorem feed_nil (c : Cfg) (clk : Nat) (h : St) : feed c clk h [] = (h, []) := rfl

theorem feed_cons (c : Cfg) (clk : Nat) (h : St) (m : Msg) (t : List Msg) :
    feed c clk h (m :: t) =
      ((feed c clk (step c h m.toIn clk clk).1 t).1,
       (step c h m.toIn clk clk).2 ++ (feed c clk (step c h m.toIn clk clk).1 t).2) := rfl

theorem feed_count_le (c : Cfg) (clk : Nat) (ms : List Msg) : ∀ h : St,
    (feed c clk h ms).2.count Eff.ncmd ≤ ms.length := by
  induction ms with
  | nil => intro h; simp [feed_nil]
  | cons m t ih =>
    intro h
    rw [feed_cons]
    simp only [List.count_append, List.length_cons]
    have h1 := (step_ncmd c h m.toIn clk clk).2.1
    have h2 := ih (step c h m.toIn clk clk).1
    omega

/-- a resequenceable message stamped `ts` -/
def Msg.isR (ts : Nat) : Msg → Prop
  | .ndata _ t _ => t = ts
  | .dbirth _ _ t _ => t = ts
  | .ddeath _ _ t _ => t = ts
  | .ddata _ _ t _ => t = ts
  | _ => False

theorem isR_toIn (ts : Nat) (m : Msg) (h : m.isR ts) : ∃ seq rm, m.toIn = .rmsg seq ts rm := by
  cases m <;> simp only [Msg.isR] at h <;> first | exact absurd h id | (subst h; exact ⟨_, _, rfl⟩)

theorem devMsgs_ddata_isR (ts k id0 : Nat) (L : List Nat) : ∀ i, ∀ m ∈ devMsgs .ddata ts k id0 i L, m.isR ts := by
  induction L with
  | nil => intro i m hm; simp [devMsgs] at hm
  | cons d t ih =>
    intro i m hm
    simp only [devMsgs, List.mem_cons] at hm
    rcases hm with rfl | hm
    · rfl
    · exact ih _ m hm

theorem feed_stale (d clk : Nat) (ms : List Msg) : ∀ (h : St), h.life = .stale → h.birthTs ≤ clk →
    h.staleTs ≤ clk → (∀ m ∈ ms, m.isR clk) →
    (∃ lr, (feed (Sys.fullCfg d) clk h ms).1 = { h with lastRebirth := lr }) ∧
    (feed (Sys.fullCfg d) clk h ms).2.count Eff.ncmd = ms.length := by
  induction ms with
  | nil => intro h _ _ _ _; exact ⟨⟨h.lastRebirth, rfl⟩, rfl⟩
  | cons m t ih =>
    intro h hst h1 h2 hall
    obtain ⟨seq, rm, hm⟩ := isR_toIn clk m (hall m (List.mem_cons_self ..))
    rw [feed_cons, hm, step_stale_rmsg d h seq clk rm clk hst h1 h2]
    obtain ⟨⟨lr, hlr⟩, hc⟩ := ih { h with lastRebirth := clk } hst h1 h2
      (fun m' hm' => hall m' (List.mem_cons_of_mem _ hm'))
    refine ⟨⟨lr, ?_⟩, ?_⟩
    · simp only; rw [hlr]
    · simp only [List.count_append, hc, List.length_cons]; simp; omega

/-- the burst ended with the host stale and at least one rebirth request out -/
structure StaleEnd (h0 : St) (clk : Nat) (r : St × List Eff) : Prop where
  life : r.1.life = .stale
  inv : HostInv r.1
  birthTs : r.1.birthTs = h0.birthTs
  staleTs : r.1.staleTs = clk
  ncmd : 1 ≤ r.2.count Eff.ncmd

/-- `i` messages into the stream numbered from `k`, the record `h0` has left the track: it lags, and no
rebirth request is out yet; or it is stale, and at least one is -/
inductive Off (h0 : St) (clk k i : Nat) (r : St × List Eff) : Prop
  | lag : Lag r.1 k i → r.1.birthTs = h0.birthTs → r.1.staleTs = h0.staleTs → r.2.count Eff.ncmd = 0 →
      Off h0 clk k i r
  | stale : StaleEnd h0 clk r → Off h0 clk k i r

/-- the next message of the stream: a lagging record files or applies it, or goes stale over it; a stale
one answers it by another NCMD -/
theorem Off.step {d : Nat} {h0 : St} {clk k i : Nat} {r : St × List Eff} (ho : Off h0 clk k i r) (hi : i < 255)
    (h1 : h0.birthTs ≤ clk) (h2 : h0.staleTs ≤ clk) (m : RMsg) :
    Off h0 clk k (i + 1) ((step (Sys.fullCfg d) r.1 (.rmsg ((k + i) % 256) clk m) clk clk).1,
      r.2 ++ (step (Sys.fullCfg d) r.1 (.rmsg ((k + i) % 256) clk m) clk clk).2) := by
  cases ho with
  | lag hl hb hs hc =>
    rcases step_lag d r.1 k i clk m clk hl hi (hb ▸ h1) (hs ▸ h2) (hb ▸ h1) with ⟨hl', hb', hs', hc'⟩ | hw
    · exact .lag hl' (hb'.trans hb) (hs'.trans hs) (by rw [List.count_append, hc, hc'])
    · exact .stale ⟨hw.life, hw.inv, hw.birthTs.trans hb, hw.staleTs, by rw [List.count_append, hw.ncmd]; omega⟩
  | stale hse =>
    rw [step_stale_rmsg d r.1 _ clk m clk hse.life (by rw [hse.birthTs]; exact h1)
      (by rw [hse.staleTs]; exact Nat.le_refl _)]
    exact .stale ⟨hse.life, ⟨hse.inv.1, hse.inv.2.1, hse.inv.2.2⟩, hse.birthTs, hse.staleTs,
      by rw [List.count_append]; exact Nat.le_trans hse.ncmd (Nat.le_add_right _ _)⟩

theorem Off.feed {d : Nat} {h0 : St} {clk k : Nat} (id0 : Nat) (h1 : h0.birthTs ≤ clk) (h2 : h0.staleTs ≤ clk) :
    ∀ (L : List Nat) (i : Nat) (r : St × List Eff), Off h0 clk k i r → i + L.length ≤ 255 →
    Off h0 clk k (i + L.length) ((feed (Sys.fullCfg d) clk r.1 (devMsgs .ddata clk k id0 i L)).1,
      r.2 ++ (feed (Sys.fullCfg d) clk r.1 (devMsgs .ddata clk k id0 i L)).2)
  | [], i, r, ho, _ => by simpa [devMsgs, feed_nil] using ho
  | dv :: t, i, r, ho, hlen => by
    simp only [List.length_cons] at hlen
    have := Off.feed (d := d) id0 h1 h2 t (i + 1) _
      (ho.step (d := d) (by omega) h1 h2 (.ddata dv (id0 + i) .ok)) (by omega)
    simp only [devMsgs, feed_cons, Msg.toIn, List.length_cons]
    rw [← List.append_assoc, show i + (t.length + 1) = i + 1 + t.length by omega]
    exact this

theorem track_inv (h : St) (e : Nat) (ht : Track h e) (he : e < 256)
    (hn : (h.devices.map Prod.fst).Nodup) : HostInv h := by
  refine ⟨?_, fun hs => ?_, hn⟩
  · rw [ht.reseq]; exact ⟨he, rfl⟩
  · rw [ht.life] at hs; cases hs

theorem feed_track_all (d clk k id0 : Nat) (L : List Nat) : ∀ (i : Nat) (h : St),
    Track h ((k + i) % 256) → h.birthTs ≤ clk → h.staleTs ≤ clk →
    (∀ dv ∈ L, findDev dv h.devices = some .birthed) →
    feed (Sys.fullCfg d) clk h (devMsgs .ddata clk k id0 i L) =
      ({ h with reseq := { buf := [], next := (k + i + L.length) % 256, mode := .good } },
       (devMsgs .ddata clk k id0 i L).filterMap Msg.dataEff) := by
  induction L with
  | nil =>
    intro i h ht _ _ _
    simp only [devMsgs, feed_nil, List.length_nil, Nat.add_zero, List.filterMap_nil]
    rw [← ht.reseq]
  | cons dv t ih =>
    intro i h ht h1 h2 hall
    simp only [devMsgs, feed_cons, Msg.toIn]
    rw [step_track_ddata_ok d h _ clk dv _ clk ht h1 h2 (hall dv (List.mem_cons_self ..))]
    have ht' := Track.step ht
    rw [ih (i + 1) (tracked h ((k + i) % 256)) ht' h1 h2 (fun dv' hd => hall dv' (List.mem_cons_of_mem _ hd))]
    simp only [tracked, List.length_cons, List.filterMap_cons, Msg.dataEff, List.singleton_append]
    have he : (k + (i + 1) + t.length) % 256 = (k + i + (t.length + 1)) % 256 := by
      congr 1; omega
    rw [he]

/-- a tracking record in step with the stream meets a DDATA of a device it does not hold birthed -/
theorem feed_track_bad (d clk k id0 : Nat) (h0 : St) (h1 : h0.birthTs ≤ clk) (h2 : h0.staleTs ≤ clk)
    (L : List Nat) : ∀ (i : Nat) (h : St) (e0 : List Eff), Track h ((k + i) % 256) → h.birthTs = h0.birthTs →
    h.staleTs = h0.staleTs → (h.devices.map Prod.fst).Nodup → e0.count Eff.ncmd = 0 →
    i + L.length ≤ 255 → (∃ dv ∈ L, findDev dv h.devices ≠ some .birthed) →
    Off h0 clk k (i + L.length) ((feed (Sys.fullCfg d) clk h (devMsgs .ddata clk k id0 i L)).1,
      e0 ++ (feed (Sys.fullCfg d) clk h (devMsgs .ddata clk k id0 i L)).2) := by
  induction L with
  | nil => intro i h _ _ _ _ _ _ _ hex; obtain ⟨dv, hd, _⟩ := hex; cases hd
  | cons dv t ih =>
    intro i h e0 ht hb hs hn he0 hlen hex
    simp only [List.length_cons] at hlen
    simp only [devMsgs, feed_cons, Msg.toIn, List.length_cons]
    rw [← List.append_assoc, show i + (t.length + 1) = i + 1 + t.length by omega]
    by_cases hdv : findDev dv h.devices = some .birthed
    · rw [step_track_ddata_ok d h _ clk dv _ clk ht (hb ▸ h1) (hs ▸ h2) hdv]
      refine ih (i + 1) (tracked h ((k + i) % 256)) (e0 ++ [.devData dv (id0 + i)]) (Track.step ht) hb hs hn
        (by simp [List.count_append, he0]) (by omega) ?_
      obtain ⟨dv', hd', hne⟩ := hex
      rcases List.mem_cons.mp hd' with rfl | hd'
      · exact absurd hdv hne
      · exact ⟨dv', hd', hne⟩
    · obtain ⟨q1, q2⟩ := step_track_ddata_bad d h _ clk dv (id0 + i) clk ht (hb ▸ h1) (hs ▸ h2) (hb ▸ h1) hdv
      have hw : StaleEnd h0 clk
          ((step (Sys.fullCfg d) h (.rmsg ((k + i) % 256) clk (.ddata dv (id0 + i) .ok)) clk clk).1,
           e0 ++ (step (Sys.fullCfg d) h (.rmsg ((k + i) % 256) clk (.ddata dv (id0 + i) .ok)) clk clk).2) := by
        refine ⟨?_, ?_, ?_, ?_, by rw [List.count_append, q2]; omega⟩ <;> simp only <;> rw [q1]
        · rfl
        · exact goStale_inv _ _ hn
        · exact hb
        · rfl
      exact Off.feed id0 h1 h2 t (i + 1) _ (.stale hw) (by omega)


def birthAll (L : List Nat) (D : List (Nat × Life)) : List (Nat × Life) := L.foldl (fun D d => birthDev d D) D

theorem findDev_birthDev (d d' : Nat) (D : List (Nat × Life)) :
    findDev d' (birthDev d D) = if d' = d then some .birthed else findDev d' D := by
  unfold birthDev
  by_cases h : d' = d
  · subst h
    rw [if_pos rfl, findDev_setDev_self]
    cases hf : findDev d' D with
    | some l => simp [hf]
    | none => simp [findDev_append_single, hf]
  · rw [if_neg h, findDev_setDev_ne _ _ _ _ h]
    cases hf : findDev d D with
    | some l => rfl
    | none =>
      simp only [findDev_append_single]
      have : ¬ d = d' := fun h' => h h'.symm
      cases findDev d' D <;> simp [this]

theorem birthDev_nodup (d : Nat) (D : List (Nat × Life)) (h : (D.map Prod.fst).Nodup) :
    ((birthDev d D).map Prod.fst).Nodup := by
  unfold birthDev
  rw [map_fst_setDev]
  cases hf : findDev d D with
  | some l => exact h
  | none =>
    have hn := (findDev_eq_none d D).mp hf
    simp only [List.map_append, List.map_cons, List.map_nil]
    rw [List.nodup_append]
    refine ⟨h, by simp, ?_⟩
    intro a ha b hb
    simp only [List.mem_singleton] at hb
    subst hb
    intro hab; subst hab; exact hn ha

theorem findDev_birthAll (L : List Nat) : ∀ (D : List (Nat × Life)) (d' : Nat),
    findDev d' (birthAll L D) = if d' ∈ L then some .birthed else findDev d' D := by
  induction L with
  | nil => intro D d'; simp [birthAll]
  | cons d t ih =>
    intro D d'
    have : birthAll (d :: t) D = birthAll t (birthDev d D) := rfl
    rw [this, ih, findDev_birthDev]
    by_cases h1 : d' ∈ t
    · simp [h1]
    · by_cases h2 : d' = d
      · simp [h2]
      · simp [h1, h2]

/-- after an accepted NBIRTH (every device stale) and the DBIRTHs of `L`: exactly `L` is held birthed -/
theorem findDev_birthAll_stale (L : List Nat) (D : List (Nat × Life)) (dv : Nat) :
    findDev dv (birthAll L (D.map fun p => (p.1, Life.stale))) = some .birthed ↔ dv ∈ L := by
  simp only [findDev_birthAll, findDev_map_stale]
  by_cases hm : dv ∈ L
  · simp [hm]
  · simp only [hm, if_false, iff_false]
    cases findDev dv D <;> simp

theorem birthAll_nodup (L : List Nat) : ∀ (D : List (Nat × Life)), (D.map Prod.fst).Nodup →
    ((birthAll L D).map Prod.fst).Nodup := by
  induction L with
  | nil => intro D h; exact h
  | cons d t ih => intro D h; exact ih _ (birthDev_nodup d D h)

theorem feed_births (d clk k id0 : Nat) (L : List Nat) : ∀ (i : Nat) (h : St),
    Track h ((k + i) % 256) → h.birthTs ≤ clk → h.staleTs ≤ clk →
    (feed (Sys.fullCfg d) clk h (devMsgs .dbirth clk k id0 i L)).1 =
      { h with reseq := { buf := [], next := (k + i + L.length) % 256, mode := .good },
               devices := birthAll L h.devices } ∧
    (feed (Sys.fullCfg d) clk h (devMsgs .dbirth clk k id0 i L)).2.count Eff.ncmd = 0 := by
  induction L with
  | nil =>
    intro i h ht _ _
    simp only [devMsgs, feed_nil, List.length_nil, Nat.add_zero, birthAll, List.foldl_nil]
    rw [← ht.reseq]
    exact ⟨rfl, rfl⟩
  | cons dv t ih =>
    intro i h ht h1 h2
    obtain ⟨q1, q2⟩ := step_track_dbirth d h _ clk dv (id0 + i) clk ht h1 h2
    have ht' : Track { tracked h ((k + i) % 256) with devices := birthDev dv h.devices } ((k + (i + 1)) % 256) :=
      ⟨(Track.step ht).life, (Track.step ht).reseq, (Track.step ht).timer⟩
    obtain ⟨r1, r2⟩ := ih (i + 1) _ ht' h1 h2
    simp only [devMsgs, feed_cons, Msg.toIn]
    rw [q1]
    refine ⟨?_, ?_⟩
    · rw [r1]
      simp only [tracked, List.length_cons]
      have he : (k + (i + 1) + t.length) % 256 = (k + i + (t.length + 1)) % 256 := by
        congr 1; omega
      rw [he]
      rfl
    · rw [List.count_append, r2, List.count_eq_zero_of_not_mem q2]

/-- one publishing round of the node: NDATA numbered `k % 256` with id `id0`, then one DDATA per
enabled device -/
def burst (clk k id0 : Nat) (L : List Nat) : List Msg :=
  .ndata (k % 256) clk id0 :: devMsgs .ddata clk k id0 1 L

theorem burst_length (clk k id0 : Nat) (L : List Nat) : (burst clk k id0 L).length = L.length + 1 := by
  simp [burst, devMsgs_length]

theorem burst_isR (clk k id0 : Nat) (L : List Nat) : ∀ m ∈ burst clk k id0 L, m.isR clk := by
  intro m hm
  simp only [burst, List.mem_cons] at hm
  rcases hm with rfl | hm
  · rfl
  · exact devMsgs_ddata_isR clk k id0 L 1 m hm

theorem feed_burst_sync (d clk k id0 : Nat) (L : List Nat) (h : St)
    (ht : Track h (k % 256)) (h1 : h.birthTs ≤ clk) (h2 : h.staleTs ≤ clk)
    (hall : ∀ dv ∈ L, findDev dv h.devices = some .birthed) :
    feed (Sys.fullCfg d) clk h (burst clk k id0 L) =
      ({ h with reseq := { buf := [], next := (k + 1 + L.length) % 256, mode := .good } },
       (burst clk k id0 L).filterMap Msg.dataEff) := by
  simp only [burst, feed_cons, Msg.toIn]
  rw [step_track_ndata d h _ clk id0 clk ht h1 h2]
  have ht' : Track (tracked h (k % 256)) ((k + 1) % 256) := Track.step (i := 0) ht
  rw [feed_track_all d clk k id0 L 1 _ ht' h1 h2 hall]
  simp [tracked, Msg.dataEff]


/-! ## the abstract node at rest -/

theorem find_by_name (l : List Dev) (x : Dev) (hx : x ∈ l) (hn : (l.map (·.name)).Nodup) :
    l.find? (fun y => y.name == x.name) = some x := by
  induction l with
  | nil => cases hx
  | cons a t ih =>
    simp only [List.map_cons, List.nodup_cons] at hn
    rcases List.mem_cons.mp hx with rfl | hx
    · simp
    · have hne : a.name ≠ x.name := by
        intro h
        exact hn.1 (h ▸ List.mem_map.mpr ⟨x, hx, rfl⟩)
      rw [List.find?_cons_of_neg (by simpa using hne)]
      exact ih hx hn.2

theorem enabled_found (n : Node) (hok : NodeOk n) (d : Nat) (hd : d ∈ n.enabledNames) :
    ∃ x, n.findDev d = some x ∧ x.flag = true := by
  simp only [Node.enabledNames, List.mem_map, List.mem_filter] at hd
  obtain ⟨x, ⟨hx, hen⟩, rfl⟩ := hd
  refine ⟨x, find_by_name n.devs x hx hok.names, ?_⟩
  rw [hok.flags x hx]; exact hen

theorem pubNode_eq (ts : Nat) (n : Node) (h1 : n.online = true) (h2 : n.birthed = true) :
    n.pubNode ts = ({ n with seq := (n.seq + 1) % 256, nextId := n.nextId + 1 },
                    [.ndata ((n.seq + 1) % 256) ts n.nextId]) := by
  simp [Node.pubNode, nextSeq_gate n h1 h2]

def pubDevsRec (ts : Nat) : Node → List Nat → Node × List Msg
  | n, [] => (n, [])
  | n, d :: t => ((pubDevsRec ts (n.pubDev d ts).1 t).1, (n.pubDev d ts).2 ++ (pubDevsRec ts (n.pubDev d ts).1 t).2)

theorem pubDevsRec_eq (ts K id0 : Nat) (L : List Nat) : ∀ (i : Nat) (n : Node), n.online = true →
    n.birthed = true → n.seq < 256 → (∀ d ∈ L, ∃ x, n.findDev d = some x ∧ x.flag = true) →
    (n.seq + 1) % 256 = (K + i) % 256 → n.nextId = id0 + i →
    pubDevsRec ts n L = ({ n with seq := (n.seq + L.length) % 256, nextId := n.nextId + L.length },
                         devMsgs .ddata ts K id0 i L) := by
  induction L with
  | nil =>
    intro i n _ _ hs _ _ _
    simp only [pubDevsRec, devMsgs, List.length_nil, Nat.add_zero, Nat.mod_eq_of_lt hs]
  | cons d t ih =>
    intro i n h1 h2 hs hall hK hid
    obtain ⟨x, hx, hf⟩ := hall d (List.mem_cons_self ..)
    have hp : n.pubDev d ts = ({ n with seq := (n.seq + 1) % 256, nextId := n.nextId + 1 },
        [.ddata d ((K + i) % 256) ts (id0 + i)]) := by
      simp [Node.pubDev, hx, hf, nextSeq_gate n h1 h2, hK, hid]
    simp only [pubDevsRec, hp]
    rw [ih (i + 1) { n with seq := (n.seq + 1) % 256, nextId := n.nextId + 1 } h1 h2 (Nat.mod_lt _ (by omega))
      (fun d' hd' => hall d' (List.mem_cons_of_mem _ hd')) (by simp only; omega) (by simp only; omega)]
    have e1 : ((n.seq + 1) % 256 + t.length) % 256 = (n.seq + (t.length + 1)) % 256 := by omega
    have e2 : n.nextId + 1 + t.length = n.nextId + (t.length + 1) := by omega
    simp only [devMsgs, List.length_cons, List.singleton_append, e1, e2]

def afterPub (n : Node) : Node :=
  { n with seq := (n.seq + 1 + n.enabledNames.length) % 256, nextId := n.nextId + 1 + n.enabledNames.length }

theorem afterPub_ok (n : Node) (h : NodeOk n) : NodeOk (afterPub n) :=
  ⟨h.online, h.birthed, Nat.mod_lt _ (by omega), h.bdseq, h.flags, h.names, h.few⟩

theorem pubRound_node (ts : Nat) (n : Node) (hok : NodeOk n) :
    pubDevsRec ts (n.pubNode ts).1 n.enabledNames =
      (afterPub n, devMsgs .ddata ts (n.seq + 1) n.nextId 1 n.enabledNames) := by
  rw [pubNode_eq ts n hok.online hok.birthed]
  simp only
  rw [pubDevsRec_eq ts (n.seq + 1) n.nextId n.enabledNames 1
    { n with seq := (n.seq + 1) % 256, nextId := n.nextId + 1 } hok.online hok.birthed
    (Nat.mod_lt _ (by omega)) (fun d hd => enabled_found n hok d hd) (by simp only; omega) rfl]
  have e1 : ((n.seq + 1) % 256 + n.enabledNames.length) % 256 = (n.seq + 1 + n.enabledNames.length) % 256 := by
    omega
  simp only [afterPub, e1]

def afterRebirth (n : Node) : Node :=
  { n with seq := n.enabledNames.length % 256, nextId := n.nextId + 1 + n.enabledNames.length }

theorem afterRebirth_ok (n : Node) (h : NodeOk n) : NodeOk (afterRebirth n) :=
  ⟨h.online, h.birthed, Nat.mod_lt _ (by omega), h.bdseq, h.flags, h.names, h.few⟩

theorem rebirth_eq (ts : Nat) (n : Node) (hok : NodeOk n) :
    n.rebirth ts = (afterRebirth n,
      .nbirth ts n.bdseq n.nextId :: devMsgs .dbirth ts 0 n.nextId 1 n.enabledNames) := by
  have hb := hok.birthed
  simp only [Node.rebirth, hb, Bool.not_true, Bool.false_eq_true, if_false, Node.nodeBirth]
  rw [birthDevs_eq true ts 0 n.nextId n.devs 1 { n with birthed := true, seq := 0, nextId := n.nextId + 1 }
    hok.online rfl (Nat.zero_lt_succ 255) rfl rfl, flagged_id n.devs hok.flags]
  simp only [toBirth, Bool.true_or, Bool.and_true, afterRebirth, Node.enabledNames, Nat.zero_add, List.length_map]
  cases n; simp_all


/-! ## the phases of `settle` -/

/-- both sides connected, nothing in flight towards the host, the node at rest -/
structure Quiet (d : Nat) (s : Sys) : Prop where
  cfg : s.cfg = Sys.fullCfg d
  nodeConn : s.nodeConn = true
  hostConn : s.hostConn = true
  flight : s.toHost = []
  node : NodeOk s.node

/-- the host's record is in step with the node -/
structure SyncOk (h : St) (n : Node) (clk : Nat) : Prop where
  track : Track h ((n.seq + 1) % 256)
  devs : ∀ dv, findDev dv h.devices = some .birthed ↔ dv ∈ n.enabledNames
  nodup : (h.devices.map Prod.fst).Nodup
  birthTs : h.birthTs ≤ clk
  staleTs : h.staleTs ≤ clk

/-- what a rebirth cycle needs of the host's record to bring it in step -/
structure CyclePre (h : St) (n : Node) (clk : Nat) : Prop where
  inv : HostInv h
  timer : h.timer = .none
  birthTs : h.birthTs ≤ clk
  staleTs : h.staleTs ≤ clk

theorem SyncOk.inv {h : St} {n : Node} {clk : Nat} (hs : SyncOk h n clk) : HostInv h :=
  track_inv h _ hs.track (Nat.mod_lt _ (by omega)) hs.nodup

theorem SyncOk.cyclePre {h : St} {n : Node} {clk : Nat} (hs : SyncOk h n clk) : CyclePre h n clk :=
  ⟨hs.inv, hs.track.timer, hs.birthTs, hs.staleTs⟩

theorem stale_below (h : St) (n : Node) (hinv : HostInv h) (hst : h.life = .stale) : DevsBelow h n := by
  intro dv hd
  have := (hinv.2.1 hst).2.2 _ (findDev_some_mem dv _ _ hd)
  cases this

theorem stale_cyclePre (h : St) (n : Node) (clk : Nat) (hinv : HostInv h) (hst : h.life = .stale)
    (h1 : h.birthTs ≤ clk) (h2 : h.staleTs ≤ clk) : CyclePre h n clk :=
  ⟨hinv, (hinv.2.1 hst).2.1, h1, h2⟩

theorem step_deliver0 (s : Sys) (m : Msg) (t : List Msg) (hc : s.hostConn = true) (hq : s.toHost = m :: t) :
    s.step (.deliver 0) = ({ s with toHost := t } : Sys).hostStep m.toIn := by
  simp [Sys.step, hq, Sys.recv, hc]

theorem deliverAll_eq : ∀ (ms : List Msg) (s : Sys), s.hostConn = true → s.toHost = ms →
    Sys.deliverAll ms.length s =
      { s with toHost := [], host := (feed s.cfg s.clock s.host ms).1,
               effs := s.effs ++ (feed s.cfg s.clock s.host ms).2,
               toNode := s.toNode + (feed s.cfg s.clock s.host ms).2.count Eff.ncmd } := by
  intro ms
  induction ms with
  | nil =>
    intro s _ hq
    simp only [List.length_nil, Sys.deliverAll, feed_nil, List.append_nil, List.count_nil, Nat.add_zero]
    rw [← hq]
  | cons m t ih =>
    intro s hc hq
    simp only [List.length_cons, Sys.deliverAll]
    rw [step_deliver0 s m t hc hq]
    rw [ih _ (by simp [Sys.hostStep, hc]) (by simp [Sys.hostStep])]
    simp only [Sys.hostStep, hc, if_true, feed_cons, List.append_assoc, List.count_append, Nat.add_assoc]

theorem foldl_publishDev (L : List Nat) : ∀ (s : Sys),
    L.foldl (fun s d => s.step (.publishDev d)) s =
      s.send (pubDevsRec s.clock s.node L).1 (pubDevsRec s.clock s.node L).2 := by
  induction L with
  | nil => intro s; simp [pubDevsRec, Sys.send]
  | cons d t ih =>
    intro s
    simp only [List.foldl_cons, ih, pubDevsRec]
    simp [Sys.step, Sys.send, List.append_assoc]

theorem advance_idle (s : Sys) (ms : Nat) (ht : s.host.timer = .none) :
    s.step (.advance ms) = { s with clock := s.clock + ms } := by
  simp [Sys.step, ht]

theorem pubAll_eq (d : Nat) (s : Sys) (hq : Quiet d s) (ht : s.host.timer = .none) :
    Sys.pubAll s =
      { s with clock := s.clock + 1, node := afterPub s.node,
               toHost := burst (s.clock + 1) (s.node.seq + 1) s.node.nextId s.node.enabledNames,
               sent := s.sent ++ burst (s.clock + 1) (s.node.seq + 1) s.node.nextId s.node.enabledNames } := by
  unfold Sys.pubAll
  rw [advance_idle s 1 ht, foldl_publishDev]
  simp only [Sys.step]
  have hpn := pubNode_eq (s.clock + 1) s.node hq.node.online hq.node.birthed
  have hen : ((s.node.pubNode (s.clock + 1)).1).enabledNames = s.node.enabledNames := by rw [hpn]; rfl
  simp only [Sys.send, hen]
  have := pubRound_node (s.clock + 1) s.node hq.node
  rw [this]
  simp only [hpn, hq.flight, List.nil_append, burst, List.append_assoc, List.singleton_append]


/-- an NCMD reaches the (connected, birthed) node and its births reach the host, whose record may
be anything that is not stamped later than the clock: the host ends in step -/
theorem cycle_core (d : Nat) (X : Sys) (hq : Quiet d X) (hn : X.toNode ≠ 0)
    (hinv : HostInv X.host) (hb : X.host.birthTs < X.clock) (hs : X.host.staleTs ≤ X.clock) :
    let s1 := X.step .deliverNcmd
    let D := Sys.deliverAll s1.toHost.length s1
    Quiet d D ∧ D.toNode = X.toNode - 1 ∧ SyncOk D.host D.node D.clock := by
  intro s1 D
  have hs1 : s1 =
      { X with toNode := X.toNode - 1, node := afterRebirth X.node,
               toHost := .nbirth X.clock X.node.bdseq X.node.nextId ::
                 devMsgs .dbirth X.clock 0 X.node.nextId 1 X.node.enabledNames,
               sent := X.sent ++ (.nbirth X.clock X.node.bdseq X.node.nextId ::
                 devMsgs .dbirth X.clock 0 X.node.nextId 1 X.node.enabledNames) } := by
    show X.step .deliverNcmd = _
    simp only [Sys.step, hn, if_false, hq.nodeConn, if_true, Sys.send, rebirth_eq _ _ hq.node, hq.flight,
      List.nil_append]
  have hD : D = Sys.deliverAll s1.toHost.length s1 := rfl
  rw [deliverAll_eq s1.toHost s1 (by rw [hs1]; exact hq.hostConn) rfl] at hD
  have hfeed : feed s1.cfg s1.clock s1.host s1.toHost =
      feed (Sys.fullCfg d) X.clock X.host (.nbirth X.clock X.node.bdseq X.node.nextId ::
        devMsgs .dbirth X.clock 0 X.node.nextId 1 X.node.enabledNames) := by
    rw [hs1]; simp only [hq.cfg]
  rw [hfeed, feed_cons] at hD
  simp only [Msg.toIn] at hD
  obtain ⟨n1, n2⟩ := step_nbirth (Sys.fullCfg d) X.host X.clock X.node.bdseq X.node.nextId X.clock hb
  rw [n1] at hD
  have ht1 : Track
      { X.host with timer := .none, birthTs := X.clock, life := .birthed, bdseq := X.node.bdseq,
                    reseq := { buf := [], next := 1, mode := .good },
                    devices := X.host.devices.map fun p => (p.1, Life.stale) } ((0 + 1) % 256) := ⟨rfl, rfl, rfl⟩
  obtain ⟨f1, f2⟩ := feed_births d X.clock 0 X.node.nextId X.node.enabledNames 1 _ ht1
    (Nat.le_refl _) hs
  have hfew := hq.node.few
  refine ⟨?_, ?_, ?_⟩
  · rw [hD, hs1]
    exact ⟨hq.cfg, hq.nodeConn, hq.hostConn, rfl, afterRebirth_ok _ hq.node⟩
  · rw [hD]
    simp only [List.count_append, f2, n2]
    rw [hs1]
    simp
  · rw [hD]
    simp only [f1]
    rw [hs1]
    simp only
    refine ⟨⟨rfl, ?_, rfl⟩, ?_, ?_, Nat.le_refl _, hs⟩
    · simp only [afterRebirth]
      congr 1
      omega
    · exact fun dv => findDev_birthAll_stale _ _ dv
    · refine birthAll_nodup _ _ ?_
      simpa [List.map_map, Function.comp_def] using hinv.2.2

/-- … in particular from a record without a timer, after the clock has ticked -/
theorem cycle_spec (d : Nat) (s : Sys) (hq : Quiet d s) (hn : s.toNode ≠ 0)
    (hp : CyclePre s.host s.node s.clock) :
    let s1 := (s.step (.advance 1)).step .deliverNcmd
    let D := Sys.deliverAll s1.toHost.length s1
    Quiet d D ∧ D.toNode = s.toNode - 1 ∧ SyncOk D.host D.node D.clock := by
  have hX := advance_idle s 1 hp.timer
  have h := cycle_core d { s with clock := s.clock + 1 } ⟨hq.cfg, hq.nodeConn, hq.hostConn, hq.flight, hq.node⟩
    hn hp.inv (Nat.lt_succ_of_le hp.birthTs) (Nat.le_succ_of_le hp.staleTs)
  rw [← hX] at h
  exact ⟨h.1, h.2.1.trans (by rw [hX]), h.2.2⟩

/-- `drainNet` with any fuel: each unit of fuel spends one NCMD in flight on a rebirth cycle, and after the
first cycle the host is in step -/
theorem drainNet_gen (d : Nat) : ∀ (fuel : Nat) (s : Sys),
    let D := Sys.deliverAll s.toHost.length s
    Quiet d D → (D.toNode ≠ 0 → CyclePre D.host D.node D.clock) →
    Quiet d (Sys.drainNet fuel s) ∧ (Sys.drainNet fuel s).toNode = D.toNode - fuel ∧
    (D.toNode = 0 ∨ fuel = 0 → Sys.drainNet fuel s = D) ∧
    (D.toNode ≠ 0 → fuel ≠ 0 →
      SyncOk (Sys.drainNet fuel s).host (Sys.drainNet fuel s).node (Sys.drainNet fuel s).clock) := by
  intro fuel
  induction fuel with
  | zero => intro s D hq _; exact ⟨hq, rfl, fun _ => rfl, fun _ h => absurd rfl h⟩
  | succ f ih =>
    intro s D hq hpre
    by_cases h0 : D.toNode = 0
    · have : Sys.drainNet (f + 1) s = D := by
        show (if D.toNode = 0 then D else _) = D
        rw [if_pos h0]
      rw [this]
      exact ⟨hq, by omega, fun _ => rfl, fun h => absurd h0 h⟩
    · have hstep : Sys.drainNet (f + 1) s = Sys.drainNet f ((D.step (.advance 1)).step .deliverNcmd) := by
        show (if D.toNode = 0 then D else _) = _
        rw [if_neg h0]
      rw [hstep]
      obtain ⟨c1, c2, c3⟩ := cycle_spec d D hq h0 (hpre h0)
      obtain ⟨i1, i2, i3, i4⟩ := ih ((D.step (.advance 1)).step .deliverNcmd) c1 (fun _ => c3.cyclePre)
      refine ⟨i1, by rw [i2, c2]; omega, fun h => absurd h (by omega), fun _ _ => ?_⟩
      by_cases hz : (Sys.deliverAll ((D.step (.advance 1)).step .deliverNcmd).toHost.length
          ((D.step (.advance 1)).step .deliverNcmd)).toNode = 0 ∨ f = 0
      · rw [i3 hz]; exact c3
      · exact i4 (fun h => hz (.inl h)) (fun h => hz (.inr h))

theorem drainNet_spec (d : Nat) (fuel : Nat) (s : Sys) :
    let D := Sys.deliverAll s.toHost.length s
    Quiet d D → D.toNode ≤ fuel → (D.toNode ≠ 0 → CyclePre D.host D.node D.clock) →
    (D.toNode = 0 → Sys.drainNet fuel s = D) ∧
    (D.toNode ≠ 0 → Quiet d (Sys.drainNet fuel s) ∧ (Sys.drainNet fuel s).toNode = 0 ∧
        SyncOk (Sys.drainNet fuel s).host (Sys.drainNet fuel s).node (Sys.drainNet fuel s).clock) := by
  intro D hq hle hpre
  obtain ⟨g1, g2, g3, g4⟩ := drainNet_gen d fuel s hq hpre
  exact ⟨fun h => g3 (.inl h), fun h => ⟨g1, g2.trans (Nat.sub_eq_zero_of_le hle),
    g4 h fun e => h (Nat.le_zero.1 (e ▸ hle))⟩⟩

theorem drain_quiet (d : Nat) (s : Sys) (hq : Quiet d s) (hpre : s.toNode ≠ 0 → CyclePre s.host s.node s.clock) :
    (s.toNode = 0 → Sys.drain s = s) ∧
    (s.toNode ≠ 0 → Quiet d (Sys.drain s) ∧ (Sys.drain s).toNode = 0 ∧
        SyncOk (Sys.drain s).host (Sys.drain s).node (Sys.drain s).clock) := by
  have hD : Sys.deliverAll s.toHost.length s = s := by rw [hq.flight]; rfl
  have := drainNet_spec d (s.toNode + s.toHost.length) s
  simp only [hD] at this
  exact this hq (by omega) hpre


/-- birthed, with the reorder timer running -/
structure ArmedOk (h : St) (clk : Nat) : Prop where
  life : h.life = .birthed
  inv : HostInv h
  armed : ∃ dl, h.timer = .armed dl
  birthTs : h.birthTs ≤ clk
  staleTs : h.staleTs ≤ clk

/-- the clock passes the deadline of a running reorder timer: the host goes stale and asks for a rebirth -/
theorem advance_fire (d : Nat) (s : Sys) (ms dl : Nat) (hcfg : s.cfg = Sys.fullCfg d) (hh : s.hostConn = true)
    (ht : s.host.timer = .armed dl) (hle : dl ≤ s.clock + ms) (hb : s.host.life = .birthed)
    (hbt : s.host.birthTs ≤ s.clock + ms) :
    s.step (.advance ms) =
      { s with clock := s.clock + ms, host := goStale { s.host with timer := .fired } (s.clock + ms),
               effs := s.effs ++ (issueRebirth (Sys.fullCfg d) { s.host with timer := .fired } .reorderTimeout
                  (s.clock + ms) (s.clock + ms)).2,
               toNode := s.toNode + 1 } := by
  have hfire : step (Sys.fullCfg d) s.host .timerFire (s.clock + ms) (s.clock + ms) =
      issueRebirth (Sys.fullCfg d) { s.host with timer := .fired } .reorderTimeout (s.clock + ms) (s.clock + ms) := by
    simp [step, ht]
  obtain ⟨q1, q2⟩ := issueRebirth_full d { s.host with timer := .fired } .reorderTimeout (s.clock + ms) hb hbt
  simp only [Sys.step, ht, hle, if_true, Sys.hostStep, hcfg, hfire, q1, q2, hh]

theorem timerPhase_spec (d : Nat) (s : Sys) (hq : Quiet d s) (ha : ArmedOk s.host s.clock) :
    Quiet d (Sys.timerPhase s) ∧ (Sys.timerPhase s).toNode = s.toNode + 1 ∧
    CyclePre (Sys.timerPhase s).host (Sys.timerPhase s).node (Sys.timerPhase s).clock := by
  obtain ⟨dl, hdl⟩ := ha.armed
  have htp : Sys.timerPhase s = s.step (.advance (dl - s.clock)) := by simp only [Sys.timerPhase, hdl]
  rw [htp, advance_fire d s _ dl hq.cfg hq.hostConn hdl (by omega) ha.life (by have := ha.birthTs; omega)]
  refine ⟨⟨hq.cfg, hq.nodeConn, hq.hostConn, hq.flight, hq.node⟩, rfl, ?_⟩
  exact ⟨goStale_inv _ _ ha.inv.2.2, rfl, by have := ha.birthTs; simp only [goStale]; omega, Nat.le_refl _⟩

theorem timerPhase_idle (s : Sys) (ht : s.host.timer = .none) : Sys.timerPhase s = s := by
  simp [Sys.timerPhase, ht]

theorem reconnect_quiet (d : Nat) (s : Sys) (hq : Quiet d s) : Sys.reconnect s = s := by
  simp [Sys.reconnect, hq.hostConn, hq.nodeConn]

theorem dataEff_ncmd (ms : List Msg) : Eff.ncmd ∉ ms.filterMap Msg.dataEff := by
  intro h
  obtain ⟨m, _, hm⟩ := List.mem_filterMap.mp h
  cases m <;> simp [Msg.dataEff] at hm

theorem pub_delivered (d : Nat) (s : Sys) (hq : Quiet d s) (ht : s.host.timer = .none) :
    let P := Sys.pubAll s
    let B := burst (s.clock + 1) (s.node.seq + 1) s.node.nextId s.node.enabledNames
    let R := feed (Sys.fullCfg d) (s.clock + 1) s.host B
    Sys.deliverAll P.toHost.length P =
      { s with clock := s.clock + 1, node := afterPub s.node, toHost := [], sent := s.sent ++ B,
               host := R.1, effs := s.effs ++ R.2, toNode := s.toNode + R.2.count Eff.ncmd } ∧
    P.effs = s.effs ∧ P.toNode = s.toNode ∧ P.toHost = B := by
  intro P B R
  have hP : P = _ := pubAll_eq d s hq ht
  refine ⟨?_, by rw [hP], by rw [hP], by rw [hP]⟩
  rw [deliverAll_eq P.toHost P (by rw [hP]; exact hq.hostConn) rfl]
  rw [hP]
  simp only [hq.cfg]
  rfl

/-- the phase's outcome that matters for the next phase -/
structure Settled (d : Nat) (s : Sys) : Prop where
  quiet : Quiet d s
  toNode : s.toNode = 0
  host : SyncOk s.host s.node s.clock ∨ ArmedOk s.host s.clock

theorem afterPub_names (n : Node) : (afterPub n).enabledNames = n.enabledNames := rfl

/-- the publishing phase from a record in step that holds every enabled device birthed: every publish
is applied, nothing else happens to the record -/
theorem pubDrain_step (d : Nat) (s : Sys) (hq : Quiet d s) (h0 : s.toNode = 0)
    (ht : Track s.host ((s.node.seq + 1) % 256)) (hb1 : s.host.birthTs ≤ s.clock) (hb2 : s.host.staleTs ≤ s.clock)
    (hall : ∀ dv ∈ s.node.enabledNames, findDev dv s.host.devices = some .birthed) :
    let B := burst (s.clock + 1) (s.node.seq + 1) s.node.nextId s.node.enabledNames
    let s' := Sys.drain (Sys.pubAll s)
    Quiet d s' ∧ s'.toNode = 0 ∧ s'.node = afterPub s.node ∧ s'.clock = s.clock + 1 ∧
    s'.host = { s.host with reseq := { buf := [], next := (s.node.seq + 1 + 1 + s.node.enabledNames.length) % 256,
                                       mode := .good } } ∧
    s'.sent = s.sent ++ B ∧ s'.effs = s.effs ++ B.filterMap Msg.dataEff ∧ (Sys.pubAll s).effs = s.effs := by
  intro B s'
  obtain ⟨hD, hPe, hPn, hPh⟩ := pub_delivered d s hq ht.timer
  have hR := feed_burst_sync d (s.clock + 1) (s.node.seq + 1) s.node.nextId s.node.enabledNames s.host
    ht (by omega) (by omega) hall
  rw [hR] at hD
  simp only [List.count_eq_zero_of_not_mem (dataEff_ncmd _), Nat.add_zero] at hD
  have hfew := hq.node.few
  have hq' : Quiet d (Sys.deliverAll (Sys.pubAll s).toHost.length (Sys.pubAll s)) := by
    rw [hD]; exact ⟨hq.cfg, hq.nodeConn, hq.hostConn, rfl, afterPub_ok _ hq.node⟩
  have hz : (Sys.deliverAll (Sys.pubAll s).toHost.length (Sys.pubAll s)).toNode = 0 := by rw [hD]; exact h0
  have hdr : s' = Sys.deliverAll (Sys.pubAll s).toHost.length (Sys.pubAll s) :=
    (drainNet_spec d _ (Sys.pubAll s) hq' (by omega) (fun hne => absurd hz hne)).1 hz
  rw [hdr, hD]
  exact ⟨by rw [← hD]; exact hq', h0, rfl, rfl, rfl, rfl, rfl, hPe⟩

theorem pubDrain_sync (d : Nat) (s : Sys) (hq : Quiet d s) (h0 : s.toNode = 0)
    (hs : SyncOk s.host s.node s.clock) :
    let B := burst (s.clock + 1) (s.node.seq + 1) s.node.nextId s.node.enabledNames
    let s' := Sys.drain (Sys.pubAll s)
    Quiet d s' ∧ s'.toNode = 0 ∧ SyncOk s'.host s'.node s'.clock ∧
    s'.sent = s.sent ++ B ∧ s'.effs = s.effs ++ B.filterMap Msg.dataEff ∧
    s'.node = afterPub s.node ∧ (Sys.pubAll s).effs = s.effs := by
  intro B s'
  obtain ⟨q, z, hn, hc, hh, hsent, heffs, hpe⟩ :=
    pubDrain_step d s hq h0 hs.track hs.birthTs hs.staleTs (fun dv hd => (hs.devs dv).mpr hd)
  have hfew := hq.node.few
  refine ⟨q, z, ?_, hsent, heffs, hn, hpe⟩
  rw [hh, hn, hc]
  refine ⟨⟨hs.track.life, ?_, hs.track.timer⟩, ?_, hs.nodup, by have := hs.birthTs; simp only; omega,
    by have := hs.staleTs; simp only; omega⟩
  · simp only [afterPub]
    congr 1
    omega
  · intro dv; exact hs.devs dv

theorem settled_of_delivered (d : Nat) (P D : Sys) (hD : Sys.deliverAll P.toHost.length P = D)
    (hq : Quiet d D) (hle : D.toNode ≤ P.toNode + P.toHost.length)
    (hpre : D.toNode ≠ 0 → CyclePre D.host D.node D.clock)
    (hzero : D.toNode = 0 → SyncOk D.host D.node D.clock ∨ ArmedOk D.host D.clock) :
    Settled d (Sys.drain P) := by
  subst hD
  obtain ⟨r1, r2⟩ := drainNet_spec d _ P hq hle hpre
  by_cases hz : (Sys.deliverAll P.toHost.length P).toNode = 0
  · rw [show Sys.drain P = _ from r1 hz]
    exact ⟨hq, hz, hzero hz⟩
  · obtain ⟨a, b, c⟩ := r2 hz
    exact ⟨a, b, .inl c⟩

/-- what one publishing burst does to a record without timer and with nothing buffered -/
inductive BurstEnd (h : St) (clk k id0 : Nat) (L : List Nat) (r : St × List Eff) : Prop
  /-- in step: every message applied, nothing else happens to the record -/
  | applied : Track h (k % 256) → (∀ dv ∈ L, findDev dv h.devices = some .birthed) →
      r = ({ h with reseq := { buf := [], next := (k + 1 + L.length) % 256, mode := .good } },
           (burst clk k id0 L).filterMap Msg.dataEff) → BurstEnd h clk k id0 L r
  /-- out of step: messages wait behind a gap, the reorder timer runs, no rebirth request yet -/
  | armed : ArmedOk r.1 clk → r.2.count Eff.ncmd = 0 → BurstEnd h clk k id0 L r
  /-- stale (before the burst or by it): at least one rebirth request is out -/
  | stale : r.1.life = .stale → HostInv r.1 → r.1.birthTs ≤ clk → r.1.staleTs ≤ clk →
      1 ≤ r.2.count Eff.ncmd → BurstEnd h clk k id0 L r

theorem Off.burstEnd {h : St} {clk k id0 i : Nat} {L : List Nat} {r : St × List Eff} (ho : Off h clk k i r)
    (h1 : h.birthTs ≤ clk) (h2 : h.staleTs ≤ clk) : BurstEnd h clk k id0 L r := by
  cases ho with
  | lag l lb ls lc => exact .armed ⟨l.life, l.inv, l.armed, lb ▸ h1, ls ▸ h2⟩ lc
  | stale hse => exact .stale hse.life hse.inv (hse.birthTs ▸ h1) (hse.staleTs ▸ Nat.le_refl _) hse.ncmd

theorem feed_burst (d clk k id0 : Nat) (L : List Nat) (h : St) (hinv : HostInv h) (ht : h.timer = .none)
    (hgood : h.life = .birthed → h.reseq.mode = .good) (h1 : h.birthTs ≤ clk) (h2 : h.staleTs ≤ clk)
    (hlen : L.length < 255) :
    BurstEnd h clk k id0 L (feed (Sys.fullCfg d) clk h (burst clk k id0 L)) := by
  by_cases hst : h.life = .stale
  · -- stale: every message is answered by an NCMD
    obtain ⟨⟨lr, hlr⟩, hc⟩ := feed_stale d clk (burst clk k id0 L) h hst h1 h2 (burst_isR _ _ _ _)
    refine .stale ?_ ?_ ?_ ?_ (by rw [hc, burst_length]; omega) <;> rw [hlr]
    · exact hst
    · exact ⟨hinv.1, hinv.2.1, hinv.2.2⟩
    · exact h1
    · exact h2
  · have hbirthed : h.life = .birthed := by cases hl : h.life <;> simp_all
    have hmode := hgood hbirthed
    have hbuf : h.reseq.buf = [] := by have := hinv.1.2; rw [hmode] at this; exact this
    have htr : Track h h.reseq.next := ⟨hbirthed, reseq_eta _ hbuf hmode, ht⟩
    by_cases hsync : h.reseq.next = k % 256 ∧ ∀ dv ∈ L, findDev dv h.devices = some .birthed
    · have htk : Track h (k % 256) := by rw [← hsync.1]; exact htr
      exact .applied htk hsync.2 (feed_burst_sync d clk k id0 L h htk h1 h2 hsync.2)
    · refine Off.burstEnd (i := 1 + L.length) ?_ h1 h2
      simp only [burst, feed_cons, Msg.toIn]
      by_cases hek : h.reseq.next = k % 256
      · -- the NDATA is applied, some DDATA meets a device not held birthed
        rw [hek] at htr
        rw [step_track_ndata d h _ clk id0 clk htr h1 h2]
        refine feed_track_bad d clk k id0 h h1 h2 L 1 _ _ (Track.step (i := 0) htr) rfl rfl hinv.2.2 (by simp)
          (by omega) ?_
        exact Classical.byContradiction fun hcn =>
          hsync ⟨hek, fun dv hd => Classical.byContradiction fun hc2 => hcn ⟨dv, hd, hc2⟩⟩
      · -- the NDATA waits behind a gap, the DDATAs behind it
        have hne : k % 256 ≠ h.reseq.next := fun h' => hek h'.symm
        have hinv1 := (Host.step_spec (Sys.fullCfg d) h (.rmsg (k % 256) clk (.ndata id0 .ok)) clk clk hinv
          (Nat.mod_lt _ (by omega))).1
        rw [step_track_gap d h _ (k % 256) clk (.ndata id0 .ok) clk htr h1 h2 hne] at hinv1 ⊢
        refine Off.feed id0 h1 h2 L 1 _
          (.lag ⟨hbirthed, hinv1, ⟨_, rfl⟩, by simp, fun x hx => ?_⟩ rfl rfl (by simp)) (by omega)
        simp only [List.mem_singleton] at hx
        subst hx
        exact ⟨0, by omega, rfl⟩

/-- the round's publishes, delivered, before any NCMD they caused is: the state is quiet; an NCMD is only
in flight towards a record ready for the rebirth cycle; and with none in flight the record is in step or
waits with its reorder timer running (in step only if it holds no device birthed beyond the enabled ones) -/
theorem pubAll_delivered (d : Nat) (s : Sys) (hq : Quiet d s) (h0 : s.toNode = 0)
    (hp : CyclePre s.host s.node s.clock) (hgood : s.host.life = .birthed → s.host.reseq.mode = .good) :
    let P := Sys.pubAll s
    let D := Sys.deliverAll P.toHost.length P
    Quiet d D ∧ D.toNode ≤ P.toNode + P.toHost.length ∧
    (D.toNode ≠ 0 → CyclePre D.host D.node D.clock) ∧
    ((InStep s.host s.node → DevsBelow s.host s.node) → D.toNode = 0 →
      SyncOk D.host D.node D.clock ∨ ArmedOk D.host D.clock) ∧
    P.effs = s.effs := by
  intro P D
  obtain ⟨hD, hPe, hPn, hPh⟩ := pub_delivered d s hq hp.timer
  have hD' : D = _ := hD
  have hfew := hq.node.few
  have hb1 := hp.birthTs
  have hb2 := hp.staleTs
  suffices key : (D.toNode ≠ 0 → CyclePre D.host D.node D.clock) ∧
      ((InStep s.host s.node → DevsBelow s.host s.node) → D.toNode = 0 →
        SyncOk D.host D.node D.clock ∨ ArmedOk D.host D.clock) from
    ⟨by rw [hD']; exact ⟨hq.cfg, hq.nodeConn, hq.hostConn, rfl, afterPub_ok _ hq.node⟩,
      by rw [hD', hPn, hPh]; exact Nat.add_le_add_left (feed_count_le ..) _, key.1, key.2, hPe⟩
  rw [hD']
  rcases feed_burst d (s.clock + 1) (s.node.seq + 1) s.node.nextId s.node.enabledNames s.host hp.inv hp.timer
    hgood (by omega) (by omega) hfew with ⟨ht, hall, hR⟩ | ⟨ha, hc⟩ | ⟨hst, hinv, c1, c2, hc⟩
  · simp only [hR, List.count_eq_zero_of_not_mem (dataEff_ncmd _), Nat.add_zero]
    refine ⟨fun hne => absurd h0 hne, fun hbelow _ => .inl ⟨⟨ht.life, ?_, ht.timer⟩, fun dv => ⟨fun h => ?_, hall dv⟩,
      hp.inv.2.2, by simp only; omega, by simp only; omega⟩⟩
    · simp only [afterPub]
      congr 1
      omega
    · exact hbelow ⟨ht.life, hp.timer, by rw [ht.reseq], by rw [ht.reseq], hall⟩ dv h
  · simp only [hc, h0]
    exact ⟨fun hne => absurd rfl hne, fun _ _ => .inr ha⟩
  · refine ⟨fun _ => stale_cyclePre _ _ _ hinv hst c1 c2, fun _ hz => ?_⟩
    simp only at hz
    omega

theorem pubDrain_any (d : Nat) (s : Sys) (hq : Quiet d s) (h0 : s.toNode = 0)
    (hp : CyclePre s.host s.node s.clock) (hgood : s.host.life = .birthed → s.host.reseq.mode = .good)
    (hbelow : InStep s.host s.node → DevsBelow s.host s.node) :
    Settled d (Sys.drain (Sys.pubAll s)) := by
  obtain ⟨c1, c2, c3, c4, _⟩ := pubAll_delivered d s hq h0 hp hgood
  exact settled_of_delivered d _ _ rfl c1 c2 c3 (c4 hbelow)


theorem devMsgs_shape (ts k id0 : Nat) (L : List Nat) : ∀ i,
    (devMsgs .ddata ts k id0 i L).map Msg.dataShape = L.map (fun dv => some (some dv)) := by
  induction L with
  | nil => intro i; rfl
  | cons dv t ih => intro i; simp [devMsgs, Msg.dataShape, ih]

theorem burst_shape (ts k id0 : Nat) (L : List Nat) :
    (burst ts k id0 L).map Msg.dataShape = some none :: L.map (fun dv => some (some dv)) := by
  simp [burst, Msg.dataShape, devMsgs_shape]

theorem inSync_of (d : Nat) (s : Sys) (last : List Eff) (X : List Msg) (ts k id0 : Nat)
    (hq : Quiet d s) (h0 : s.toNode = 0) (hs : SyncOk s.host s.node s.clock)
    (hsent : s.sent = X ++ burst ts k id0 s.node.enabledNames)
    (hlast : last = (burst ts k id0 s.node.enabledNames).filterMap Msg.dataEff) :
    Sys.InSync s last = true := by
  have hreseq : s.host.reseq = { buf := [], next := (s.node.seq + 1) % 256, mode := .good } := hs.track.reseq
  have hdev1 : (s.node.devs.all fun x =>
      !x.enabled || decide (findDev x.name s.host.devices = some Life.birthed)) = true := by
    rw [List.all_eq_true]
    intro x hx
    cases hen : x.enabled with
    | false => rfl
    | true =>
      have : x.name ∈ s.node.enabledNames := by
        simp only [Node.enabledNames, List.mem_map, List.mem_filter]
        exact ⟨x, ⟨hx, hen⟩, rfl⟩
      simp [(hs.devs x.name).mpr this]
  have hdev2 : (s.host.devices.all fun p =>
      decide (p.2 = Life.stale) || s.node.enabledNames.contains p.1) = true := by
    rw [List.all_eq_true]
    intro p hp
    obtain ⟨dv, l⟩ := p
    cases l with
    | stale => simp
    | birthed =>
      have := (hs.devs dv).mp (mem_findDev _ _ _ hp hs.nodup)
      simp [this]
  have htail : s.sent.drop (s.sent.length - (s.node.enabledNames.length + 1)) = burst ts k id0 s.node.enabledNames := by
    rw [hsent, ← burst_length ts k id0, List.length_append, Nat.add_sub_cancel, List.drop_left]
  simp only [Sys.InSync, hq.nodeConn, hq.hostConn, hq.node.online, hq.node.birthed, hs.track.life, hreseq,
    hs.track.timer, hdev1, hdev2, hq.flight, h0, htail, burst_shape, hlast, List.isEmpty_nil, decide_true,
    Bool.and_self]

theorem drain_id (d : Nat) (s : Sys) (hq : Quiet d s) (h0 : s.toNode = 0) : Sys.drain s = s :=
  (drain_quiet d s hq (fun hne => absurd h0 hne)).1 h0

theorem finish_sync (d : Nat) (b : Sys) (hq : Quiet d b) (h0 : b.toNode = 0)
    (hs : SyncOk b.host b.node b.clock) :
    let e := Sys.drain (Sys.pubAll b)
    Sys.InSync e (e.effs.drop (Sys.pubAll b).effs.length) = true ∧ Settled d e := by
  intro e
  obtain ⟨q, z, sy, hsent, heffs, hnode, hpe⟩ := pubDrain_sync d b hq h0 hs
  refine ⟨?_, ⟨q, z, Or.inl sy⟩⟩
  have hnames : e.node.enabledNames = b.node.enabledNames := by
    show (Sys.drain (Sys.pubAll b)).node.enabledNames = _
    rw [hnode]; rfl
  refine inSync_of d e _ b.sent (b.clock + 1) (b.node.seq + 1) b.node.nextId q z sy ?_ ?_
  · rw [hnames]; exact hsent
  · rw [hnames, hpe]
    show (Sys.drain (Sys.pubAll b)).effs.drop b.effs.length = _
    rw [heffs, List.drop_left]

/-- a round from a quiet state starts with the timer phase -/
theorem round_of_quiet (d : Nat) (s : Sys) (hq : Quiet d s) (h0 : s.toNode = 0) :
    Sys.round s = (Sys.drain (Sys.pubAll (Sys.drain (Sys.timerPhase s))),
      (Sys.drain (Sys.pubAll (Sys.drain (Sys.timerPhase s)))).effs.drop
        (Sys.pubAll (Sys.drain (Sys.timerPhase s))).effs.length) := by
  simp only [Sys.round, reconnect_quiet d s hq, drain_id d s hq h0]

theorem round_sync (d : Nat) (s : Sys) (hq : Quiet d s) (h0 : s.toNode = 0)
    (hs : SyncOk s.host s.node s.clock) :
    Sys.InSync (Sys.round s).1 (Sys.round s).2 = true ∧ Settled d (Sys.round s).1 := by
  rw [round_of_quiet d s hq h0, timerPhase_idle s hs.track.timer, drain_id d s hq h0]
  exact finish_sync d s hq h0 hs

theorem round_armed (d : Nat) (s : Sys) (hq : Quiet d s) (h0 : s.toNode = 0)
    (ha : ArmedOk s.host s.clock) :
    Sys.InSync (Sys.round s).1 (Sys.round s).2 = true ∧ Settled d (Sys.round s).1 := by
  obtain ⟨t1, t2, t3⟩ := timerPhase_spec d s hq ha
  obtain ⟨b1, b2, b3⟩ := (drain_quiet d _ t1 (fun _ => t3)).2 (by omega)
  rw [round_of_quiet d s hq h0]
  exact finish_sync d _ b1 b2 b3

theorem round_idle (d : Nat) (s : Sys) (hq : Quiet d s) (h0 : s.toNode = 0)
    (hp : CyclePre s.host s.node s.clock) (hgood : s.host.life = .birthed → s.host.reseq.mode = .good)
    (hbelow : InStep s.host s.node → DevsBelow s.host s.node) :
    Settled d (Sys.round s).1 := by
  rw [round_of_quiet d s hq h0, timerPhase_idle s hp.timer, drain_id d s hq h0]
  exact pubDrain_any d s hq h0 hp hgood hbelow

theorem round_settled (d : Nat) (s : Sys) (h : Settled d s) :
    Sys.InSync (Sys.round s).1 (Sys.round s).2 = true ∧ Settled d (Sys.round s).1 := by
  rcases h.host with hs | ha
  · exact round_sync d s h.quiet h.toNode hs
  · exact round_armed d s h.quiet h.toNode ha

/-- under the timer discipline a birthed record without a timer has nothing buffered -/
theorem TimerOk.good {h : St} (ht : TimerOk h) (hb : h.life = .birthed) (hn : h.timer = .none) :
    h.reseq.mode = .good :=
  Classical.byContradiction fun hng => by
    obtain ⟨dl, hdl⟩ := (ht hb).2 hng
    rw [hn] at hdl; cases hdl

theorem round_start (d : Nat) (s : Sys) (hq : Quiet d s) (h0 : s.toNode = 0)
    (hinv : HostInv s.host) (hco : Coherent s.host s.clock) (htm : TimerOk s.host)
    (hbelow : InStep s.host s.node → DevsBelow s.host s.node) : Settled d (Sys.round s).1 := by
  obtain ⟨hb1, hb2⟩ := hco
  by_cases hst : s.host.life = .stale
  · exact round_idle d s hq h0 (stale_cyclePre _ _ _ hinv hst (by omega) hb2)
      (fun hb => by rw [hst] at hb; cases hb) hbelow
  · have hbirthed : s.host.life = .birthed := by cases h : s.host.life <;> simp_all
    obtain ⟨hnf, harm⟩ := htm hbirthed
    cases htimer : s.host.timer with
    | fired => exact absurd htimer hnf
    | armed dl =>
      exact (round_armed d s hq h0 ⟨hbirthed, hinv, ⟨dl, htimer⟩, by omega, hb2⟩).2
    | none =>
      exact round_idle d s hq h0 ⟨hinv, htimer, by omega, hb2⟩ (fun hb => htm.good hb htimer) hbelow

theorem settle_more (d : Nat) (s : Sys) (h : Settled d s) : ∀ k,
    Settled d (Sys.settle k s).1 ∧ (0 < k → Sys.InSync (Sys.settle k s).1 (Sys.settle k s).2 = true) := by
  intro k
  induction k with
  | zero => exact ⟨h, fun h => absurd h (Nat.lt_irrefl 0)⟩
  | succ k ih =>
    have := round_settled d _ ih.1
    exact ⟨this.2, fun _ => this.1⟩

theorem settle_shift (s : Sys) : ∀ k, Sys.settle (k + 2) s = Sys.settle (k + 1) (Sys.round s).1
  | 0 => by simp only [Sys.settle]
  | k + 1 => by rw [Sys.settle, settle_shift s k, ← Sys.settle]

/-- from the second round on, every round of `settle` ends in sync -/
theorem settle_sync (d : Nat) (s : Sys) (hq : Quiet d s) (h0 : s.toNode = 0)
    (hinv : HostInv s.host) (hco : Coherent s.host s.clock) (htm : TimerOk s.host)
    (hbelow : InStep s.host s.node → DevsBelow s.host s.node) (k : Nat) :
    Sys.InSync (Sys.settle (k + 2) s).1 (Sys.settle (k + 2) s).2 = true := by
  rw [settle_shift]
  exact (settle_more d _ (round_start d s hq h0 hinv hco htm hbelow) (k + 1)).2 (by omega)


/-! ## `TimerOk` and clock coherence are invariants of the composed system -/

theorem timerOk_of_stale (s : St) (h : s.life = .stale) : TimerOk s := by
  intro hb; rw [h] at hb; cases hb

theorem issueRebirth_life (d : Nat) (s : St) (r : Reason) (now : Nat) (hclk : s.birthTs ≤ now) :
    (issueRebirth (Sys.fullCfg d) s r now now).1.life = .stale := by
  cases hl : s.life with
  | birthed => rw [(issueRebirth_full d s r now hl hclk).1]; rfl
  | stale => exact (issueRebirth_stale _ s r now now hl).1

/-- a message that raises nothing keeps the timer discipline: filed behind a gap, it finds a timer or
starts one; applied, the loop that follows ends by cancelling the timer on an empty buffer, by restarting
it for the next gap after a release, or, having released nothing, with timer and mode as they were -/
theorem handleRMsg_TO (d : Nat) (s : St) (seq ts : Nat) (m : RMsg) (now : Nat)
    (hinv : HostInv s) (hseq : seq < 256) (ht : TimerOk s)
    (hnone : (handleRMsg (Sys.fullCfg d) s seq ts m now).2.2 = none) :
    TimerOk (handleRMsg (Sys.fullCfg d) s seq ts m now).1 := by
  rcases handleRMsg_cases (Sys.fullCfg d) s seq ts m now with ⟨_, h⟩ | ⟨_, _, h⟩ | ⟨hf, hl, ⟨hr, _⟩ | hres⟩
  · rw [h]; exact ht
  · rw [h]; exact ht
  · cases hr
  obtain ⟨hnf, harm⟩ := ht hl
  have hrestart : restarted (Sys.fullCfg d) now = .armed (now + d) := rfl
  have hpi := Reseq.process_inv s.reseq seq m hinv.1 hseq
  rcases handleRMsg_char (Sys.fullCfg d) s seq ts m now hf hl hres with
    ⟨r', hp, h, _⟩ | ⟨r', hp, h, _⟩ | ⟨r', ms, r1, hp, hch, hstop, h, _⟩ <;>
    rw [h] at hnone ⊢ <;> rw [hp] at hpi <;> intro _
  · cases hnone
  · split
    · rename_i htm
      have e := startTimer_timer (Sys.fullCfg d) { s with reseq := r' } now htm
      rw [startTimer_fst_eq]
      exact ⟨by simp only [e, hrestart]; nofun, fun _ => ⟨now + d, by simp only [e, hrestart]⟩⟩
    · rename_i htm
      refine ⟨hnf, fun _ => ?_⟩
      cases hts : s.timer with
      | none => exact absurd hts htm
      | armed dl => exact ⟨dl, rfl⟩
      | fired => exact absurd hts hnf
  · rw [drained_reason] at hnone
    obtain ⟨i1, _, _⟩ := hch.inv hpi
    rw [drained_clean hnone i1 (hstop hnone)]
    by_cases hb : r1.buf = []
    · simp only [hb, if_true]
      exact ⟨nofun, fun hm => absurd (i1.mode_good_iff.mpr hb) hm⟩
    · simp only [hb, if_false]
      cases hms : ms with
      | cons x t => exact ⟨by simp [hrestart], fun _ => ⟨now + d, by simp [hrestart]⟩⟩
      | nil =>
        subst hms
        cases hch.nil_eq
        obtain ⟨_, _, rfl⟩ := Reseq.process_next_eq hp
        exact ⟨hnf, harm⟩

theorem setStale_le (s : St) (now : Nat) (h1 : s.birthTs ≤ now) (h2 : s.staleTs ≤ now) :
    (setStale s now).1.birthTs ≤ now ∧ (setStale s now).1.staleTs ≤ now := by
  rcases setStale_cases s now with h | ⟨_, _, h⟩ <;> rw [h]
  · exact ⟨h1, h2⟩
  · exact ⟨h1, Nat.le_refl _⟩

theorem issueRebirth_clock (c : Cfg) (s : St) (r : Reason) (now wall : Nat) :
    (issueRebirth c s r now wall).1.birthTs = s.birthTs ∧
    ((issueRebirth c s r now wall).1.staleTs = s.staleTs ∨ (issueRebirth c s r now wall).1.staleTs = now) := by
  refine ⟨(issueRebirth_fields c s r now wall).1, ?_⟩
  rcases issueRebirth_cases c s r now wall with h | ⟨_, _, h⟩ <;> rw [h]
  · exact .inl rfl
  · rcases setStale_cases { s with lastRebirth := wall } now with h' | ⟨_, _, h'⟩ <;> rw [h']
    · exact .inl rfl
    · exact .inr rfl

/-- only an accepted NBIRTH and `setStale` write the two time stamps, with the input's and the
step's clock reading -/
theorem body_clock (c : Cfg) (s : St) (i : In) (now : Nat) (hi : In.tsLe now i)
    (h1 : s.birthTs ≤ now) (h2 : s.staleTs ≤ now) :
    (body c s i now).1.birthTs ≤ now ∧ (body c s i now).1.staleTs ≤ now := by
  cases i with
  | nbirth ts bd id ans =>
    simp only [body]
    split
    · exact ⟨h1, h2⟩
    split
    · exact ⟨h1, h2⟩
    · exact ⟨hi, h2⟩
  | ndeath bd =>
    exact setStale_le _ now ((cancelTimer_frame s).birthTs ▸ h1) ((cancelTimer_frame s).staleTs ▸ h2)
  | rmsg seq ts m =>
    have f := (handleRMsg_spec c s seq ts m now).1.frame
    exact ⟨f.birthTs ▸ h1, f.staleTs ▸ h2⟩
  | offline => exact setStale_le s now h1 h2
  | rebirthReq r => exact ⟨h1, h2⟩
  | timerFire =>
    simp only [body]
    split <;> exact ⟨h1, h2⟩

theorem step_clock (c : Cfg) (s : St) (i : In) (now wall : Nat) (hi : In.tsLe now i)
    (h1 : s.birthTs ≤ now) (h2 : s.staleTs ≤ now) :
    (step c s i now wall).1.birthTs ≤ now ∧ (step c s i now wall).1.staleTs ≤ now := by
  have hb := body_clock c s i now hi h1 h2
  rw [step_eq]
  split
  · exact hb
  · rename_i r _
    obtain ⟨a, b⟩ := issueRebirth_clock c (body c s i now).1 r now wall
    exact ⟨a ▸ hb.1, by rcases b with b | b <;> rw [b] <;> omega⟩

/-- **the timer discipline is preserved by every host step** (full configuration, coherent clock):
a step that asks for a rebirth ends stale; otherwise the input's own handling keeps it -/
theorem step_timerOk (d : Nat) (s : St) (i : In) (now : Nat) (hinv : HostInv s) (hwf : i.WF)
    (hi : In.tsLe now i) (h1 : s.birthTs ≤ now) (h2 : s.staleTs ≤ now) (ht : TimerOk s) :
    TimerOk (step (Sys.fullCfg d) s i now now).1 := by
  rw [step_eq]
  cases hr : raised (Sys.fullCfg d) s i now with
  | some r =>
    exact timerOk_of_stale _ (issueRebirth_life d _ r now (body_clock _ s i now hi h1 h2).1)
  | none =>
    cases i with
    | nbirth ts bd id ans =>
      simp only [raised] at hr
      simp only [body]
      split
      · exact ht
      split
      · rename_i h3 h4; rw [if_neg h3, if_pos h4] at hr; cases hr
      · exact fun _ => ⟨by simp, fun h => absurd rfl h⟩
    | ndeath bd =>
      exact timerOk_of_stale _ (setStale_marks _ now ((cancelTimer_frame s).birthTs ▸ h1)).1
    | rmsg seq ts m => exact handleRMsg_TO d s seq ts m now hinv hwf ht hr
    | offline => exact timerOk_of_stale _ (setStale_marks s now h1).1
    | rebirthReq r => cases hr
    | timerFire =>
      simp only [raised] at hr
      simp only [body]
      split
      · rename_i h3; rw [h3] at hr; cases hr
      · exact ht

theorem SafeInv.hostInv {c : Cfg} {s : Sys} (h : SafeInv c s) : HostInv s.host := by
  obtain ⟨evs, hwf, hrun⟩ := h.isRun
  have := (Host.run_spec c evs Host.init Host.init_inv hwf).1
  rw [hrun] at this
  exact this

/-- what every reachable state of the composed system satisfies under the full configuration -/
structure LiveInv (d : Nat) (s : Sys) : Prop where
  safe : SafeInv (Sys.fullCfg d) s
  timer : TimerOk s.host
  birthTs : s.host.birthTs ≤ s.clock
  staleTs : s.host.staleTs ≤ s.clock
  flightTs : ∀ m ∈ s.toHost, Msg.tsLe s.clock m

theorem tsLe_mono {a b : Nat} (h : a ≤ b) (m : Msg) (hm : Msg.tsLe a m) : Msg.tsLe b m := by
  cases m <;> simp only [Msg.tsLe, Msg.toIn, In.tsLe] at hm ⊢
  omega

theorem LiveInv_init (d : Nat) (devs : List Dev) : LiveInv d (Sys.init (Sys.fullCfg d) devs) :=
  ⟨SafeInv_init _ devs, timerOk_of_stale _ rfl, by simp [Sys.init, Host.init], by simp [Sys.init, Host.init],
    by simp [Sys.init]⟩

theorem LiveInv_send (d : Nat) (s : Sys) (r : Node × List Msg) (h : LiveInv d s) {n0 : Node} {k : Bool}
    (hr : OpOk s.clock n0 k r) (h0 : n0.bdseq = s.node.bdseq) : LiveInv d (s.send r.1 r.2) := by
  refine ⟨SafeInv_send _ s r h.safe hr h0, h.timer, h.birthTs, h.staleTs, fun m hm => ?_⟩
  rcases List.mem_append.mp hm with hm | hm
  · exact h.flightTs m hm
  · exact (hr.msgs m hm).2

theorem LiveInv_hostStep (d : Nat) (s : Sys) (i : In) (h : LiveInv d s) (hi : HostIn s i) :
    LiveInv d (s.hostStep i) := by
  have hts : In.tsLe s.clock i := by
    rcases hi with rfl | rfl | ⟨m, hm, rfl⟩
    · trivial
    · trivial
    · exact h.flightTs m hm
  obtain ⟨c1, c2⟩ := step_clock s.cfg s.host i s.clock s.clock hts h.birthTs h.staleTs
  refine ⟨SafeInv_hostStep _ s i h.safe hi, ?_, c1, c2, h.flightTs⟩
  have := step_timerOk d s.host i s.clock h.safe.hostInv (h.safe.hostIn hi).2 hts h.birthTs h.staleTs h.timer
  simp only [Sys.hostStep, h.safe.cfg]
  exact this

theorem LiveInv_step (d : Nat) (s : Sys) (a : Action) (h : LiveInv d s) : LiveInv d (s.step a) := by
  refine Sys.step_induct s a h (fun s r _ h ho _ => LiveInv_send d s r h ho.ok rfl) (LiveInv_hostStep d)
    (fun _ _ h hl => ⟨h.safe.sub hl, h.timer, h.birthTs, h.staleTs, fun m hm => h.flightTs m (hl m hm)⟩)
    (fun s k hc ms h => ⟨h.safe.frame k s.nodeConn hc _, h.timer, Nat.le_add_right_of_le h.birthTs,
      Nat.le_add_right_of_le h.staleTs, fun m hm => tsLe_mono (Nat.le_add_right _ _) m (h.flightTs m hm)⟩)
    (fun s h _ => have h1 := LiveInv_send d s _ h (goOnline_ok s.clock s.node) rfl
      ⟨h1.safe.frame _ true _ _, h1.timer, h1.birthTs, h1.staleTs, h1.flightTs⟩)
    (fun s h => ⟨h.safe.death, h.timer, h.birthTs, h.staleTs, fun m hm => ?_⟩)
  rcases List.mem_append.mp hm with hm | hm
  · exact h.flightTs m hm
  · cases List.mem_singleton.mp hm; trivial

theorem LiveInv_run (d : Nat) (as : List Action) : ∀ (s : Sys), LiveInv d s → LiveInv d (s.run as) :=
  Sys.run_induct (LiveInv_step d) as


theorem NodeInv_step (s : Sys) (a : Action) (h : NodeInv s.node) : NodeInv (s.step a).node :=
  Sys.step_induct (P := fun s => NodeInv s.node) s a h (fun _ _ _ h ho _ => ho.ok.inv h) (fun _ _ h _ => h)
    (fun _ _ h _ => h) (fun _ _ _ _ h => h) (fun s h _ => (goOnline_ok s.clock s.node).inv h.markOnline)
    (fun _ h => goOffline_inv _ h)

theorem NodeInv_run (as : List Action) : ∀ (s : Sys), NodeInv s.node → NodeInv (s.run as).node :=
  Sys.run_induct (P := fun s => NodeInv s.node) NodeInv_step as

theorem NodeInv_init (c : Cfg) (devs : List Dev) (hn : (devs.map (·.name)).Nodup)
    (hf : ∀ x ∈ devs, x.flag = false) : NodeInv (Sys.init c devs).node := by
  refine ⟨fun hb => (by cases hb), by simp [Sys.init], ?_, fun hb => (by cases hb), hn⟩
  intro x hx hfl
  have := hf x hx
  rw [this] at hfl
  cases hfl

theorem NodeInv.nodeOk {n : Node} (h : NodeInv n) (hbd : n.bdseq < 256) (hb : n.birthed = true)
    (hfew : n.enabledNames.length < 255) : NodeOk n := by
  refine ⟨h.online hb, hb, h.seq, hbd, ?_, h.names, hfew⟩
  intro x hx
  cases he : x.enabled with
  | true => exact h.enFlag hb x hx he
  | false =>
    cases hf : x.flag with
    | false => rfl
    | true => rw [h.flagEn x hx hf] at he; cases he

end Srad.Loop
