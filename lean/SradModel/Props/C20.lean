/-
C20 — Shutdown terminates and try-publishes never wait on the client (edge-node half; the host
half is proved in `Props/C16.lean`: `C16_cancel_publishes_offline_then_disconnects`,
`C16_cancel_returns`). Property theorems only (helper lemmas: `SradModel/Proofs/EonC20.lean`).
-/
import SradModel.Proofs.EonC20

namespace Srad.Eon
open Srad.Eon.P20

/-- every NDEATH and DISCONNECT is handed over through a non-blocking client call, and no
hand-over made through a `try_` call ever waits (parks) -/
theorem C20_try_calls_never_wait (cd : Nat) (acts : List Act) (s : St) (tr : List Obs)
    (h : runActs (init cd) acts = some (s, tr)) : tryOk tr = true := by
  exact tryOk_runActs h

/-- a `try_` publish never parks: its task finishes in the very step that hands the call over -/
theorem C20_try_publish_returns_at_once (s : St) (j : Nat) (t : PubTarget) (n : Nat) (dec : Dec)
    (k : Nat) (s' : St) (o : List Obs)
    (hu : s.ucalls.find? (·.j == j) = some { j := j, kind := .pub t true n, pc := .start })
    (h : (step s (.user j) dec)[k]? = some (s', o)) :
    ∃ r, o.getLast? = some (.ures j r) ∧ (s'.ucalls.find? (·.j == j)).map (·.pc) = some .done := by
  exact try_publish_step (.of_mem (List.mem_of_getElem? h)) hu rfl rfl

/-- cancel while running: the first step hands over exactly one NDEATH carrying the current bdSeq
through a non-blocking call and marks the node as stopping; cancel while not running does
nothing at all -/
theorem C20_cancel_ndeath (s : St) (j : Nat) (dec : Dec) (k : Nat) (s' : St) (o : List Obs)
    (hu : s.ucalls.find? (·.j == j) = some { j := j, kind := .cancel, pc := .start })
    (h : (step s (.user j) dec)[k]? = some (s', o)) :
    (s.running = true → ∃ dc, o = [.call s.calls.length .ndeath none none (some s.bdseq) true dc] ∧
        s'.stopping = true) ∧
    (s.running = false → o = [.ures j .cancelled] ∧ s'.calls = s.calls) := by
  exact cancel_start_step (.of_mem (List.mem_of_getElem? h)) hu rfl rfl

/-- … followed, once the stop signal is queued, by the disconnect (also non-blocking) -/
theorem C20_cancel_disconnect (s : St) (j : Nat) (dec : Dec) (k : Nat) (s' : St) (o : List Obs)
    (hu : s.ucalls.find? (·.j == j) = some { j := j, kind := .cancel, pc := .cancelDisc })
    (h : (step s (.user j) dec)[k]? = some (s', o)) :
    ∃ dc, o = [.call s.calls.length .disconnect none none none true dc, .ures j .cancelled] := by
  exact cancel_disc_step (.of_mem (List.mem_of_getElem? h)) hu rfl rfl

/-- once the run loop has returned the node is offline, unbirthed and not running -/
theorem C20_stopped_is_offline (cd : Nat) (acts : List Act) (s : St) (tr : List Obs)
    (h : runActs (init cd) acts = some (s, tr)) (hd : s.loop = .done) :
    s.online = false ∧ s.birthed = false ∧ s.running = false := by
  have hs := Stopped_of_Inv (Inv_reach h) hd
  exact ⟨hs.online, hs.birthed, hs.running⟩

/-- … and stays so: from then on, whatever happens (new events, publishes through any handle,
cancels, device requests, resolutions), no sequence-bearing message, no SUB, no NBIRTH and no
NDEATH is ever handed over again (only the disconnects of cancels that were still waiting), and the
node stays offline and unbirthed, so every publish started from then on is refused
(`C01_node_publish_refused`, `C01_device_publish_refused`) -/
theorem C20_nothing_after_stop (cd : Nat) (acts more : List Act) (s s' : St) (tr tr' : List Obs)
    (h : runActs (init cd) acts = some (s, tr)) (hd : s.loop = .done)
    (h' : runActs s more = some (s', tr')) :
    (∀ o ∈ tr', ∀ id k dv sq bd t dc, o = Obs.call id k dv sq bd t dc → k = .disconnect) ∧
    s'.online = false ∧ s'.birthed = false := by
  obtain ⟨h1, h2, h3⟩ := after_stop (Inv_reach h) hd h'
  have hs := Stopped_of_Inv h2 h3
  exact ⟨onlyDisc_spec h1, hs.online, hs.birthed⟩

/-- **Termination, partial.** Once cancel has signalled the stop, if no client call stays parked,
no user callback stays parked and the 1 s timer has elapsed, the run loop can always finish: there
is a finite schedule of task steps (and of time passing) after which it has returned. (`_partial`: existence of a
terminating schedule from every such state; that the tokio scheduler actually runs the tasks and
fires the timer is runtime behaviour outside the model.) -/
theorem C20_termination_partial (cd : Nat) (acts : List Act) (s : St) (tr : List Obs)
    (h : runActs (init cd) acts = some (s, tr))
    (hstop : s.stop = true ∨ s.loop = .stopCheck ∨ s.loop = .stopPolling ∨ (∃ o, s.loop = .stopSendCs o) ∨
             (∃ o, s.loop = .stopAwaitWill o) ∨ (∃ o, s.loop = .forceSendCs o) ∨ (∃ o, s.loop = .forceAwaitWill o) ∨
             s.loop = .sendStopped)
    (hstarted : s.loop ≠ .start)
    (hnopark : ∀ c ∈ s.calls, c.res.isSome = true) (hcb : s.nodeCbPark = false ∧ s.devCbPark = [])
    (htimer : ∀ dl, s.stopDeadline = some dl → dl ≤ s.wall) :
    ∃ sched s' tr', (∀ a ∈ sched, (∃ t dec k, a = Act.task t dec k) ∨ (∃ ms, a = Act.stim (.advance ms))) ∧
      runActs s sched = some (s', tr') ∧ s'.loop = .done := by
  have _ := htimer  -- not needed: the schedule may let time pass until the timer fires
  have he : Extra s := by
    refine ⟨hnopark, hcb.1, fun hm => ?_, hstarted⟩
    rcases hstop with h | h | h | ⟨o, h⟩ | ⟨o, h⟩ | ⟨o, h⟩ | ⟨o, h⟩ | h
    · exact h
    all_goals (rw [h] at hm; cases hm)
  exact terminate (Inv_reach h) he

end Srad.Eon
