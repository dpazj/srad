/-
C08 (supplement) — the sequential abstraction `Loop.Node` of the edge node, on which the closed-loop
theorems of `Props/C08.lean` rest, REFINES the task-level labelled transition system `Model/Eon`
(the model validated against the real `srad_eon::EoN` by trace admission and used for C01–C04, C20)
under the accepting client. Vocabulary (`Quiescent`, `Wf`, `absNode`, `Runs`, `projObs`): `Proofs/NodeRefine.lean`.

Each per-operation theorem says: from every quiescent well-formed state there is a schedule (the stimulus,
then the task steps in program order, the devices in list order; every client decision `.acc`) that ends in
a quiescent well-formed state, commutes with `absNode`, and hands over exactly the messages the abstract
operation returns; they hold for every value `i` of the ghost id counter. The device list is ARBITRARY: the
birth operations go by induction over it (`birthPhase`). The order in which the device tasks run is the
order of the list = the permutation parameter of `Loop.Node`; other interleavings of the LTS are other
values of that parameter.
-/
import SradModel.Proofs.NodeRefine

namespace Srad.Loop.Refine
open Srad

/-- `Event::Online` ↦ `Node.goOnline`. -/
theorem C08_node_refines_online (i ts : Nat) (s : Eon.St) (hq : Quiescent s) (hw : Wf s) :
    ∃ s' obs, Runs s s' obs ∧ Quiescent s' ∧ Wf s' ∧
      absNode (Node.goOnline ts (absNode i s)).1.nextId s' = (Node.goOnline ts (absNode i s)).1 ∧
      projObs obs = (Node.goOnline ts (absNode i s)).2.map projMsg :=
  online_refines i ts s hq hw

/-- `Event::Offline` ↦ `Node.goOffline`; the only hand-over is the new will (if the node was online). -/
theorem C08_node_refines_offline (i : Nat) (s : Eon.St) (hq : Quiescent s) (hw : Wf s) :
    ∃ s' obs, Runs s s' obs ∧ Quiescent s' ∧ Wf s' ∧
      absNode i s' = (absNode i s).goOffline.1 ∧
      projObs obs = (match (absNode i s).goOffline.2 with | some bd => [H.will bd] | none => []) := by
  obtain ⟨s', obs, h1, h2, h3, h4, h5⟩ := offline_refines i s hq hw
  refine ⟨s', obs, h1, h2, h3, ?_, h5⟩
  have : (offlineOut (absNode i s)).1.nextId = i := by
    cases h : s.online <;> simp [offlineOut, Node.goOffline, absNode, h]
  rw [this] at h4
  exact h4

/-- a blocking `NodeHandle::publish_metrics` ↦ `Node.pubNode`. -/
theorem C08_node_refines_pubNode (i ts : Nat) (s : Eon.St) (hq : Quiescent s) (hw : Wf s) :
    ∃ s' obs, Runs s s' obs ∧ Quiescent s' ∧ Wf s' ∧
      absNode (Node.pubNode ts (absNode i s)).1.nextId s' = (Node.pubNode ts (absNode i s)).1 ∧
      projObs obs = (Node.pubNode ts (absNode i s)).2.map projMsg :=
  pubNode_refines i ts s hq hw

/-- a blocking `DeviceHandle::publish_metrics` on device `d` (known or not, birthed or not) ↦ `Node.pubDev`. -/
theorem C08_node_refines_pubDev (d i ts : Nat) (s : Eon.St) (hq : Quiescent s) (hw : Wf s) :
    ∃ s' obs, Runs s s' obs ∧ Quiescent s' ∧ Wf s' ∧
      absNode (Node.pubDev d ts (absNode i s)).1.nextId s' = (Node.pubDev d ts (absNode i s)).1 ∧
      projObs obs = (Node.pubDev d ts (absNode i s)).2.map projMsg :=
  pubDev_refines d i ts s hq hw

/-- `DeviceHandle::enable` ↦ `Node.enable`. -/
theorem C08_node_refines_enable (d i ts : Nat) (s : Eon.St) (hq : Quiescent s) (hw : Wf s) :
    ∃ s' obs, Runs s s' obs ∧ Quiescent s' ∧ Wf s' ∧
      absNode (Node.enable d ts (absNode i s)).1.nextId s' = (Node.enable d ts (absNode i s)).1 ∧
      projObs obs = (Node.enable d ts (absNode i s)).2.map projMsg :=
  enable_refines d i ts s hq hw

/-- `DeviceHandle::disable` ↦ `Node.disable`. -/
theorem C08_node_refines_disable (d i ts : Nat) (s : Eon.St) (hq : Quiescent s) (hw : Wf s) :
    ∃ s' obs, Runs s s' obs ∧ Quiescent s' ∧ Wf s' ∧
      absNode (Node.disable d ts (absNode i s)).1.nextId s' = (Node.disable d ts (absNode i s)).1 ∧
      projObs obs = (Node.disable d ts (absNode i s)).2.map projMsg :=
  disable_refines d i ts s hq hw

/-- `NodeHandle::rebirth` ↦ `Node.rebirth`. -/
theorem C08_node_refines_rebirth (i ts : Nat) (s : Eon.St) (hq : Quiescent s) (hw : Wf s) :
    ∃ s' obs, Runs s s' obs ∧ Quiescent s' ∧ Wf s' ∧
      absNode (Node.rebirth ts (absNode i s)).1.nextId s' = (Node.rebirth ts (absNode i s)).1 ∧
      projObs obs = (Node.rebirth ts (absNode i s)).2.map projMsg :=
  rebirth_refines i ts s hq hw

/-- an NCMD with `Node Control/Rebirth = true` and a payload timestamp (cooldown 0) ↦ `Node.rebirth`. -/
theorem C08_node_refines_ncmd (i ts : Nat) (s : Eon.St) (hq : Quiescent s) (hw : Wf s) :
    ∃ s' obs, Runs s s' obs ∧ Quiescent s' ∧ Wf s' ∧
      absNode (Node.rebirth ts (absNode i s)).1.nextId s' = (Node.rebirth ts (absNode i s)).1 ∧
      projObs obs = (Node.rebirth ts (absNode i s)).2.map projMsg :=
  ncmd_refines i ts s hq hw

/-- **Refinement for operation sequences.** For every sequence of operations (each with the clock
reading it runs at) and every quiescent well-formed LTS state `s`: the LTS has a schedule in which
the client accepts every call that ends in a quiescent well-formed state `s'` whose abstraction is
the state the sequential model `Loop.Node` reaches (`runOps`) and whose hand-overs, in order, are
the messages the sequential model returns. -/
theorem C08_node_refines (ops : List (Op × Nat)) (i : Nat) (s : Eon.St) (hq : Quiescent s) (hw : Wf s) :
    ∃ s' obs, Runs s s' obs ∧ Quiescent s' ∧ Wf s' ∧
      absNode (runOps (absNode i s) ops).1.nextId s' = (runOps (absNode i s) ops).1 ∧
      projObs obs = (runOps (absNode i s) ops).2 :=
  ops_refine ops i s hq hw

/-- **From the freshly built node** (what the harness component `nodeabs` and `Sys.init` start from):
for pairwise distinct device names and every operation sequence, the LTS started in `Eon.init 0`
has an execution — register the devices, start `EoN::run`, then the schedules of the operations —
that is an `Eon.Reaches` execution (so C01–C04 and C20 apply to it), ends quiescent, abstracts to
the `Loop.Node` state after the sequence and hands over, after the initial will, exactly the
abstract messages. -/
theorem C08_node_refines_from_boot (names : List Nat) (hn : names.Nodup) (ops : List (Op × Nat)) :
    let n0 : Node := { devs := names.map fun d => { name := d } }
    ∃ s' tr, Eon.Reaches 0 s' tr ∧ Quiescent s' ∧
      absNode (runOps n0 ops).1.nextId s' = (runOps n0 ops).1 ∧
      projObs tr = H.will 0 :: (runOps n0 ops).2 := by
  intro n0
  obtain ⟨hq, hw, habs⟩ := boot_ok names hn
  obtain ⟨s', obs, hr, hq', _, ha, ho⟩ := ops_refine ops 0 (boot names) hq hw
  rw [habs] at ha ho
  refine ⟨s', _, reaches_runs (boot_reaches names hn) hr, hq', ha, ?_⟩
  rw [projObs_append, ho]
  rfl

/-- a quiescent state is stuck: no task can take a step, whatever the client would decide -/
theorem C08_quiescent_stuck (s : Eon.St) (hq : Quiescent s) (t : Eon.Task) (dec : Eon.Dec) :
    Eon.step s t dec = [] :=
  quiescent_stuck s hq t dec

/-- the hypotheses are satisfiable: the freshly built node with devices 1 and 2 is quiescent and well-formed -/
example : Quiescent (boot [1, 2]) ∧ Wf (boot [1, 2]) :=
  let h := boot_ok [1, 2] (by decide)
  ⟨h.1, h.2.1⟩

/-- six operations on the node with devices 1 and 2 (uids 0 and 1) -/
def demoOps : List (Op × Nat) :=
  [(.enable 1, 10), (.online, 11), (.pubNode, 12), (.pubDev 1, 13), (.ncmd, 14), (.offline, 15)]

/-- the schedule the proofs construct for `demoOps` -/
def demoActs : List Eon.Act :=
  [ -- enable 1 (offline: nothing to birth)
    .stim (.enable 1), .task (.dev 0) .acc 0,
    -- online: poll returns Online, forwarded; SUB; NBIRTH; birth_devices; device 1 births, device 2 is disabled
    .stim (.ev .online), .task .loop .acc 0, .task .loop .acc 0, .task .node .acc 0, .task .node .acc 0,
    .task .node .acc 0, .task .node .acc 0, .task (.dev 0) .acc 0, .task (.dev 0) .acc 0, .task (.dev 1) .acc 0,
    -- publish on the node, on device 1
    .stim (.pub 1 .node false 1), .task (.user 1) .acc 0,
    .stim (.pub 2 (.dev 1) false 1), .task (.user 2) .acc 0,
    -- NCMD rebirth
    .stim (.ev (.ncmd true true)), .task .loop .acc 0, .task .loop .acc 0, .task .node .acc 0, .task .node .acc 0,
    .task .node .acc 0, .task .node .acc 0, .task (.dev 0) .acc 0, .task (.dev 0) .acc 0, .task (.dev 1) .acc 0,
    -- offline: new will, devices die silently
    .stim (.ev .offline), .task .loop .acc 0, .task .node .acc 0, .task .loop .acc 0, .task .loop .acc 0,
    .task (.dev 0) .acc 0, .task (.dev 1) .acc 0 ]

/-- what the sequential model does on `demoOps`: NBIRTH(bd 0), DBIRTH d1 seq 1, NDATA seq 2, DDATA d1
seq 3, NBIRTH(bd 0), DBIRTH d1 seq 1, then the will with bdSeq 1 -/
example :
    (runOps { devs := [{ name := 1 }, { name := 2 }] } demoOps).2 =
      [.call .nbirth none (some 0) (some 0), .call .dbirth (some 1) (some 1) none, .call .ndata none (some 2) none,
       .call .ddata (some 1) (some 3) none, .call .nbirth none (some 0) (some 0), .call .dbirth (some 1) (some 1) none,
       .will 1] := by decide

/-- both models run on the concrete sequence: the LTS schedule is enabled, every action is an
accepted one, and the abstraction of its final state and its projected hand-overs are those of `Loop.Node` -/
example :
    demoActs.all okAct = true ∧
    (Eon.runActs (boot [1, 2]) demoActs).map (fun r => (absNode 6 r.1, projObs r.2)) =
      some (runOps { devs := [{ name := 1 }, { name := 2 }] } demoOps) := by decide

end Srad.Loop.Refine
