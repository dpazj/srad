import SradModel.Model.TemplSpec

namespace Srad.Templ
open Srad.Codec (Bytes Res Err DT PV KV)

theorem validDatatype_templateCode : validDatatype templateCode = true := by decide


/-- what the checker establishes about one metric -/
def Good (has : Bytes → Bool) (m : Metric) : Prop := WF m ∧ ∀ r, Nests m r → has r = true

/-- which error, and why: `UnregisteredMetric` only for a nested template that is not registered,
`InvalidDefinition` only for a malformed metric -/
def BadBecause (has : Bytes → Bool) (ms : List Metric) (e : RegErr) : Prop :=
  (e = .unregistered ∧ ∃ r, (∃ m ∈ ms, Nests m r) ∧ has r = false) ∨
  (e = .invalidDefinition ∧ ¬ ∀ m ∈ ms, WF m)

/-- what an answer of the checker about the metrics `ms` means -/
def Verdict (has : Bytes → Bool) (ms : List Metric) : Except RegErr Unit → Prop
  | .ok _ => ∀ m ∈ ms, Good has m
  | .error e => BadBecause has ms e

/-- a verdict about `ms` carries over to a longer list `ms'`: an error names its culprit, which is
still there; an acceptance speaks of every metric, so for `ms'` it has to be supplied (`hok`) -/
theorem Verdict.mono {has : Bytes → Bool} {ms ms' : List Metric} {res : Except RegErr Unit}
    (hok : res = .ok () → ∀ m ∈ ms', Good has m) (hsub : ∀ m ∈ ms, m ∈ ms')
    (h : Verdict has ms res) : Verdict has ms' res := by
  cases res with
  | ok u => exact hok rfl
  | error e =>
    rcases h with ⟨he, r, ⟨m, hm, hn⟩, hh⟩ | ⟨he, hw⟩
    · exact .inl ⟨he, r, ⟨m, hsub m hm, hn⟩, hh⟩
    · exact .inr ⟨he, fun w => hw fun m hm => w m (hsub m hm)⟩

theorem verdict_invalid {has : Bytes → Bool} {m : Metric} (h : ¬ WF m) :
    Verdict has [m] (.error .invalidDefinition) :=
  .inr ⟨rfl, fun w => h (w m (List.mem_singleton_self m))⟩

theorem verdict_good {has : Bytes → Bool} {m : Metric} (h : Good has m) :
    Verdict has [m] (.ok ()) :=
  fun _ hm => List.mem_singleton.1 hm ▸ h

mutual
theorem checkMetric_spec (has : Bytes → Bool) : (m : Metric) → Verdict has [m] (checkMetric has m)
  | .plain rest dt val => by
    unfold checkMetric
    split
    · exact verdict_invalid nofun
    · split
      · next hv => exact verdict_invalid fun h => by cases h with | plain hv' _ => simp [hv'] at hv
      · split
        · next hv hc => exact verdict_good ⟨.plain (by simpa using hv) hc, nofun⟩
        · next hc => exact verdict_invalid fun h => by cases h; contradiction
  | .templ rest dt v ref d ms ps => by
    unfold checkMetric
    split
    · exact verdict_invalid nofun
    · split
      · next hv =>
        refine verdict_invalid fun h => ?_
        cases h with
        | skipped hv' _ => simp [hv'] at hv
        | templ _ => simp [validDatatype_templateCode] at hv
      · split
        · next hv hc =>
          exact verdict_good ⟨.skipped (by simpa using hv) hc, fun r h => by cases h <;> exact absurd rfl hc⟩
        · next hc =>
          have hc := Decidable.not_not.1 hc
          subst hc
          split
          · exact verdict_invalid fun h => by cases h; contradiction
          · next r =>
            split
            · next hr =>
              exact .inl ⟨rfl, r, ⟨_, List.mem_singleton_self _, .here⟩, by simpa using hr⟩
            · next hr =>
              have hr : has r = true := by simpa using hr
              -- the answer about the nested metrics is the answer about this metric
              have h := checkMetrics_spec has ms
              generalize checkMetrics has ms = res at h ⊢
              cases res with
              | ok u =>
                refine verdict_good ⟨.templ fun m hm => (h m hm).1, fun r' hn => ?_⟩
                cases hn with
                | here => exact hr
                | deeper hm hn => exact (h _ hm).2 _ hn
              | error e =>
                rcases h with ⟨he, r', ⟨m, hm, hn⟩, hh⟩ | ⟨he, hw⟩
                · exact .inl ⟨he, r', ⟨_, List.mem_singleton_self _, .deeper hm hn⟩, hh⟩
                · refine .inr ⟨he, fun w => ?_⟩
                  cases w _ (List.mem_singleton_self _) with
                  | skipped _ h => exact absurd rfl h
                  | templ h => exact hw h
theorem checkMetrics_spec (has : Bytes → Bool) : (ms : List Metric) →
    Verdict has ms (checkMetrics has ms)
  | [] => nofun
  | m :: t => by
    have hm := checkMetric_spec has m
    have ht := checkMetrics_spec has t
    unfold checkMetrics
    split
    · next e he => rw [he] at hm; exact hm.mono nofun (by simp)
    · next he =>
      rw [he] at hm
      exact ht.mono (fun hres => by rw [hres] at ht; exact List.forall_mem_cons.2 ⟨hm m (List.mem_singleton_self m), ht⟩)
        fun _ h => List.mem_cons_of_mem _ h
end

theorem Verdict.ok_iff {has : Bytes → Bool} {ms : List Metric} {res : Except RegErr Unit}
    (h : Verdict has ms res) : res = .ok () ↔ ∀ m ∈ ms, Good has m := by
  cases res with
  | ok u => exact ⟨fun _ => h, fun _ => rfl⟩
  | error e =>
    refine ⟨nofun, fun hg => ?_⟩
    rcases h with ⟨_, r, ⟨m, hm, hn⟩, hh⟩ | ⟨_, hw⟩
    · exact absurd ((hg m hm).2 r hn) (by simp [hh])
    · exact absurd (fun m hm => (hg m hm).1) hw

theorem checkMetric_ok_iff (has : Bytes → Bool) : (m : Metric) →
    (checkMetric has m = .ok () ↔ Good has m) :=
  fun m => (checkMetric_spec has m).ok_iff.trans List.forall_mem_singleton

theorem checkMetrics_ok_iff (has : Bytes → Bool) (ms : List Metric) :
    checkMetrics has ms = .ok () ↔ ∀ m ∈ ms, Good has m :=
  (checkMetrics_spec has ms).ok_iff

theorem checkMetrics_err (has : Bytes → Bool) (ms : List Metric) (e : RegErr)
    (h : checkMetrics has ms = .error e) : BadBecause has ms e := by
  have := checkMetrics_spec has ms
  rwa [h] at this

theorem checkMetric_err (has : Bytes → Bool) : (m : Metric) → ∀ e, checkMetric has m = .error e →
    (e = .unregistered ∧ ∃ r, Nests m r ∧ has r = false) ∨ (e = .invalidDefinition ∧ ¬ WF m) := by
  intro m e h
  have hb := checkMetric_spec has m
  rw [h] at hb
  simpa [Verdict, BadBecause] using hb

theorem checkMetrics_cases (has : Bytes → Bool) (ms : List Metric) :
    checkMetrics has ms = .ok () ∨ checkMetrics has ms = .error .unregistered ∨
    checkMetrics has ms = .error .invalidDefinition := by
  cases h : checkMetrics has ms with
  | ok u => exact .inl rfl
  | error e => rcases checkMetrics_err has ms e h with ⟨rfl, _⟩ | ⟨rfl, _⟩ <;> simp

/-! ### registry -/

theorem has_nil (n : Bytes) : Registry.has [] n = false := rfl

theorem has_iff (r : Registry) (n : Bytes) : r.has n = true ↔ n ∈ r.names := by
  simp [Registry.has, Registry.names, List.any_eq_true]

theorem has_append (r s : Registry) (n : Bytes) : (r ++ s).has n = (r.has n || s.has n) :=
  List.any_append

theorem has_single (m n : Bytes) (d : TDef) : Registry.has [(m, d)] n = (m == n) := by
  simp [Registry.has]

theorem has_deregister (r : Registry) (n m : Bytes) :
    (deregister r n).has m = (r.has m && !(m == n)) := by
  simp only [deregister, Registry.has, List.any_filter]
  induction r with
  | nil => rfl
  | cons e t ih =>
    simp only [List.any_cons, ih]
    cases hm : e.1 == m with
    | false => simp
    | true => cases eq_of_beq hm; simp

theorem get?_eq_find? (r : Registry) (n : Bytes) :
    r.get? n = (r.find? (·.1 == n)).map (·.2) := by
  induction r with
  | nil => rfl
  | cons e t ih => rw [Registry.get?, List.find?_cons, ih]; cases e.1 == n <;> rfl

theorem get?_none_iff (r : Registry) (n : Bytes) : r.get? n = none ↔ r.has n = false := by
  simp [get?_eq_find?, Registry.has]

theorem get?_append (r s : Registry) (n : Bytes) :
    (r ++ s).get? n = match r.get? n with | some d => some d | none => s.get? n := by
  simp only [get?_eq_find?, List.find?_append]
  cases List.find? (·.1 == n) r <;> rfl

theorem get?_single (m n : Bytes) (d : TDef) :
    Registry.get? [(m, d)] n = if m == n then some d else none := rfl

theorem get?_deregister (r : Registry) (n m : Bytes) :
    (deregister r n).get? m = if m == n then none else r.get? m := by
  simp only [get?_eq_find?, deregister, List.find?_filter]
  cases hmn : m == n with
  | true => cases eq_of_beq hmn; simp
  | false =>
    congr 2
    funext a
    cases ha : a.1 == m with
    | false => simp
    | true => cases eq_of_beq ha; simp [hmn]

theorem register_ok_iff (r : Registry) (name : Bytes) (d : TDef) (r' : Registry) :
    register r name d = .ok r' ↔
      (reserved name = false ∧ r.has name = false ∧ d.WF ∧ (∀ ref, d.Nests ref → r.has ref = true))
      ∧ r' = r ++ [(name, d)] := by
  have hg : checkMetrics r.has d.metrics = .ok () ↔
      d.WF ∧ ∀ ref, d.Nests ref → r.has ref = true := by
    rw [checkMetrics_ok_iff]
    exact ⟨fun g => ⟨fun m hm => (g m hm).1, fun ref ⟨m, hm, hn⟩ => (g m hm).2 ref hn⟩,
      fun ⟨hw, hn⟩ m hm => ⟨hw m hm, fun ref h => hn ref ⟨m, hm, h⟩⟩⟩
  unfold register
  split
  · next h => simp [h]
  · next h =>
    split
    · next h2 => simp [h2]
    · next h2 =>
      split
      · next e he => simp [show ¬ (d.WF ∧ _) from fun hd => by rw [hg.2 hd] at he; cases he]
      · next he =>
        rw [Except.ok.injEq]
        exact ⟨fun e => ⟨⟨by simpa using h, by simpa using h2, hg.1 he⟩, e.symm⟩, fun e => e.2.symm⟩

theorem register_err (r : Registry) (name : Bytes) (d : TDef) (e : RegErr)
    (h : register r name d = .error e) :
    (e = .invalidName ∧ reserved name = true) ∨
    (e = .duplicate ∧ reserved name = false ∧ r.has name = true) ∨
    (reserved name = false ∧ r.has name = false ∧ BadBecause r.has d.metrics e) := by
  unfold register at h
  split at h
  · next h1 => cases h; exact .inl ⟨rfl, h1⟩
  · next h1 =>
    split at h
    · next h2 => cases h; exact .inr (.inl ⟨rfl, by simpa using h1, h2⟩)
    · next h2 =>
      split at h
      · next he => cases h; exact .inr (.inr ⟨by simpa using h1, by simpa using h2, checkMetrics_err _ _ _ he⟩)
      · cases h

theorem applyOp_refused {r : Registry} {n : Bytes} {d : TDef} {e : RegErr}
    (h : register r n d = .error e) : applyOp r (.register n d) = r := by
  rw [applyOp, h]

theorem mem_announced (r : Registry) (n : Bytes) (mv : MV) :
    (n, mv) ∈ announced r ↔ ∃ d, (n, d) ∈ r ∧ mv = defToMV d := by
  simp only [announced, List.mem_map, Prod.mk.injEq]
  constructor
  · rintro ⟨⟨n', d⟩, he, rfl, rfl⟩; exact ⟨d, he, rfl⟩
  · rintro ⟨d, he, rfl⟩; exact ⟨(n, d), he, rfl, rfl⟩

/-! ### invariants of the registry under histories of calls -/

theorem applyOps_keeps {P : Registry → Prop} {ops : List Op}
    (hstep : ∀ o ∈ ops, ∀ r, P r → P (applyOp r o)) {r : Registry} (h : P r) :
    P (applyOps r ops) := by
  induction ops generalizing r with
  | nil => exact h
  | cons o t ih =>
    exact ih (fun o' ho => hstep o' (List.mem_cons_of_mem _ ho)) (hstep o List.mem_cons_self r h)

theorem applyOp_register_keeps {P : Registry → Prop} {r : Registry} {n : Bytes} {d : TDef} (h : P r)
    (hreg : ∀ r', register r n d = .ok r' → P r') : P (applyOp r (.register n d)) := by
  rw [applyOp]
  split
  · next h' => exact hreg _ h'
  · exact h

theorem closed_nil : Closed [] := nofun

theorem closed_register (r r' : Registry) (n : Bytes) (d : TDef) (hc : Closed r)
    (h : register r n d = .ok r') : Closed r' := by
  obtain ⟨⟨_, _, _, hn⟩, rfl⟩ := (register_ok_iff r n d r').1 h
  intro e he ref hr
  rw [has_append]
  rcases List.mem_append.1 he with he | he
  · simp [hc e he ref hr]
  · cases List.mem_singleton.1 he
    simp [hn ref hr]

/-- the call is not a `deregister`: the calls under which the registry stays closed under nesting
(`closed_applyOps`); removing an inner template would leave the outer one dangling -/
def Op.keeps : Op → Bool
  | .deregister _ => false
  | _ => true

theorem closed_applyOps (ops : List Op) (r : Registry) (hc : Closed r)
    (hk : ∀ o ∈ ops, o.keeps = true) : Closed (applyOps r ops) :=
  applyOps_keeps (r := r) (fun o ho r hc =>
    match o, hk o ho with
    | .register n d, _ => applyOp_register_keeps hc fun r' => closed_register r r' n d hc
    | .clear, _ => closed_nil) hc

theorem registrations_keep (as : List (Bytes × TDef)) : ∀ o ∈ registrations as, o.keeps = true := by
  intro o ho
  obtain ⟨a, _, rfl⟩ := List.mem_map.1 ho
  rfl

theorem nestedBefore_nil : NestedBefore [] := by
  intro pre e post h
  cases pre <;> cases h

theorem nestedBefore_register (r r' : Registry) (n : Bytes) (d : TDef) (hb : NestedBefore r)
    (h : register r n d = .ok r') : NestedBefore r' := by
  obtain ⟨⟨_, _, _, hn⟩, rfl⟩ := (register_ok_iff r n d r').1 h
  intro pre e post heq ref hr
  rcases List.eq_nil_or_concat post with rfl | ⟨post', x, rfl⟩
  · obtain ⟨rfl, h4⟩ := List.append_inj' heq rfl
    cases h4
    exact hn ref hr
  · rw [List.concat_eq_append, ← List.cons_append, ← List.append_assoc] at heq
    exact hb pre e post' (List.append_inj' heq rfl).1 ref hr

theorem nestedBefore_applyRegs (as : List (Bytes × TDef)) (r : Registry) (hb : NestedBefore r) :
    NestedBefore (applyOps r (registrations as)) :=
  applyOps_keeps (r := r) (fun o ho r hb => by
    obtain ⟨a, _, rfl⟩ := List.mem_map.1 ho
    exact applyOp_register_keeps hb fun r' => nestedBefore_register r r' a.1 a.2 hb) hb

def NamesOk (r : Registry) : Prop := r.names.Nodup ∧ ∀ n ∈ r.names, reserved n = false

theorem namesOk_register (r r' : Registry) (n : Bytes) (d : TDef) (hk : NamesOk r)
    (h : register r n d = .ok r') : NamesOk r' := by
  obtain ⟨⟨hres, hdup, _, _⟩, rfl⟩ := (register_ok_iff r n d r').1 h
  have hnot : n ∉ r.names := fun hm => by rw [(has_iff r n).2 hm] at hdup; cases hdup
  have hn : (r ++ [(n, d)]).names = r.names ++ [n] := List.map_append
  rw [NamesOk, hn]
  constructor
  · simpa [List.nodup_append, hk.1] using fun a ha (e : a = n) => hnot (e ▸ ha)
  · intro m hm
    rcases List.mem_append.1 hm with hm | hm
    · exact hk.2 m hm
    · cases List.mem_singleton.1 hm; exact hres

theorem namesOk_deregister (r : Registry) (n : Bytes) (hk : NamesOk r) : NamesOk (deregister r n) :=
  have hsub : List.Sublist (deregister r n).names r.names := List.filter_sublist.map _
  ⟨hk.1.sublist hsub, fun m hm => hk.2 m (hsub.subset hm)⟩

theorem namesOk_applyOps (ops : List Op) (r : Registry) (hk : NamesOk r) : NamesOk (applyOps r ops) :=
  applyOps_keeps (r := r) (fun o _ r hk =>
    match o with
    | .register n d => applyOp_register_keeps hk fun r' => namesOk_register r r' n d hk
    | .deregister n => namesOk_deregister r n hk
    | .clear => ⟨List.nodup_nil, nofun⟩) hk

/-- every decoder looks at a metric value through its two markers only: a statement about all
metric values is checked on a non-template value and on the six marker combinations -/
@[elab_as_elim] theorem MV.byMarkers {motive : MV → Prop} (other : ∀ tok, motive (.other tok))
    (none_none : ∀ v ms ps, motive (.templ ⟨v, ms, ps, none, none⟩))
    (none_true : ∀ v ms ps, motive (.templ ⟨v, ms, ps, none, some true⟩))
    (none_false : ∀ v ms ps, motive (.templ ⟨v, ms, ps, none, some false⟩))
    (ref_none : ∀ v ms ps r, motive (.templ ⟨v, ms, ps, some r, none⟩))
    (ref_true : ∀ v ms ps r, motive (.templ ⟨v, ms, ps, some r, some true⟩))
    (ref_false : ∀ v ms ps r, motive (.templ ⟨v, ms, ps, some r, some false⟩)) (mv : MV) :
    motive mv := by
  cases mv with
  | other tok => exact other tok
  | templ t =>
    obtain ⟨v, ms, ps, ref, isDef⟩ := t
    cases ref <;> rcases isDef with _ | _ | _ <;> apply_assumption

end Srad.Templ
