/-
C05 — Host applies each node's messages in publisher order, exactly once.
-/
import SradModel.Proofs.HostSeq

namespace Srad.Host

/-- **Order, for every history** (duplicates, losses, any arrival order): the messages one step
applies carry consecutive sequence numbers starting at the expected one; unless the step ends in
staleness the expected number advances by exactly their count. Hence between an accepted NBIRTH
(which sets the expected number to 1, next theorem) and the next staleness the applied messages
carry 1, 2, 3, … (mod 256) with no gap, repeat or inversion. -/
theorem C05_applied_consecutive (c : Cfg) (s : St) (i : In) (now wall : Nat) (hinv : HostInv s)
    (hwf : i.WF) (hres : c.resequence = true) :
    (∀ k (hk : k < (appliedSeqs c s i).length),
        (appliedSeqs c s i)[k] = (s.reseq.next + k) % 256) ∧
    ((step c s i now wall).1.life = .birthed → (∀ ts bd id ans, i ≠ .nbirth ts bd id ans) →
        (step c s i now wall).1.reseq.next = (s.reseq.next + (appliedSeqs c s i).length) % 256) := by
  by_cases hr : ∃ seq ts m, i = .rmsg seq ts m
  · obtain ⟨seq, ts, m, rfl⟩ := hr
    obtain ⟨h3, h4⟩ := (handleRMsg_seqs c s seq ts m now hinv.1 hwf).2 hres
    refine ⟨h3, fun hl _ => ?_⟩
    rw [step_rmsg_eq] at hl ⊢
    cases hro : (handleRMsg c s seq ts m now).2.2 with
    | none => exact h4
    | some r =>
      simp only [hro] at hl ⊢
      obtain ⟨lr, he⟩ := issueRebirth_birthed c _ r now wall hl
      rw [he]; exact h4
  · have hnr : ∀ seq ts m, i ≠ .rmsg seq ts m := fun seq ts m h => hr ⟨seq, ts, m, h⟩
    have ha : appliedSeqs c s i = [] := by
      cases i <;> first | rfl | exact absurd rfl (hnr _ _ _)
    rw [ha]
    refine ⟨fun k hk => by simp at hk, fun hl hnb => ?_⟩
    rw [step_other_reseq c s i now wall hnb hnr hl]
    simp [Nat.mod_eq_of_lt hinv.1.1]

/-- an accepted NBIRTH restarts the sequence at 1 with an empty buffer; an NBIRTH that is not
strictly newer is ignored (C14) -/
theorem C05_nbirth_restarts (c : Cfg) (s : St) (ts bd id : Nat) (ans : Ans) (now wall : Nat)
    (hnew : s.birthTs < ts) (hok : ans = .ok) :
    (step c s (.nbirth ts bd id ans) now wall).1.reseq = Reseq.setNext Reseq.init 1 ∧
    (step c s (.nbirth ts bd id ans) now wall).1.life = .birthed ∧
    (step c s (.nbirth ts bd id ans) now wall).1.birthTs = ts := by
  simp [step_eq, raised, body, Nat.not_le.mpr hnew, hok]

/-- the number of store-touching effects of a step never exceeds the number of messages it
applied: nothing is applied twice within a step, nothing is invented -/
theorem C05_effects_bounded (c : Cfg) (s : St) (seq ts : Nat) (m : RMsg) (now wall : Nat)
    (hinv : HostInv s) (hseq : seq < 256) :
    ((step c s (.rmsg seq ts m) now wall).2.filter
        (fun e => match e with | .nodeData _ | .devData _ _ | .devBirth _ _ _ => true | _ => false)).length
      ≤ (appliedSeqs c s (.rmsg seq ts m)).length := by
  have hp : (fun e : Eff => match e with
      | .nodeData _ | .devData _ _ | .devBirth _ _ _ => true | _ => false) = isMsgEff := by
    funext e; cases e <;> rfl
  rw [hp]
  obtain ⟨h1, _⟩ := handleRMsg_seqs c s seq ts m now hinv.1 hseq
  rw [step_rmsg_eq]
  cases hro : (handleRMsg c s seq ts m now).2.2 with
  | none => exact h1
  | some r =>
    have : (issueRebirth c (handleRMsg c s seq ts m now).1 r now wall).2.filter isMsgEff = [] :=
      List.filter_eq_nil_iff.mpr (fun e he => by
        have := issueRebirth_staleish _ _ _ _ _ e he
        cases e <;> simp_all [isMsgEff, Eff.staleish])
    simp only [List.filter_append, this, List.append_nil]
    exact h1

/-- **Promptness and order for complete streams (and C07's "never requests a rebirth of a node
whose messages all arrive").** Start right after an accepted NBIRTH. Deliver the messages
`msgs 0, msgs 1, …` of the session (message `i` carries sequence number `(1+i) % 256`, as many
wraps as it takes) without duplicates in any order that keeps fewer than 256 numbers
outstanding, at arbitrary clock readings, the timer never firing (every gap closes in time). If
the publisher and the stores are well behaved — applying the messages in publish order raises no
reason — then the observable effects of the whole delivery are exactly the effects of applying
`msgs 0 … msgs (mex-1)` in publish order, where `mex` is the first message still missing: every
message is applied as soon as all its predecessors have arrived, in publisher order, once; no
rebirth is requested; the node stays birthed. -/
theorem C05_prompt_in_order (c : Cfg) (s0 : St) (ts : Nat → Nat) (msgs : Nat → RMsg)
    (clk : Nat → Nat × Nat) (arr : List Nat)
    (hres : c.resequence = true) (hinv : HostInv s0) (hb : s0.life = .birthed)
    (hstart : s0.reseq = Reseq.setNext Reseq.init 1) (htimer : s0.timer = .none)
    (hnodup : arr.Nodup) (hwin : Reseq.WindowOk arr) (hfresh : ∀ i ∈ arr, Fresh s0 (ts i))
    (hclean : (applyAll s0 ((List.range (Reseq.mexOf arr)).map msgs)).2.2 = none) :
    ((run c s0 (arr.map (sessEv ts msgs clk))).2.filter Eff.observable
        = (applyAll s0 ((List.range (Reseq.mexOf arr)).map msgs)).2.1) ∧
    Eff.ncmd ∉ (run c s0 (arr.map (sessEv ts msgs clk))).2 ∧
    (run c s0 (arr.map (sessEv ts msgs clk))).1.life = .birthed ∧
    (run c s0 (arr.map (sessEv ts msgs clk))).1.reseq.next = (1 + Reseq.mexOf arr) % 256 := by
  have _ := hinv; have _ := htimer   -- not needed by the proof
  have := prompt_take c s0 ts msgs clk arr hres hb hstart hnodup hwin hfresh hclean arr.length
    (Nat.le_refl _)
  rw [List.take_length] at this
  obtain ⟨hF, _, h5, h6, h7⟩ := this
  exact ⟨h6, h7, hF.life.trans hb, h5.2.2.1⟩

/-! ### non-vacuity: a session delivered as 1,3,0,2 (sequence numbers 2,4,1,3) -/
example :
    let c := exampleCfg (some 100) 0
    let s0 := (step c init (.nbirth 10 3 1 .ok) 10 10).1
    let msgs : Nat → RMsg := fun i => .ndata (100 + i) .ok
    ((run c s0 ([1, 3, 0, 2].map (sessEv (fun i => 11 + i) msgs (fun i => (20 + i, 20 + i))))).2.filter Eff.observable)
      = [.nodeData 100, .nodeData 101, .nodeData 102, .nodeData 103] := by decide

end Srad.Host
