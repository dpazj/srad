/-
M17 — the concrete hash behind metric aliases and device ids (`std::hash::DefaultHasher` =
SipHash-1-3, keys 0/0, `str` hashing = bytes ++ [0xff]): `Model/SipHash.lean`.

What this file proves:
* kernel-checked VALUES of the model on the witness names the harness uses for the alias-collision
  scenarios (defect D10): names whose low 32 hash bits are 0xFFFFFFFF / 0xFFFFFFFE / 0 / 1 and pairs of
  names that collide in the low 32 bits. The harness finds these by brute force against the real
  `DefaultHasher`; that the MODEL gives the same values is part of the tie (every `birth hash` line
  of every run is checked by the driver), here they are theorems about the model (`decide +kernel`:
  the whole computation is replayed by the kernel, no `native_decide`).
* the C11 alias theorems, which quantify over an arbitrary hash, instantiated with the concrete one,
  and the D10 scenario evaluated through the birth model with the concrete hash: with the repaired
  bump the two colliding node metrics get 0xFFFFFFFF and 0 (high half untouched), with the old
  `alias += 1` the second one is 0x1_0000_0000 = the first possible alias of device id 1.
* structure of the block processing for ALL inputs: whole 8-byte words are absorbed in order
  (`M17_absorb_block`), the tail handed to `finish` is shorter than 8 bytes and is the input's last
  `length % 8` bytes (`M17_tail`), the model is a function of the byte string only.
Axioms: `propext`, `Classical.choice`, `Quot.sound` at most.
-/
import SradModel.Model.SipHash
import SradModel.Model.Birth
import SradModel.Model.BirthSpec
import SradModel.Props.C11

namespace Srad.Sip
open Srad.Birth

/-- "aaa1lidyg" -/
def w_ffffffff_0 : List UInt8 := [0x61, 0x61, 0x61, 0x31, 0x6c, 0x69, 0x64, 0x79, 0x67]

/-- "daau821aq" -/
def w_ffffffff_1 : List UInt8 := [0x64, 0x61, 0x61, 0x75, 0x38, 0x32, 0x31, 0x61, 0x71]

/-- "daaxh4hmb" -/
def w_ffffffff_2 : List UInt8 := [0x64, 0x61, 0x61, 0x78, 0x68, 0x34, 0x68, 0x6d, 0x62]

/-- "aaa026ui7" -/
def w_zero_0 : List UInt8 := [0x61, 0x61, 0x61, 0x30, 0x32, 0x36, 0x75, 0x69, 0x37]

/-- "aaamf0u7z" -/
def w_zero_1 : List UInt8 := [0x61, 0x61, 0x61, 0x6d, 0x66, 0x30, 0x75, 0x37, 0x7a]

/-- "caai9nisy" -/
def w_zero_2 : List UInt8 := [0x63, 0x61, 0x61, 0x69, 0x39, 0x6e, 0x69, 0x73, 0x79]

/-- "eaagfroq1" -/
def w_one_0 : List UInt8 := [0x65, 0x61, 0x61, 0x67, 0x66, 0x72, 0x6f, 0x71, 0x31]

/-- "eaank6t2q" -/
def w_one_1 : List UInt8 := [0x65, 0x61, 0x61, 0x6e, 0x6b, 0x36, 0x74, 0x32, 0x71]

/-- "aaasmioiu" -/
def w_fffffffe_0 : List UInt8 := [0x61, 0x61, 0x61, 0x73, 0x6d, 0x69, 0x6f, 0x69, 0x75]

/-- "baazogsjt" -/
def w_fffffffe_1 : List UInt8 := [0x62, 0x61, 0x61, 0x7a, 0x6f, 0x67, 0x73, 0x6a, 0x74]

/-- "m45047" / "m100810" -/
def p0a : List UInt8 := [0x6d, 0x34, 0x35, 0x30, 0x34, 0x37]
def p0b : List UInt8 := [0x6d, 0x31, 0x30, 0x30, 0x38, 0x31, 0x30]

/-- "m108710" / "m125295" -/
def p1a : List UInt8 := [0x6d, 0x31, 0x30, 0x38, 0x37, 0x31, 0x30]
def p1b : List UInt8 := [0x6d, 0x31, 0x32, 0x35, 0x32, 0x39, 0x35]

/-- "m34988" / "m147416" -/
def p2a : List UInt8 := [0x6d, 0x33, 0x34, 0x39, 0x38, 0x38]
def p2b : List UInt8 := [0x6d, 0x31, 0x34, 0x37, 0x34, 0x31, 0x36]

/-- "m47567" / "m180839" -/
def p3a : List UInt8 := [0x6d, 0x34, 0x37, 0x35, 0x36, 0x37]
def p3b : List UInt8 := [0x6d, 0x31, 0x38, 0x30, 0x38, 0x33, 0x39]


def low32 (n : List UInt8) : Nat := hashNat n % 4294967296

/-- the names the D10 scenarios use hash, in the low 32 bits, to exactly the boundary values -/
theorem M17_boundary_witnesses :
    low32 w_ffffffff_0 = 0xFFFFFFFF ∧ low32 w_ffffffff_1 = 0xFFFFFFFF ∧ low32 w_ffffffff_2 = 0xFFFFFFFF ∧
    low32 w_fffffffe_0 = 0xFFFFFFFE ∧ low32 w_fffffffe_1 = 0xFFFFFFFE ∧
    low32 w_zero_0 = 0 ∧ low32 w_zero_1 = 0 ∧ low32 w_zero_2 = 0 ∧
    low32 w_one_0 = 1 ∧ low32 w_one_1 = 1 := by
  decide +kernel

/-- pairs of distinct names with the same low 32 hash bits (what makes the collision bump run) -/
theorem M17_colliding_pairs :
    (p0a ≠ p0b ∧ low32 p0a = low32 p0b) ∧ (p1a ≠ p1b ∧ low32 p1a = low32 p1b) ∧
    (p2a ≠ p2b ∧ low32 p2a = low32 p2b) ∧ (p3a ≠ p3b ∧ low32 p3a = low32 p3b) := by
  decide +kernel

/-- two full 64-bit values, as the real `DefaultHasher` reports them for "m45047" and "m100810" -/
theorem M17_full_values :
    hashNat p0a = 14132127212450542604 ∧ hashNat p0b = 8313847475983021068 := by
  decide +kernel

/-! ### block structure, for all inputs -/

/-- a whole 8-byte word at the front is absorbed, then the rest is processed -/
theorem M17_absorb_block (fuel : Nat) (s : St) (w rest : List UInt8) (hw : w.length = 8) :
    absorbAll (fuel + 1) s (w ++ rest) = absorbAll fuel (absorb s (leWord w)) rest := by
  have h1 : ¬ (w ++ rest).length < 8 := by simp [hw]
  have h2 : (w ++ rest).take 8 = w := by
    rw [List.take_append_of_le_length (by omega)]; exact List.take_of_length_le (by omega)
  have h3 : (w ++ rest).drop 8 = rest := by
    rw [List.drop_append_of_le_length (by omega)]
    simp [List.drop_of_length_le (Nat.le_of_eq hw)]
  simp only [absorbAll, h1, if_false, h2, h3]

/-- with the fuel `sip13` supplies, what reaches `finish` is the last `length % 8` bytes of the input:
nothing is dropped and nothing longer than 7 bytes is left over -/
theorem M17_tail (s : St) (bs : List UInt8) (fuel : Nat) (hf : bs.length / 8 < fuel) :
    (absorbAll fuel s bs).2 = bs.drop (bs.length - bs.length % 8) ∧
    (absorbAll fuel s bs).2.length = bs.length % 8 := by
  induction fuel generalizing s bs with
  | zero => omega
  | succ n ih =>
    rw [absorbAll]
    by_cases hl : bs.length < 8
    · rw [if_pos hl, Nat.mod_eq_of_lt hl, Nat.sub_self]
      exact ⟨rfl, rfl⟩
    · have hl' : 8 ≤ bs.length := Nat.le_of_not_lt hl
      have hd : (bs.drop 8).length = bs.length - 8 := List.length_drop
      have hm : (bs.length - 8) % 8 = bs.length % 8 := (Nat.mod_eq_sub_mod hl').symm
      have hf' : (bs.drop 8).length / 8 < n := by
        rw [Nat.div_eq_sub_div (by decide) hl'] at hf
        exact hd ▸ Nat.lt_of_succ_lt_succ hf
      obtain ⟨i1, i2⟩ := ih (absorb s (leWord (bs.take 8))) (bs.drop 8) hf'
      rw [if_neg hl]
      refine ⟨?_, by rw [i2, hd, hm]⟩
      rw [i1, hd, hm, List.drop_drop]
      have := Nat.mod_le (bs.length - 8) 8
      exact congrArg (bs.drop ·) (by omega)

/-- `sip13` in terms of the tail lemma: the value is `finish` applied to the state after the whole words and
the last `length % 8` bytes -/
theorem M17_sip13_shape (k0 k1 : UInt64) (bs : List UInt8) :
    sip13 k0 k1 bs =
      finish (absorbAll (bs.length / 8 + 1) (init k0 k1) bs).1
        (bs.drop (bs.length - bs.length % 8)) bs.length := by
  have := (M17_tail (init k0 k1) bs (bs.length / 8 + 1) (by omega)).1
  unfold sip13
  rw [← this]

/-- string hashing is byte hashing of the name followed by 0xff (so a name and the same name with a trailing
0xff byte written as data are told apart only by the length byte - as in Rust) -/
theorem M17_str_is_bytes_ff (n : List UInt8) : defaultHashStr n = defaultHashBytes (n ++ [0xff]) := rfl

/-! ### the C11 alias theorems at the concrete hash -/

variable {U : Type}

/-- `C11_alias_unique_across` with the real hash plugged in (repaired bump, so no `NoCarry` hypothesis): no
alias of an NBIRTH is an alias of a DBIRTH, and DBIRTHs of different devices share none -/
theorem M17_alias_unique_across_concrete (cfg : Cfg) (hc : cfg.inHalf = true) (now bdseq : Nat)
    (reg : List (Name × U)) (hreg : RegOk reg) (dm : DevMap) (hdm : DevOk dm)
    (mgrN : Mgr U) (msN : List (Metric U)) (resN : List (Res MetricId))
    (hbN : nodeBirth cfg hashNat now bdseq reg mgrN = .ok (msN, resN))
    (d1 d2 : Name × Nat) (hd1 : d1 ∈ dm.devs) (hd2 : d2 ∈ dm.devs)
    (now1 now2 : Nat) (reg1 reg2 : List Name) (mgr1 mgr2 : Mgr U)
    (ms1 ms2 : List (Metric U)) (res1 res2 : List (Res MetricId))
    (hb1 : deviceBirth cfg hashNat now1 d1.2 reg1 mgr1 = .ok (ms1, res1))
    (hb2 : deviceBirth cfg hashNat now2 d2.2 reg2 mgr2 = .ok (ms2, res2)) :
    (∀ a ∈ aliasesOf msN, a ∉ aliasesOf ms1) ∧
    (d1.1 ≠ d2.1 → ∀ a ∈ aliasesOf ms1, a ∉ aliasesOf ms2) :=
  C11_alias_unique_across cfg hashNat now bdseq reg hreg dm hdm mgrN msN resN (Or.inl hc) hbN
    d1 d2 hd1 hd2 now1 now2 reg1 reg2 mgr1 mgr2 (Or.inl hc) (Or.inl hc) ms1 ms2 res1 res2 hb1 hb2

/-- device ids under the real hash: any register/unregister history leaves one non-zero id below 2^32 per
name, pairwise distinct -/
theorem M17_device_ids_concrete (cfg : Cfg) (ops : List DevOp) :
    DevOk (ops.foldl (applyDevOp cfg hashNat) DevMap.empty) :=
  C11_device_ids cfg hashNat ops

/-! ### the D10 scenario evaluated with the concrete hash -/

def cfgRepaired : Cfg := { dbg := true, ovf := true, inHalf := true }
def cfgOld : Cfg := { dbg := true, ovf := true, inHalf := false }

/-- a node initializer that already holds the alias of the first colliding metric -/
def afterFirst (cfg : Cfg) : Res (MetricId × Init Unit) :=
  createToken cfg hashNat { obj := 0, registry := [] } w_ffffffff_0 true

/-- the alias a `createToken` call hands out (`none`: no alias / error / panic) -/
def aliasOf {U} : Res (MetricId × Init U) → Option Nat
  | .ok (.alias a, _) => some a
  | _ => none

/-- the alias of a second aliased metric created right after a first one -/
def secondAlias (cfg : Cfg) (first second : Name) : Option Nat :=
  match createToken cfg hashNat ({ obj := 0, registry := [] } : Init Unit) first true with
  | .ok (_, st) => aliasOf (createToken cfg hashNat st second true)
  | _ => none

/-- Repaired code: the first metric gets 0xFFFFFFFF, the second (same low hash) wraps to 0 INSIDE the low half;
old code (`alias += 1` on the u64): the second gets 0x1_0000_0000, which is the alias device id 1 gives a
metric hashing to 0 - the collision of finding D10. -/
theorem M17_d10_scenario :
    aliasOf (afterFirst cfgRepaired) = some 0xFFFFFFFF ∧
    secondAlias cfgRepaired w_ffffffff_0 w_ffffffff_1 = some 0 ∧
    secondAlias cfgOld w_ffffffff_0 w_ffffffff_1 = some 0x100000000 ∧
    aliasOf (createToken cfgOld hashNat ({ obj := 1, registry := [] } : Init Unit) w_zero_0 true)
      = some 0x100000000 := by
  decide +kernel

end Srad.Sip
