/-
Lemmas behind C17 about the derive interpreter. Every law is an induction over the field list in
lock step with the values (the functional induction principle of `agree` or `wt`). The loops of
`try_from` / `update_from_instance` look each entry up by name in the WHOLE field list; wire names
are unique (`wf`), so the `_map` lemmas peel the head field off a loop that does not address it.
-/
import SradModel.Model.DeriveSpec
import SradModel.Proofs.Codec
namespace Srad.Derive
open Srad.Codec

@[simp] theorem WMs.isEmpty_nil : WMs.nil.isEmpty = true := rfl
@[simp] theorem WMs.isEmpty_val (n d v r) : (WMs.val n d v r).isEmpty = false := rfl
@[simp] theorem WMs.isEmpty_templ (n d i r v s p rest) : (WMs.templ n d i r v s p rest).isEmpty = false := rfl

theorem conv_toWire (k : SKind) (v : Option SV) (h : wtCell k v = true) :
    convScalar k (toWire k.ty v) = some v := by
  cases v with
  | none => simp only [toWire, Option.map_none, convScalar, show k.isOpt = true from h, ↓reduceIte]
  | some x => simp only [toWire, Option.map_some, convScalar, scalar_roundtrip _ _ h]


theorem diff_empty_eq_agree (fs : Fields) (b a : Vals) :
    ((diffParams fs b a).isEmpty && (diffMetrics fs b a).isEmpty) = agree fs b a := by
  fun_induction agree fs b a with
  | case1 => rfl
  | case2 w skip k d rest vb bs va as ih =>
    simp only [diffParams, diffMetrics, ← ih]
    cases skip <;> cases k.isParam <;> cases optEq k.ty vb va <;> simp
  | case3 w skip ref ver sub d rest sb bs sa as ihs ih =>
    simp only [diffParams, diffMetrics, mkDiff, ← ih, ← ihs]
    cases skip <;> cases (diffParams sub sb sa).isEmpty && (diffMetrics sub sb sa).isEmpty <;>
      simp
  | case4 => simp only [diffParams, diffMetrics]; rfl

theorem mkDiff_diff (ref : Name) (ver : Option Name) (fs : Fields) (b a : Vals) :
    mkDiff ref ver (diffMetrics fs b a) (diffParams fs b a) =
      if agree fs b a then none
      else some { ref := ref, ver := ver, metrics := diffMetrics fs b a, params := diffParams fs b a } := by
  rw [mkDiff, diff_empty_eq_agree]

theorem diffMetrics_nested (w : Name) (skip : Bool) (ref : Name) (ver : Option Name) (sub : Fields)
    (d : Vals) (rest : Fields) (sb bs sa as : Vals) :
    diffMetrics (.nested w skip ref ver sub d rest) (.nest sb bs) (.nest sa as) =
      if !skip && !agree sub sb sa then
        .templ (some w) (some templateCode) (some false) (some ref) ver (diffMetrics sub sb sa)
          (diffParams sub sb sa) (diffMetrics rest bs as)
      else diffMetrics rest bs as := by
  rw [diffMetrics, mkDiff_diff]
  cases skip <;> cases agree sub sb sa <;> rfl



/-- the cells of the value line up with the fields -/
def shaped : Fields → Vals → Bool
  | .nil, .nil => true
  | .scalar _ _ _ _ rest, .s _ vs => shaped rest vs
  | .nested _ _ _ _ _ _ rest, .nest _ vs => shaped rest vs
  | _, _ => false

theorem shaped_of_wt (fs : Fields) (a : Vals) (h : wt fs a = true) : shaped fs a = true := by
  fun_induction shaped fs a with
  | case1 => rfl
  | case2 _ _ _ _ rest _ vs ih => rw [wt, Bool.and_eq_true] at h; exact ih h.2
  | case3 _ _ _ _ _ _ rest _ vs ih => rw [wt, Bool.and_eq_true] at h; exact ih h.2
  | case4 fs a h1 h2 h3 => rw [wt] at h <;> assumption

theorem shaped_defaults (fs : Fields) : shaped fs (defaults fs) = true := by
  induction fs with
  | nil => rfl
  | scalar _ _ _ _ _ ih => exact ih
  | nested _ _ _ _ _ _ _ _ ih => exact ih

theorem instMetrics_decls (fs : Fields) (a : Vals) (h : shaped fs a = true) :
    (instMetrics fs a).decls = metricDecls fs := by
  fun_induction shaped fs a with
  | case1 => rfl
  | case2 _ _ _ _ _ _ _ ih => simp only [instMetrics, metricDecls]; split <;> simp only [WMs.decls, ih h]
  | case3 _ _ _ _ _ _ _ _ _ ih => simp only [instMetrics, metricDecls]; split <;> simp only [WMs.decls, ih h]
  | case4 => cases h

theorem instParams_decls (fs : Fields) (a : Vals) (h : shaped fs a = true) :
    (instParams fs a).map WP.decl = paramDecls fs := by
  fun_induction shaped fs a with
  | case1 => rfl
  | case2 _ _ _ _ _ _ _ ih =>
    simp only [instParams, paramDecls]; split <;> simp only [List.map_cons, WP.decl, ih h]
  | case3 _ _ _ _ _ _ _ _ _ ih => simp only [instParams, paramDecls, ih h]
  | case4 => cases h

theorem names_rest {n : Name} {rest : Fields} (skip : Bool) (w : Name) (h : n ∈ names rest) :
    n ∈ (if skip then names rest else w :: names rest) := by
  cases skip with
  | true => exact h
  | false => exact List.mem_cons_of_mem _ h

/-- an entry of the declarations is the head field's — then the head is not skipped and its wire
name is a name — or one of the rest's -/
theorem metricDecls_names (fs : Fields) (n : Name) (dt : Option Nat)
    (h : (some n, dt) ∈ metricDecls fs) : n ∈ names fs := by
  induction fs with
  | nil => cases h
  | scalar w skip k d rest ih =>
    rw [metricDecls] at h; rw [names]
    split at h
    · next hc =>
      rcases List.mem_cons.1 h with e | h
      · cases e; cases skip <;> first | exact List.mem_cons_self | cases hc
      · exact names_rest skip w (ih h)
    · exact names_rest skip w (ih h)
  | nested w skip ref ver sub d rest _ ih =>
    rw [metricDecls] at h; rw [names]
    split at h
    · next hc =>
      rcases List.mem_cons.1 h with e | h
      · cases e; cases skip <;> first | exact List.mem_cons_self | cases hc
      · exact names_rest skip w (ih h)
    · exact names_rest skip w (ih h)

theorem paramDecls_names (fs : Fields) (n : Name) (dt : Option Nat)
    (h : (some n, dt) ∈ paramDecls fs) : n ∈ names fs := by
  induction fs with
  | nil => cases h
  | scalar w skip k d rest ih =>
    rw [paramDecls] at h; rw [names]
    split at h
    · next hc =>
      rcases List.mem_cons.1 h with e | h
      · cases e; cases skip <;> first | exact List.mem_cons_self | cases hc
      · exact names_rest skip w (ih h)
    · exact names_rest skip w (ih h)
  | nested w skip ref ver sub d rest _ ih =>
    rw [paramDecls] at h; rw [names]
    exact names_rest skip w (ih h)

theorem mem_ite_cons {α} {c c' : Bool} {x : α} {l m : List α} (hc : c = true → c' = true)
    (hl : ∀ e ∈ l, e ∈ m) : ∀ e ∈ (if c then x :: l else l), e ∈ (if c' then x :: m else m) := by
  intro e he
  cases c with
  | false => cases c' with
    | false => exact hl e he
    | true => exact List.mem_cons_of_mem _ (hl e he)
  | true =>
    rw [hc rfl]
    exact (List.mem_cons.1 he).elim (fun h => h ▸ List.mem_cons_self) fun h =>
      List.mem_cons_of_mem _ (hl e h)

theorem exists_decl_ite_cons {α β} {c : Bool} {w n : α} [BEq α] [LawfulBEq α] {d0 : β} {l : List (Option α × β)} :
    (∃ dt, (some n, dt) ∈ if c then (some w, d0) :: l else l) ↔
      ((c && w == n) = true ∨ ∃ dt, (some n, dt) ∈ l) := by
  cases c <;> simp [exists_or, eq_comm (a := n)]

theorem exists_mem_ite_cons {α} {c : Bool} {x : α} {l : List α} {P : α → Prop} :
    (∃ p ∈ if c then x :: l else l, P p) ↔ (c = true ∧ P x) ∨ ∃ p ∈ l, P p := by
  cases c <;> simp

theorem diffMetrics_decls_sub (fs : Fields) (b a : Vals) :
    ∀ e ∈ (diffMetrics fs b a).decls, e ∈ metricDecls fs := by
  fun_induction agree fs b a with
  | case1 => simp [diffMetrics, WMs.decls]
  | case2 w skip k d rest vb bs va as ih =>
    simp only [diffMetrics, metricDecls, apply_ite WMs.decls, WMs.decls]
    exact mem_ite_cons (fun h => (Bool.and_eq_true _ _ ▸ h).1) ih
  | case3 w skip ref ver sub d rest sb bs sa as _ ih =>
    simp only [diffMetrics_nested, metricDecls, apply_ite WMs.decls, WMs.decls]
    exact mem_ite_cons (fun h => (Bool.and_eq_true _ _ ▸ h).1) ih
  | case4 => simp [diffMetrics, WMs.decls]

theorem diffParams_decls_sub (fs : Fields) (b a : Vals) :
    ∀ e ∈ (diffParams fs b a).map WP.decl, e ∈ paramDecls fs := by
  fun_induction agree fs b a with
  | case1 => simp [diffParams]
  | case2 w skip k d rest vb bs va as ih =>
    simp only [diffParams, paramDecls, apply_ite (List.map WP.decl), List.map_cons, WP.decl]
    exact mem_ite_cons (fun h => (Bool.and_eq_true _ _ ▸ h).1) ih
  | case3 w skip ref ver sub d rest sb bs sa as _ ih => simpa only [diffParams, paramDecls] using ih
  | case4 => simp [diffParams]

theorem diffMetrics_name_iff (fs : Fields) (b a : Vals) (n : Name) :
    (∃ dt, (some n, dt) ∈ (diffMetrics fs b a).decls) ↔ metricDiffers fs b a n = true := by
  fun_induction agree fs b a with
  | case1 => simp [diffMetrics, WMs.decls, metricDiffers]
  | case2 w skip k d rest vb bs va as ih =>
    simp only [diffMetrics, metricDiffers, apply_ite WMs.decls, WMs.decls, exists_decl_ite_cons, ih, Bool.or_eq_true,
      Bool.and_right_comm]
  | case3 w skip ref ver sub d rest sb bs sa as _ ih =>
    simp only [diffMetrics_nested, metricDiffers, apply_ite WMs.decls, WMs.decls, exists_decl_ite_cons, ih,
      Bool.or_eq_true, Bool.and_right_comm]
  | case4 => simp [diffMetrics, WMs.decls, metricDiffers]


theorem diffParams_name_iff (fs : Fields) (b a : Vals) (n : Name) :
    (∃ p ∈ diffParams fs b a, p.name = some n) ↔ paramDiffers fs b a n = true := by
  fun_induction agree fs b a with
  | case1 => simp [diffParams, paramDiffers]
  | case2 w skip k d rest vb bs va as ih =>
    simp only [diffParams, paramDiffers, exists_mem_ite_cons, ih]
    simp only [Bool.or_eq_true, Bool.and_eq_true, beq_iff_eq, Option.some.injEq, and_right_comm]
  | case3 w skip ref ver sub d rest sb bs sa as _ ih => simpa only [diffParams, paramDiffers] using ih
  | case4 => simp [diffParams, paramDiffers]

/-! ### a loop whose entries all miss the head field runs on the rest: `g` puts the head cell back -/

theorem fromParams_map (g : Vals → Vals) {fs fs' : Fields} (ps : List WP)
    (h : ∀ p ∈ ps, ∀ n, p.name = some n → ∀ t pv, setParam fs (g t) n pv = (setParam fs' t n pv).map g)
    (t : Vals) : fromParams fs (g t) ps = (fromParams fs' t ps).map g := by
  induction ps generalizing t with
  | nil => rfl
  | cons p ps ih =>
    rw [fromParams, fromParams]
    cases hn : p.name with
    | none => rfl
    | some n =>
      simp only [h p List.mem_cons_self n hn]
      cases setParam fs' t n p.value with
      | error e => rfl
      | ok t' => exact ih (fun q hq => h q (List.mem_cons_of_mem _ hq)) t'

theorem stageParams_map (g : List SCell → List SCell) {fs fs' : Fields} (ps : List WP)
    (h : ∀ p ∈ ps, ∀ n, p.name = some n → ∀ t pv, stageParam fs (g t) n pv = (stageParam fs' t n pv).map g)
    (t : List SCell) : stageParams fs (g t) ps = (stageParams fs' t ps).map g := by
  induction ps generalizing t with
  | nil => rfl
  | cons p ps ih =>
    rw [stageParams, stageParams]
    cases hn : p.name with
    | none => rfl
    | some n =>
      simp only [h p List.mem_cons_self n hn]
      cases stageParam fs' t n p.value with
      | error e => rfl
      | ok t' => exact ih (fun q hq => h q (List.mem_cons_of_mem _ hq)) t'

theorem fromMetrics_map (g : Vals → Vals) {fs fs' : Fields} (ms : WMs)
    (h : ∀ n dt, (some n, dt) ∈ ms.decls → ∀ mv nf t, fiMetric mv nf fs (g t) n = (fiMetric mv nf fs' t n).map g)
    (t : Vals) : fromMetrics fs (g t) ms = (fromMetrics fs' t ms).map g := by
  induction ms generalizing t with
  | nil => rfl
  | val name dt v rest ih =>
    simp only [fromMetrics]
    cases name with
    | none => rfl
    | some n =>
      simp only [h n dt List.mem_cons_self]
      cases fiMetric (.val v) _ fs' t n with
      | error e => rfl
      | ok t' => exact ih (fun m d hm => h m d (List.mem_cons_of_mem _ hm)) t'
  | templ name dt isDef ref ver sub ps rest _ ih =>
    simp only [fromMetrics]
    cases name with
    | none => rfl
    | some n =>
      simp only [h n dt List.mem_cons_self]
      cases fiMetric .templ _ fs' t n with
      | error e => rfl
      | ok t' => exact ih (fun m d hm => h m d (List.mem_cons_of_mem _ hm)) t'

theorem stageMetrics_map (g : List SCell → List SCell) {fs fs' : Fields} {self self' : Vals} (ms : WMs)
    (h : ∀ n dt, (some n, dt) ∈ ms.decls → ∀ mv nu t,
      armMetric mv nu fs self (g t) n = (armMetric mv nu fs' self' t n).map g)
    (t : List SCell) : stageMetrics fs self (g t) ms = (stageMetrics fs' self' t ms).map g := by
  induction ms generalizing t with
  | nil => rfl
  | val name dt v rest ih =>
    simp only [stageMetrics]
    cases name with
    | none => rfl
    | some n =>
      simp only [h n dt List.mem_cons_self]
      cases armMetric (.val v) _ fs' self' t n with
      | error e => rfl
      | ok t' => exact ih (fun m d hm => h m d (List.mem_cons_of_mem _ hm)) t'
  | templ name dt isDef ref ver sub ps rest _ ih =>
    simp only [stageMetrics]
    cases name with
    | none => rfl
    | some n =>
      simp only [h n dt List.mem_cons_self]
      cases armMetric .templ _ fs' self' t n with
      | error e => rfl
      | ok t' => exact ih (fun m d hm => h m d (List.mem_cons_of_mem _ hm)) t'

theorem wf_miss {skip : Bool} {w n : Name} {rest : Fields}
    (hw : (skip || !(names rest).contains w) = true) (hn : n ∈ names rest) :
    (!skip && w == n) = false := by
  cases skip with
  | true => rfl
  | false =>
    have : w ≠ n := fun e => by simp [e, hn] at hw
    simp [this]

theorem wf_nested_head {skip : Bool} {w : Name} {rest sub : Fields}
    (h : (skip || (!(names rest).contains w && wf sub)) = true) :
    (skip || !(names rest).contains w) = true := by
  cases skip with
  | true => rfl
  | false => exact (Bool.and_eq_true _ _ ▸ h).1

theorem miss_of_paramDecls {skip : Bool} {w : Name} {fs : Fields}
    (hw : (skip || !(names fs).contains w) = true) {ps : List WP}
    (hps : ∀ e ∈ ps.map WP.decl, e ∈ paramDecls fs) :
    ∀ p ∈ ps, ∀ n, p.name = some n → (!skip && w == n) = false :=
  fun p hp n hn => wf_miss hw (paramDecls_names fs n p.ty (hn ▸ hps _ (List.mem_map_of_mem hp)))

theorem miss_of_metricDecls {skip : Bool} {w : Name} {fs : Fields}
    (hw : (skip || !(names fs).contains w) = true) {ms : WMs}
    (hms : ∀ e ∈ ms.decls, e ∈ metricDecls fs) :
    ∀ n dt, (some n, dt) ∈ ms.decls → (!skip && w == n) = false :=
  fun n dt h => wf_miss hw (metricDecls_names fs n dt (hms _ h))

section miss
variable {skip : Bool} {w n : Name} (h : (!skip && w == n) = false)
include h

theorem setParam_scalar_miss (k d rest v vs pv) :
    setParam (.scalar w skip k d rest) (.s v vs) n pv = (setParam rest vs n pv).map (.s v) := by
  have : (!skip && k.isParam && w == n) = false := by rw [Bool.and_right_comm, h, Bool.false_and]
  simp only [setParam, this]
  cases setParam rest vs n pv <;> rfl

theorem stageParam_scalar_miss (k d rest c st pv) :
    stageParam (.scalar w skip k d rest) (c :: st) n pv = (stageParam rest st n pv).map (c :: ·) := by
  have : (!skip && k.isParam && w == n) = false := by rw [Bool.and_right_comm, h, Bool.false_and]
  simp only [stageParam, this]
  cases stageParam rest st n pv <;> rfl

theorem fiMetric_scalar_miss (mv nf k d rest v vs) :
    fiMetric mv nf (.scalar w skip k d rest) (.s v vs) n = (fiMetric mv nf rest vs n).map (.s v) := by
  have : (!skip && !k.isParam && w == n) = false := by rw [Bool.and_right_comm, h, Bool.false_and]
  simp only [fiMetric, this]
  cases fiMetric mv nf rest vs n <;> rfl

theorem fiMetric_nested_miss (mv nf ref ver sub d rest sv vs) :
    fiMetric mv nf (.nested w skip ref ver sub d rest) (.nest sv vs) n =
      (fiMetric mv nf rest vs n).map (.nest sv) := by
  simp only [fiMetric, h]
  cases fiMetric mv nf rest vs n <;> rfl

theorem armMetric_scalar_miss (mv nu k d rest v vs c st) :
    armMetric mv nu (.scalar w skip k d rest) (.s v vs) (c :: st) n =
      (armMetric mv nu rest vs st n).map (c :: ·) := by
  have : (!skip && !k.isParam && w == n) = false := by rw [Bool.and_right_comm, h, Bool.false_and]
  simp only [armMetric, this]
  cases armMetric mv nu rest vs st n <;> rfl

theorem armMetric_nested_miss (mv nu ref ver sub d rest sv vs c st) :
    armMetric mv nu (.nested w skip ref ver sub d rest) (.nest sv vs) (c :: st) n =
      (armMetric mv nu rest vs st n).map (c :: ·) := by
  simp only [armMetric, h]
  cases armMetric mv nu rest vs st n <;> rfl

end miss

theorem setParam_nested (w skip ref ver sub d rest sv vs n pv) :
    setParam (.nested w skip ref ver sub d rest) (.nest sv vs) n pv =
      (setParam rest vs n pv).map (.nest sv) := by
  simp only [setParam]
  cases setParam rest vs n pv <;> rfl

theorem stageParam_nested (w skip ref ver sub d rest c st n pv) :
    stageParam (.nested w skip ref ver sub d rest) (c :: st) n pv =
      (stageParam rest st n pv).map (c :: ·) := by
  simp only [stageParam]
  cases stageParam rest st n pv <;> rfl

/-! ### round trip: `try_from(template_instance(a))` -/

/-- the struct rebuilt from the instance of `a`: every non-skipped field is `a`'s (a nested
template rebuilt the same way), every skipped field its default -/
def rtVal : Fields → Vals → Vals
  | .scalar _ skip _ d rest, .s va as => .s (if skip then d else va) (rtVal rest as)
  | .nested _ skip _ _ sub d rest, .nest sa as =>
    .nest (if skip then d else rtVal sub sa) (rtVal rest as)
  | _, _ => .nil

/-- the locals after the parameter loop over `instParams fs a` -/
def locP : Fields → Vals → Vals
  | .scalar _ skip k d rest, .s va as => .s (if !skip && k.isParam then va else d) (locP rest as)
  | .nested _ _ _ _ _ d rest, .nest _ as => .nest d (locP rest as)
  | _, _ => .nil

theorem fromWith_self (ref : Name) (ver : Option Name) (fs : Fields) (ps : List WP)
    (loop : Vals → Except TErr Vals) :
    fromWith ref ver fs ref ver ps loop =
      match fromParams fs (defaults fs) ps with
      | .error e => .error e
      | .ok loc => loop loc := by
  simp only [fromWith, bne_self_eq_false, Bool.false_eq_true, ↓reduceIte]; rfl

theorem fromParams_inst (fs : Fields) (a : Vals) (hwf : wf fs = true) (hwt : wt fs a = true) :
    fromParams fs (defaults fs) (instParams fs a) = .ok (locP fs a) := by
  fun_induction wt fs a with
  | case1 => rfl
  | case2 w skip k d rest v vs ih =>
    rw [wf, Bool.and_eq_true] at hwf
    rw [Bool.and_eq_true] at hwt
    have hmiss := miss_of_paramDecls hwf.1
      (fun e he => instParams_decls rest vs (shaped_of_wt _ _ hwt.2) ▸ he)
    have frame (x) : fromParams (.scalar w skip k d rest) (.s x (defaults rest)) (instParams rest vs) =
        .ok (.s x (locP rest vs)) := by
      rw [fromParams_map (Vals.s x) _ fun p hp n hn _ _ => setParam_scalar_miss (hmiss p hp n hn) ..,
        ih hwf.2 hwt.2]; rfl
    simp only [defaults, instParams, locP]
    cases hc : (!skip && k.isParam)
    · exact frame d
    · rw [Bool.and_eq_true, Bool.not_eq_true'] at hc
      obtain ⟨rfl, hk⟩ := hc
      simp only [↓reduceIte, fromParams, setParam, hk, Bool.not_false, Bool.and_self,
        beq_self_eq_true, conv_toWire k v hwt.1]
      exact frame v
  | case3 w skip ref ver sub d rest sv vs _ ih =>
    rw [wf, Bool.and_eq_true] at hwf
    rw [Bool.and_eq_true] at hwt
    simp only [defaults, instParams, locP]
    rw [fromParams_map (Vals.nest d) _ fun _ _ _ _ _ _ => setParam_nested .., ih hwf.2 hwt.2]; rfl
  | case4 => cases hwt

theorem fromMetrics_inst (fs : Fields) (a : Vals) (hwf : wf fs = true) (hwt : wt fs a = true) :
    fromMetrics fs (locP fs a) (instMetrics fs a) = .ok (rtVal fs a) := by
  fun_induction wt fs a with
  | case1 => rfl
  | case2 w skip k d rest v vs ih =>
    rw [wf, Bool.and_eq_true] at hwf
    rw [Bool.and_eq_true] at hwt
    have hmiss := miss_of_metricDecls hwf.1
      (fun e he => instMetrics_decls rest vs (shaped_of_wt _ _ hwt.2) ▸ he)
    have frame (x) : fromMetrics (.scalar w skip k d rest) (.s x (locP rest vs)) (instMetrics rest vs) =
        .ok (.s x (rtVal rest vs)) := by
      rw [fromMetrics_map (Vals.s x) _ fun n dt hn _ _ _ => fiMetric_scalar_miss (hmiss n dt hn) ..,
        ih hwf.2 hwt.2]; rfl
    simp only [locP, instMetrics, rtVal]
    cases skip with
    | true => exact frame d
    | false =>
      cases hk : k.isParam with
      | true => exact frame v
      | false =>
        simp only [Bool.not_false, Bool.and_self, ↓reduceIte, fromMetrics, fiMetric, hk,
          beq_self_eq_true, convMetric, conv_toWire k v hwt.1]
        exact frame v
  | case3 w skip ref ver sub d rest sv vs ihs ih =>
    rw [wf, Bool.and_eq_true] at hwf
    rw [Bool.and_eq_true] at hwt
    have hmiss := miss_of_metricDecls (wf_nested_head hwf.1)
      (fun e he => instMetrics_decls rest vs (shaped_of_wt _ _ hwt.2) ▸ he)
    have frame (x) : fromMetrics (.nested w skip ref ver sub d rest) (.nest x (locP rest vs))
        (instMetrics rest vs) = .ok (.nest x (rtVal rest vs)) := by
      rw [fromMetrics_map (Vals.nest x) _ fun n dt hn _ _ _ => fiMetric_nested_miss (hmiss n dt hn) ..,
        ih hwf.2 hwt.2]; rfl
    simp only [locP, instMetrics, rtVal]
    cases skip with
    | true => exact frame d
    | false =>
      simp only [Bool.false_or, Bool.and_eq_true, Bool.not_eq_true'] at hwf
      simp only [Bool.not_false, ↓reduceIte, fromMetrics, fiMetric, Bool.true_and, beq_self_eq_true,
        instMarkers, fromWith_self, fromParams_inst sub sv hwf.1.2 hwt.1, ihs hwf.1.2 hwt.1]
      exact frame _
  | case4 => cases hwt

theorem fromInstance_instanceOf (σ : Schema) (a : Vals) (hwf : wf σ.fields = true)
    (hwt : wt σ.fields a = true) :
    fromInstance σ (instanceOf σ a) = .ok (rtVal σ.fields a) := by
  simp only [fromInstance, instanceOf, fromWith_self, fromParams_inst _ a hwf hwt,
    fromMetrics_inst _ a hwf hwt]

theorem same_rtVal (fs : Fields) (a : Vals) (hwt : wt fs a = true) : same fs a (rtVal fs a) = true := by
  fun_induction wt fs a with
  | case1 => rfl
  | case2 w skip k d rest v vs ih =>
    rw [Bool.and_eq_true] at hwt
    simp only [rtVal, same, ih hwt.2]
    cases skip <;> simp
  | case3 w skip ref ver sub d rest sv vs ihs ih =>
    rw [Bool.and_eq_true] at hwt
    simp only [rtVal, same, ih hwt.2]
    cases skip with
    | true => rfl
    | false => simp only [Bool.false_eq_true, ↓reduceIte, ihs hwt.1]; rfl
  | case4 => cases hwt

theorem wt_rtVal (fs : Fields) (a : Vals) (h : wt fs a = true) : shaped fs (rtVal fs a) = true := by
  fun_induction wt fs a with
  | case1 => rfl
  | case2 _ _ _ _ _ _ _ ih => rw [Bool.and_eq_true] at h; exact ih h.2
  | case3 _ _ _ _ _ _ _ _ _ _ ih => rw [Bool.and_eq_true] at h; exact ih h.2
  | case4 => cases h

theorem agree_of_same (fs : Fields) (a a' : Vals) (hs : same fs a a' = true)
    (hrefl : agree fs a a = true) : agree fs a a' = true := by
  fun_induction same fs a a' with
  | case1 => rfl
  | case2 w skip k d rest x xs y ys ih =>
    simp only [agree, Bool.and_eq_true, Bool.or_eq_true, beq_iff_eq] at hs hrefl ⊢
    refine ⟨?_, ih hs.2 hrefl.2⟩
    rcases hs.1 with h | rfl
    · exact Or.inl h
    · exact hrefl.1
  | case3 w skip ref ver sub d rest x xs y ys ihs ih =>
    simp only [agree, Bool.and_eq_true, Bool.or_eq_true] at hs hrefl ⊢
    refine ⟨?_, ih hs.2 hrefl.2⟩
    rcases hs.1 with h | h
    · exact Or.inl h
    · exact hrefl.1.imp_right (ihs h)
  | case4 => cases hs

/-! ### patch law: `a.update_from_instance(b.template_instance_from_difference(&a))` -/

/-- what `a` becomes: every template field on which `b` differs is replaced by `b`'s (a nested
template patched recursively), everything else is kept -/
def patch : Fields → Vals → Vals → Vals
  | .scalar _ skip k _ rest, .s vb bs, .s va as =>
    .s (if !skip && !optEq k.ty vb va then vb else va) (patch rest bs as)
  | .nested _ skip _ _ sub _ rest, .nest sb bs, .nest sa as =>
    .nest (if !skip && !agree sub sb sa then patch sub sb sa else sa) (patch rest bs as)
  | _, _, a => a

/-- the temporaries after the parameter loop over `diffParams fs b a` -/
def stP : Fields → Vals → Vals → List SCell
  | .scalar _ skip k _ rest, .s vb bs, .s va as =>
    (if !skip && k.isParam && !optEq k.ty vb va then .s vb else .keep) :: stP rest bs as
  | .nested _ _ _ _ _ _ rest, .nest _ bs, .nest _ as => .keep :: stP rest bs as
  | _, _, _ => []

/-- … and after the metric loop over `diffMetrics fs b a` as well -/
def stM : Fields → Vals → Vals → List SCell
  | .scalar _ skip k _ rest, .s vb bs, .s va as =>
    (if !skip && !optEq k.ty vb va then .s vb else .keep) :: stM rest bs as
  | .nested _ skip _ _ sub _ rest, .nest sb bs, .nest sa as =>
    (if !skip && !agree sub sb sa then .nest (patch sub sb sa) else .keep) :: stM rest bs as
  | _, _, _ => []

theorem commit_stM (fs : Fields) (b a : Vals) : commit a (stM fs b a) = patch fs b a := by
  fun_induction stM fs b a with
  | case1 w skip k d rest vb bs va as ih =>
    simp only [commit, patch, ih]
    cases (!skip && !optEq k.ty vb va) <;> rfl
  | case2 w skip ref ver sub d rest sb bs sa as ih =>
    simp only [commit, patch, ih]
    cases (!skip && !agree sub sb sa) <;> rfl
  | case3 fs b a h1 h2 =>
    rw [patch] <;> try assumption
    cases a <;> rfl

/-- induction over the fields in lock step with two values of the struct; the steps receive what
`wt` says of the head cells and of the tails, a nested step also its own conclusion for the
nested struct unless the field is skipped -/
@[elab_as_elim] theorem wt_induction₂ {motive : Fields → Vals → Vals → Prop}
    (nil : motive .nil .nil .nil)
    (scalar : ∀ w skip k d rest vb bs va as, (skip || wtCell k vb) = true →
      (skip || wtCell k va) = true → wt rest bs = true → wt rest as = true → motive rest bs as →
      motive (.scalar w skip k d rest) (.s vb bs) (.s va as))
    (nested : ∀ w skip ref ver sub d rest sb bs sa as,
      (skip = false → wt sub sb = true ∧ wt sub sa = true ∧ motive sub sb sa) →
      wt rest bs = true → wt rest as = true → motive rest bs as →
      motive (.nested w skip ref ver sub d rest) (.nest sb bs) (.nest sa as))
    (fs : Fields) (b a : Vals) (hb : wt fs b = true) (ha : wt fs a = true) : motive fs b a := by
  fun_induction wt fs a generalizing b with
  | case1 => cases b <;> first | exact nil | cases hb
  | case2 w skip k d rest va as ih =>
    cases b with
    | s vb bs =>
      rw [wt, Bool.and_eq_true] at hb
      rw [Bool.and_eq_true] at ha
      exact scalar _ _ _ _ _ _ _ _ _ hb.1 ha.1 hb.2 ha.2 (ih bs hb.2 ha.2)
    | _ => cases hb
  | case3 w skip ref ver sub d rest sa as ihs ih =>
    cases b with
    | nest sb bs =>
      rw [wt, Bool.and_eq_true] at hb
      rw [Bool.and_eq_true] at ha
      refine nested _ _ _ _ _ _ _ _ _ _ _ (fun hs => ?_) hb.2 ha.2 (ih bs hb.2 ha.2)
      subst hs
      exact ⟨hb.1, ha.1, ihs sb hb.1 ha.1⟩
    | _ => cases hb
  | case4 => cases ha

theorem updateWith_self (ref : Name) (ver : Option Name) (fs : Fields) (self : Vals) (ps : List WP)
    (loop : List SCell → Except TErr (List SCell)) :
    updateWith ref ver fs self ref ver ps loop =
      match stageParams fs (stageInit fs) ps with
      | .error e => .error e
      | .ok st1 =>
        match loop st1 with
        | .error e => .error e
        | .ok st2 => .ok (commit self st2) := by
  simp only [updateWith, bne_self_eq_false, Bool.false_eq_true, ↓reduceIte]; rfl

theorem stageParams_diff (fs : Fields) (b a : Vals) (hwf : wf fs = true) (hb : wt fs b = true)
    (ha : wt fs a = true) :
    stageParams fs (stageInit fs) (diffParams fs b a) = .ok (stP fs b a) := by
  revert hwf
  refine wt_induction₂ ?nil ?scalar ?nested fs b a hb ha
  case nil => exact fun _ => rfl
  case scalar =>
    intro w skip k d rest vb bs va as hb _ _ _ ih hwf
    rw [wf, Bool.and_eq_true] at hwf
    have hmiss := miss_of_paramDecls hwf.1 (diffParams_decls_sub rest bs as)
    have frame (c) : stageParams (.scalar w skip k d rest) (c :: stageInit rest) (diffParams rest bs as) =
        .ok (c :: stP rest bs as) := by
      rw [stageParams_map (c :: ·) _ fun p hp n hn _ _ => stageParam_scalar_miss (hmiss p hp n hn) ..,
        ih hwf.2]; rfl
    simp only [stageInit, diffParams, stP]
    cases hc : (!skip && k.isParam && !optEq k.ty vb va)
    · exact frame _
    · simp only [Bool.and_eq_true, Bool.not_eq_true'] at hc
      obtain ⟨⟨rfl, hk⟩, -⟩ := hc
      simp only [↓reduceIte, stageParams, stageParam, hk, Bool.not_false, Bool.and_self,
        beq_self_eq_true, conv_toWire k vb hb]
      exact frame _
  case nested =>
    intro w skip ref ver sub d rest sb bs sa as _ _ _ ih hwf
    rw [wf, Bool.and_eq_true] at hwf
    simp only [stageInit, diffParams, stP]
    rw [stageParams_map (SCell.keep :: ·) _ fun _ _ _ _ _ _ => stageParam_nested .., ih hwf.2]; rfl

theorem stageMetrics_diff (fs : Fields) (b a : Vals) (hwf : wf fs = true) (hb : wt fs b = true)
    (ha : wt fs a = true) :
    stageMetrics fs a (stP fs b a) (diffMetrics fs b a) = .ok (stM fs b a) := by
  revert hwf
  refine wt_induction₂ ?nil ?scalar ?nested fs b a hb ha
  case nil => exact fun _ => rfl
  case scalar =>
    intro w skip k d rest vb bs va as hb _ _ _ ih hwf
    rw [wf, Bool.and_eq_true] at hwf
    have hmiss := miss_of_metricDecls hwf.1 (diffMetrics_decls_sub rest bs as)
    have frame (c) : stageMetrics (.scalar w skip k d rest) (.s va as) (c :: stP rest bs as)
        (diffMetrics rest bs as) = .ok (c :: stM rest bs as) := by
      rw [stageMetrics_map (c :: ·) _ fun n dt hn _ _ _ => armMetric_scalar_miss (hmiss n dt hn) ..,
        ih hwf.2]; rfl
    simp only [stP, diffMetrics, stM]
    cases skip with
    | true => exact frame _
    | false =>
      cases hk : k.isParam with
      | true => simpa only [Bool.not_false, Bool.and_self, Bool.true_and, Bool.not_true,
          Bool.and_false, Bool.false_and, Bool.false_eq_true, ↓reduceIte] using frame _
      | false =>
        cases he : optEq k.ty vb va with
        | true => exact frame _
        | false =>
          simp only [Bool.not_false, Bool.and_self, ↓reduceIte, stageMetrics,
            armMetric, hk, beq_self_eq_true, convMetric, conv_toWire k vb hb]
          exact frame _
  case nested =>
    intro w skip ref ver sub d rest sb bs sa as hs _ _ ih hwf
    rw [wf, Bool.and_eq_true] at hwf
    have hmiss := miss_of_metricDecls (wf_nested_head hwf.1)
      (diffMetrics_decls_sub rest bs as)
    have frame (c) : stageMetrics (.nested w skip ref ver sub d rest) (.nest sa as) (c :: stP rest bs as)
        (diffMetrics rest bs as) = .ok (c :: stM rest bs as) := by
      rw [stageMetrics_map (c :: ·) _ fun n dt hn _ _ _ => armMetric_nested_miss (hmiss n dt hn) ..,
        ih hwf.2]; rfl
    simp only [stP, diffMetrics_nested, stM]
    cases hc : (!skip && !agree sub sb sa) with
    | false => exact frame _
    | true =>
      rw [Bool.and_eq_true, Bool.not_eq_true'] at hc
      obtain ⟨rfl, -⟩ := hc
      obtain ⟨hsb, hsa, ihs⟩ := hs rfl
      simp only [Bool.false_or, Bool.and_eq_true, Bool.not_eq_true'] at hwf
      simp only [↓reduceIte, stageMetrics, armMetric, Bool.not_false, Bool.true_and, beq_self_eq_true,
        instMarkers, updateWith_self, stageParams_diff sub sb sa hwf.1.2 hsb hsa,
        ihs hwf.1.2, commit_stM]
      exact frame _

theorem update_diff (σ : Schema) (b a : Vals) (d : TInst) (hwf : wf σ.fields = true)
    (hb : wt σ.fields b = true) (ha : wt σ.fields a = true) (hd : diff σ b a = some d) :
    update σ a d = (.ok (), patch σ.fields b a) := by
  rw [diff, mkDiff_diff] at hd
  split at hd
  · cases hd
  · cases hd
    simp only [update, updateWith_self, stageParams_diff _ b a hwf hb ha,
      stageMetrics_diff _ b a hwf hb ha, commit_stM]

theorem patched_patch (fs : Fields) (b a : Vals) (hb : wt fs b = true) (ha : wt fs a = true) :
    patched fs a b (patch fs b a) = true := by
  refine wt_induction₂ ?nil ?scalar ?nested fs b a hb ha
  case nil => rfl
  case scalar =>
    intro w skip k d rest vb bs va as _ _ _ _ ih
    simp only [patch, patched, ih, Bool.and_true]
    cases skip <;> cases optEq k.ty vb va <;> simp
  case nested =>
    intro w skip ref ver sub d rest sb bs sa as hs _ _ ih
    simp only [patch, patched, ih, Bool.and_true]
    cases skip with
    | true => simp
    | false => cases he : agree sub sb sa <;> simp [(hs rfl).2.2]

/-- what the field-wise law `patched` (no appeal to `x == x`) gives: the `==` law wherever `b == b`, and
typing, since every template field of `a'` is `b`'s or `a`'s -/
theorem agree_of_patched (fs : Fields) (a b a' : Vals) (hp : patched fs a b a' = true)
    (hrefl : agree fs b b = true) : agree fs b a' = true := by
  fun_induction patched fs a b a' with
  | case1 => rfl
  | case2 w skip k d rest va as vb bs v' as' ih =>
    simp only [agree, Bool.and_eq_true] at hp hrefl ⊢
    refine ⟨?_, ih hp.2 hrefl.2⟩
    cases skip with
    | true => rfl
    | false =>
      simp only [Bool.false_eq_true, ↓reduceIte, Bool.or_eq_true, Bool.and_eq_true, beq_iff_eq] at hp
      rcases hp.1 with rfl | ⟨rfl, h⟩
      · exact hrefl.1
      · exact h
  | case3 w skip ref ver sub d rest sa as sb bs s' as' ihs ih =>
    simp only [agree, Bool.and_eq_true] at hp hrefl ⊢
    refine ⟨?_, ih hp.2 hrefl.2⟩
    cases skip with
    | true => rfl
    | false =>
      simp only [Bool.false_eq_true, ↓reduceIte, Bool.or_eq_true, Bool.and_eq_true, beq_iff_eq] at hp
      rcases hp.1 with ⟨rfl, h⟩ | h
      · exact h
      · exact ihs h hrefl.1
  | case4 => cases hp

theorem wt_of_patched (fs : Fields) (a b a' : Vals) (hp : patched fs a b a' = true)
    (ha : wt fs a = true) (hb : wt fs b = true) : wt fs a' = true := by
  fun_induction patched fs a b a' with
  | case1 => rfl
  | case2 w skip k d rest va as vb bs v' as' ih =>
    simp only [wt, Bool.and_eq_true] at hp ha hb ⊢
    refine ⟨?_, ih hp.2 ha.2 hb.2⟩
    cases skip with
    | true => rfl
    | false =>
      simp only [Bool.false_eq_true, ↓reduceIte, Bool.or_eq_true, Bool.and_eq_true, beq_iff_eq] at hp
      rcases hp.1 with rfl | ⟨rfl, -⟩
      · exact hb.1
      · exact ha.1
  | case3 w skip ref ver sub d rest sa as sb bs s' as' ihs ih =>
    simp only [wt, Bool.and_eq_true] at hp ha hb ⊢
    refine ⟨?_, ih hp.2 ha.2 hb.2⟩
    cases skip with
    | true => rfl
    | false =>
      simp only [Bool.false_eq_true, ↓reduceIte, Bool.or_eq_true, Bool.and_eq_true, beq_iff_eq] at hp
      rcases hp.1 with ⟨rfl, -⟩ | h
      · exact ha.1
      · exact ihs h ha.1 hb.1
  | case4 => cases hp

/-! ### rejection: an instance that is accepted is not foreign -/

theorem setParam_ok {fs loc loc' n pv}
    (h : setParam fs loc n pv = .ok loc') : hasParamArm fs n = true := by
  fun_induction setParam fs loc n pv generalizing loc' with
  -- the head field's arm
  | case2 _ _ _ _ _ _ _ _ _ hc => rw [hasParamArm, hc]; rfl
  -- handed on by a scalar head
  | case4 _ _ _ _ _ _ _ _ _ _ _ hr ih => rw [hasParamArm, ih hr, Bool.or_true]
  -- handed on by a nested head
  | case6 _ _ _ _ _ _ _ _ _ _ _ _ hr ih => exact ih hr
  -- every other path returns an error
  | _ => cases h

theorem stageParam_ok {fs st st' n pv}
    (h : stageParam fs st n pv = .ok st') : hasParamArm fs n = true := by
  fun_induction stageParam fs st n pv generalizing st' with
  -- the head field's arm
  | case2 _ _ _ _ _ _ _ _ _ hc => rw [hasParamArm, hc]; rfl
  -- handed on by a scalar head
  | case4 _ _ _ _ _ _ _ _ _ _ _ hr ih => rw [hasParamArm, ih hr, Bool.or_true]
  -- handed on by a nested head
  | case6 _ _ _ _ _ _ _ _ _ _ _ _ hr ih => exact ih hr
  -- every other path returns an error
  | _ => cases h

theorem fromParams_ok {fs : Fields} {ps : List WP} {s s' : Vals}
    (h : fromParams fs s ps = .ok s') : foreignPs fs ps = false := by
  induction ps generalizing s with
  | nil => rfl
  | cons p ps ih =>
    rw [fromParams] at h
    rw [foreignPs]
    split at h
    · cases h
    · split at h
      · next hn _ _ ha => simp only [hn, setParam_ok ha, ih h, Bool.not_true, Bool.or_self]
      · cases h

theorem stageParams_ok {fs : Fields} {ps : List WP} {s s' : List SCell}
    (h : stageParams fs s ps = .ok s') : foreignPs fs ps = false := by
  induction ps generalizing s with
  | nil => rfl
  | cons p ps ih =>
    rw [stageParams] at h
    rw [foreignPs]
    split at h
    · cases h
    · split at h
      · next hn _ _ ha => simp only [hn, stageParam_ok ha, ih h, Bool.not_true, Bool.or_self]
      · cases h

theorem fiMetric_ok {mv nf fs loc loc' n} (h : fiMetric mv nf fs loc n = .ok loc') :
    ∃ arm, metricArm fs n = some arm ∧
      ∀ fref fver ffs, arm = some (fref, fver, ffs) → (nf fref fver ffs).isSome = true := by
  fun_induction fiMetric mv nf fs loc n generalizing loc' with
  -- a scalar head's arm
  | case2 _ _ _ _ _ _ _ _ hc => exact ⟨none, by rw [metricArm, if_pos hc], nofun⟩
  -- handed on by a scalar head
  | case4 _ _ _ _ _ _ _ _ hc _ hr ih => rw [metricArm, if_neg hc]; exact ih hr
  -- a nested head's arm: the nested struct accepted the value
  | case6 _ _ _ _ _ _ _ _ _ _ hc _ hx =>
    exact ⟨_, by rw [metricArm, if_pos hc], by rintro _ _ _ ⟨⟩; rw [hx]; rfl⟩
  -- handed on by a nested head
  | case8 _ _ _ _ _ _ _ _ _ _ hc _ hr ih => rw [metricArm, if_neg hc]; exact ih hr
  -- every other path returns an error
  | _ => cases h

theorem armMetric_ok {mv nu fs self st st' n}
    (h : armMetric mv nu fs self st n = .ok st') :
    ∃ arm, metricArm fs n = some arm ∧
      ∀ fref fver ffs, arm = some (fref, fver, ffs) → ∃ tmp, (nu fref fver ffs tmp).isSome = true := by
  fun_induction armMetric mv nu fs self st n generalizing st' with
  -- a scalar head's arm
  | case2 _ _ _ _ _ _ _ _ _ _ hc => exact ⟨none, by rw [metricArm, if_pos hc], nofun⟩
  -- handed on by a scalar head
  | case4 _ _ _ _ _ _ _ _ _ _ hc _ hr ih => rw [metricArm, if_neg hc]; exact ih hr
  -- a nested head's arm: the nested struct accepted the value
  | case6 _ _ _ _ _ _ _ sv _ _ _ _ hc _ hx =>
    exact ⟨_, by rw [metricArm, if_pos hc], by rintro _ _ _ ⟨⟩; exact ⟨sv, by rw [hx]; rfl⟩⟩
  -- handed on by a nested head
  | case8 _ _ _ _ _ _ _ _ _ _ _ _ hc _ hr ih => rw [metricArm, if_neg hc]; exact ih hr
  -- every other path returns an error
  | _ => cases h

theorem instMarkers_some {isDef ref r}
    (h : instMarkers isDef ref = some r) : ref = some r := by
  unfold instMarkers at h
  split at h <;> simp_all

theorem fromWith_ok {fref fver ffs r ver ps loop x}
    (h : fromWith fref fver ffs r ver ps loop = .ok x) :
    (r != fref || ver != fver || foreignPs ffs ps) = false ∧ ∃ loc, loop loc = .ok x := by
  unfold fromWith at h
  split at h
  · cases h
  · split at h
    · cases h
    · split at h
      · cases h
      · next h1 h2 _ loc hp =>
        simp only [h1, h2, fromParams_ok hp, Bool.or_self, true_and]
        exact ⟨loc, h⟩

theorem fromMetrics_ok {fs loc loc' ms}
    (h : fromMetrics fs loc ms = .ok loc') : foreignMs fs ms = false := by
  induction ms generalizing fs loc loc' with
  | nil => rfl
  | val name dt v rest ih =>
    cases name with
    | none => simp [fromMetrics] at h
    | some n =>
      simp only [fromMetrics] at h
      split at h
      · next ha =>
        obtain ⟨arm, harm, -⟩ := fiMetric_ok ha
        simp only [foreignMs, harm, ih h, Option.isNone_some, Bool.or_self]
      · cases h
  | templ name dt isDef ref ver sub ps rest ihs ih =>
    cases name with
    | none => simp [fromMetrics] at h
    | some n =>
      simp only [fromMetrics] at h
      split at h
      · next ha =>
        obtain ⟨arm, harm, hnf⟩ := fiMetric_ok ha
        simp only [foreignMs, harm, ih h, Bool.or_false]
        match arm, hnf with
        | none, _ => rfl
        | some (fref, fver, ffs), hnf =>
          have := hnf _ _ _ rfl
          split at this
          · cases this
          · next r hr =>
            split at this
            · next x hx =>
              obtain ⟨h1, loc0, h2⟩ := fromWith_ok hx
              simp only [instMarkers_some hr, h1, ihs h2, Bool.or_self]
            · cases this
      · cases h

theorem updateWith_ok {fref fver ffs self r ver ps loop x}
    (h : updateWith fref fver ffs self r ver ps loop = .ok x) :
    (r != fref || ver != fver || foreignPs ffs ps) = false ∧ ∃ st st', loop st = .ok st' := by
  unfold updateWith at h
  split at h
  · cases h
  · split at h
    · cases h
    · split at h
      · cases h
      · next h1 h2 _ st hp =>
        simp only [h1, h2, stageParams_ok hp, Bool.or_self, true_and]
        split at h
        · cases h
        · next st' hl => exact ⟨st, st', hl⟩

theorem stageMetrics_ok {fs self st st' ms}
    (h : stageMetrics fs self st ms = .ok st') : foreignMs fs ms = false := by
  induction ms generalizing fs self st st' with
  | nil => rfl
  | val name dt v rest ih =>
    cases name with
    | none => simp [stageMetrics] at h
    | some n =>
      simp only [stageMetrics] at h
      split at h
      · next ha =>
        obtain ⟨arm, harm, -⟩ := armMetric_ok ha
        simp only [foreignMs, harm, ih h, Option.isNone_some, Bool.or_self]
      · cases h
  | templ name dt isDef ref ver sub ps rest ihs ih =>
    cases name with
    | none => simp [stageMetrics] at h
    | some n =>
      simp only [stageMetrics] at h
      split at h
      · next ha =>
        obtain ⟨arm, harm, hnu⟩ := armMetric_ok ha
        simp only [foreignMs, harm, ih h, Bool.or_false]
        match arm, hnu with
        | none, _ => rfl
        | some (fref, fver, ffs), hnu =>
          obtain ⟨tmp, this⟩ := hnu _ _ _ rfl
          split at this
          · cases this
          · next r hr =>
            split at this
            · next x hx =>
              obtain ⟨h1, st0, st1, h2⟩ := updateWith_ok hx
              simp only [instMarkers_some hr, h1, ihs h2, Bool.or_self]
            · cases this
      · cases h

end Srad.Derive
