/-
C12 — Metric fields survive the trip from node handle to host store.

The vocabulary (`Delivered`, `PropsMatch`, `StableSortedByTs`, `Path`, …) is in
`SradModel/Model/MetricSpec.lean`.

Reading of the theorems: a `PubMetric` is what an edge-node task builds through a `MetricToken`
and the `PublishMetric` builder (any metric value or null, custom timestamp, flags, metadata,
a property set whose list order is whatever order its `HashMap` iterates in). `enc`/`dec` stand
for prost (`WireSound`: `dec (enc p) = some p`, exercised on every run by really encoding and
decoding every payload). `hostReceiveData … = .data d` is the host event whose `d.metrics` is
handed to the store in one `update_from_data` call once the node actor admits the message
(admission is C05/C06/C14; the harness runs it for real with in-order messages).

The edge conversion in the model is the repaired one (D11); on the unrepaired tree the regenerated
`metricEdgeTable` differs and `C12_table_*` fail at `lake build`, and the oracle names a concrete null
metric that never reaches the store.
-/
import SradModel.Proofs.Metric
import SradModel.Proofs.Codec
import SradModel.Generated.MetricTable

namespace Srad.Metric
open Srad.Codec (Bytes DT)

/-! ### one metric -/

/-- Whatever metric a task publishes — any value or null, timestamp, flags, metadata, property
set — the payload carrying it alone decodes at the host to exactly one store entry with the same
identifier, value, timestamp, flags (absent = false), metadata and a property set equal as a map;
the message carries the sequence number (as a `u8`) and the clock reading it was given. -/
theorem C12_single_metric (enc : Payload → Bytes) (dec : Bytes → Option Payload)
    (hw : WireSound enc dec) (seq now : Nat) (pm : PubMetric) (hwf : pm.WF) :
    ∃ d e, hostReceiveData dec (enc (payloadOf seq now [pm])) = .data d ∧
      d.seq = seq % 256 ∧ d.timestamp = now ∧ d.metrics = [e] ∧ Delivered pm e :=
  single_of_roundtrip enc dec seq now pm hwf (hw _)

/-- In particular a null arrives as a null (never as a missing or rejected metric), and an
absent flag arrives as `false`. -/
theorem C12_null_and_absent_flags (enc : Payload → Bytes) (dec : Bytes → Option Payload)
    (hw : WireSound enc dec) (seq now : Nat) (pm : PubMetric) (hwf : pm.WF)
    (hnull : pm.value = none) (hh : pm.isHistorical = none) (ht : pm.isTransient = none) :
    ∃ d e, hostReceiveData dec (enc (payloadOf seq now [pm])) = .data d ∧ d.metrics = [e] ∧
      e.1 = pm.id ∧ e.2.value = none ∧ e.2.isHistorical = false ∧ e.2.isTransient = false :=
  null_absent_of_roundtrip enc dec seq now pm hwf (hw _) hnull hh ht

/-- Any supported datatype: a value of each of the 13 scalar Rust types (as `create_publish_metric`
converts it, model of C10) and every array type (the bytes its encoder produces) arrives as a
metric value from which the host's typed conversion reads back the same Rust value. -/
theorem C12_typed_value_reads_back (pm : PubMetric) (e : MetricId × Details) (hd : Delivered pm e) :
    (∀ (t : Srad.Codec.STy) (v : Srad.Codec.SV), t.holds v = true →
      pm.value = MVal.ofPV (Srad.Codec.toProto t v) →
      ∃ hv, e.2.value = some hv ∧ Srad.Codec.fromProto t hv.toPV = .ok v) ∧
    (∀ (w : Nat) (l : List Nat), 0 < w → (∀ x ∈ l, x < 2 ^ (8 * w)) →
      pm.value = some (.bytes (Srad.Codec.encodeW w l)) →
      ∃ b, e.2.value = some (.bytes b) ∧ (Srad.Codec.decodeW w b).res = .ok l) ∧
    (∀ (l : List Bool), l.length < 4294967296 →
      pm.value = some (.bytes (Srad.Codec.encodeBool l)) →
      ∃ b, e.2.value = some (.bytes b) ∧ (Srad.Codec.decodeBool b).res = .ok l) ∧
    (∀ (valid : Bytes → Bool) (l : List Bytes), (∀ s ∈ l, valid s = true ∧ (0 : UInt8) ∉ s) →
      pm.value = some (.bytes (Srad.Codec.encodeStr l)) →
      ∃ b, e.2.value = some (.bytes b) ∧ (Srad.Codec.decodeStr valid b).res = .ok l) := by
  refine ⟨?_, ?_, ?_, ?_⟩
  · intro t v hh hv
    have hrt := Srad.Codec.scalar_roundtrip t v hh
    rw [hd.value, hv]
    -- a value of the type goes to a scalar variant, which `MVal` carries as it is
    cases t <;> cases v <;> first | exact ⟨_, rfl, hrt⟩ | cases hh
  · intro w l hw hl hv
    exact ⟨_, by rw [hd.value, hv], by rw [Srad.Codec.decodeW_encodeW w hw l hl]⟩
  · intro l hl hv
    exact ⟨_, by rw [hd.value, hv], Srad.Codec.decodeBool_encodeBool l hl⟩
  · intro valid l hl hv
    exact ⟨_, by rw [hd.value, hv], by rw [Srad.Codec.decodeStr_encodeStr valid l hl]⟩

/-! ### batches -/

/-- A batch handed over in one payload decodes to one host message whose entries are the
batch's metrics, entry by entry in the same order. -/
theorem C12_batch_in_order (enc : Payload → Bytes) (dec : Bytes → Option Payload)
    (hw : WireSound enc dec) (seq now : Nat) (ms : List PubMetric) (hwf : ∀ pm ∈ ms, pm.WF) :
    ∃ d, hostReceiveData dec (enc (payloadOf seq now ms)) = .data d ∧
      d.seq = seq % 256 ∧ d.timestamp = now ∧ InOrder Delivered ms d.metrics :=
  batch_of_roundtrip enc dec seq now ms hwf (hw _)

/-- The non-sorting variants (`publish_metric`, `publish_metrics_unsorted` and their `try_`
forms; node handle, or device handle of a birthed device): a non-empty batch is handed to the
client as ONE payload with the next sequence number, and the host's entries are the metrics in
the published order. -/
theorem C12_publish_unsorted_end_to_end (enc : Payload → Bytes) (dec : Bytes → Option Payload)
    (hw : WireSound enc dec) (now : Nat) (s : EdgeState) (hs : s.Ready)
    (ms : List PubMetric) (hne : ms ≠ []) (hwf : ∀ pm ∈ ms, pm.WF) :
    ∃ p s' d, publishUnsorted true now s ms = .handedOver p s' ∧
      s'.seq = (s.seq + 1) % 256 ∧
      hostReceiveData dec (enc p) = .data d ∧
      d.seq = (s.seq + 1) % 256 ∧ d.timestamp = now ∧ InOrder Delivered ms d.metrics :=
  unsorted_of_roundtrip enc dec now s hs ms hne hwf (hw _)

/-- The sorting variants (`publish_metrics`, `try_publish_metrics`): one payload, and the host's
entries are the batch stably sorted by timestamp — a permutation of the batch, ascending, metrics
with equal timestamps in their published order. -/
theorem C12_publish_sorted_end_to_end (enc : Payload → Bytes) (dec : Bytes → Option Payload)
    (hw : WireSound enc dec) (now : Nat) (s : EdgeState) (hs : s.Ready)
    (ms : List PubMetric) (hne : ms ≠ []) (hwf : ∀ pm ∈ ms, pm.WF) :
    ∃ p s' d sorted, publishSorted true now s ms = .handedOver p s' ∧
      s'.seq = (s.seq + 1) % 256 ∧
      hostReceiveData dec (enc p) = .data d ∧
      d.seq = (s.seq + 1) % 256 ∧ d.timestamp = now ∧
      StableSortedByTs ms sorted ∧ InOrder Delivered sorted d.metrics :=
  sorted_of_roundtrip enc dec now s hs ms hne hwf (hw _)

/-- The model's sort is a stable sort by timestamp (permutation, ordered, stable). -/
theorem C12_sort_is_stable (ms : List PubMetric) : StableSortedByTs ms (sortByTs ms) :=
  sortByTs_stable ms

/-- … and those three conditions leave no freedom: whatever list is a permutation of the batch,
ascending by timestamp and keeps equal timestamps in published order IS the order the host sees
(so `Vec::sort_by`, a stable sort, can only produce this order). -/
theorem C12_stable_sort_unique (ms sorted : List PubMetric) (h : StableSortedByTs ms sorted) :
    sorted = sortByTs ms :=
  stable_sorted_unique ms sorted h

/-- An empty batch is refused before anything is handed to the client. -/
theorem C12_empty_batch_refused (b : Bool) (now : Nat) (s : EdgeState) :
    publishUnsorted b now s [] = .refused .noMetrics ∧
    publishSorted b now s [] = .refused .noMetrics := by
  constructor <;> rfl

/-! ### property sets -/

/-- The host's property set equals the edge's *as a map*, whatever order the edge's hash map
happens to be iterated in when it is encoded (`m'` is any permutation of the entries of `m`). -/
theorem C12_props_same_map_any_iteration_order (m m' : UPS) (hp : m'.Perm m)
    (hn : UPS.KeysDistinct m) :
    ∃ h, decPS (encPS m') = .ok h ∧ PropsMatch m h ∧ PropsMatchLeaves m h := by
  obtain ⟨h, h1, h2⟩ := props_roundtrip m m' hp hn
  exact ⟨h, h1, h2, propsMatch_leaves m h h2⟩

/-- Nested property sets and property-set lists: along every path of keys (and list indices) the
host — converting nested values with srad's own `PropertySet::try_from` /
`PropertySetList::try_from` — reads an entry exactly where the edge has one, with the same datatype
and the same leaf (null, the same scalar, a set, a list of the same length). `m` ranges over all
iteration orders at all levels. -/
theorem C12_props_nested (m : UPS) (hw : UPS.WF m) :
    ∃ h, decPS (encPS m) = .ok h ∧
      ∀ (p : Path) (k : Str),
        (HMap.lookup p h k).map (fun e => (e.1, e.2.leaf))
          = (UPS.lookup p m k).map (fun e => (e.1, e.2.leaf)) := by
  refine ⟨hostView m, decPS_encPS m, ?_⟩
  intro p k
  rw [lookup_deep p m hw k]
  cases UPS.lookup p m k with
  | none => rfl
  | some e => simp [leaf_encVal]

/-- The quality of a metric: a set made with `new_with_quality q` carries, after any `insert`s,
the entry `Quality ↦ Int32 q`, it arrives as that entry, and reads back as `q`. The sets the API
builds have distinct keys. -/
theorem C12_quality (q : Quality) :
    UPS.KeysDistinct (UPS.newWithQuality q) ∧
    mapGet (UPS.newWithQuality q) qualityKey = some (some .int32, .sc (.int q.code)) ∧
    Quality.ofCode q.code = some q ∧
    (∀ m m' k dt v, UPS.insert m k dt v = some m' →
        mapGet m' qualityKey = mapGet m qualityKey ∧ (UPS.KeysDistinct m → UPS.KeysDistinct m')) ∧
    (∀ m : UPS, UPS.KeysDistinct m → mapGet m qualityKey = some (some .int32, .sc (.int q.code)) →
        ∃ h, decPS (encPS m) = .ok h ∧ mapGet h qualityKey = some (some .int32, .sc (.int q.code))) := by
  refine ⟨newWithQuality_keysDistinct q, ?_, ?_, ?_, ?_⟩
  · simp [UPS.newWithQuality, mapGet]
  · cases q <;> rfl
  · intro m m' k dt v hi
    exact ⟨insert_keeps_quality m m' k dt v hi, fun hn => insert_keysDistinct m m' k dt v hn hi⟩
  · intro m hn hq
    obtain ⟨h, h1, h2, h3⟩ := C12_props_same_map_any_iteration_order m m (.refl _) hn
    exact ⟨h, h1, h3.1 _ _ _ hq⟩

/-! ### payload property sets on hostile input (the C19 clause on property sets) -/

/-- Decoding a payload property set, a list of them, or a nested value never panics. -/
theorem C12_propset_decode_total (s : PSet) (l : List PSet) (v : PVal) :
    decPS s ≠ .panic ∧ decPSList l ≠ .panic ∧ setOfValue v ≠ .panic ∧ setsOfValue v ≠ .panic := by
  refine ⟨decPS_ne_panic s, decPSList_ne_panic l, ?_, ?_⟩
  · cases v <;> simp [setOfValue, decPS_ne_panic]
  · cases v <;> simp [setsOfValue, decPSList_ne_panic]

/-- A payload property set is accepted exactly when it has as many values as keys and every
value has a value or `is_null = true`, and a type code (if any) below 35; so mismatched counts,
`value = none` without `is_null = true`, or an unknown type code yield an error. -/
theorem C12_propset_accepted_iff (s : PSet) :
    (∃ h, decPS s = .ok h) ↔ PSet.Acceptable s :=
  decPS_ok_iff s

theorem C12_propset_malformed_is_error (s : PSet) (h : ¬ PSet.Acceptable s) : decPS s = .err := by
  cases hd : decPS s with
  | ok m => exact absurd ((decPS_ok_iff s).mp ⟨m, hd⟩) h
  | err => rfl
  | panic => exact absurd hd (decPS_ne_panic s)

/-! ### T-tables: decision tables regenerated from the compiled crates on every run
(`SradModel/Generated/MetricTable.lean`): 1296 marker combinations of a payload metric at the
host, 288 marker combinations of a publish metric at the edge, 648 payload property sets. -/

def hostRowOk : Bool × Bool × Bool × Bool × Option Bool × Option Bool × Option Bool × Nat × HShape → Bool
  | (alias, name, ts, value, nu, hi, tr, props, shape) =>
    decide (hostShape (markerMetric alias name ts value nu hi tr props) = shape)

/-- the compiled host code and the model agree on every marker combination of a payload metric -/
theorem C12_table_host_matches_model : ∀ row ∈ Srad.Generated.metricHostTable, hostRowOk row = true := by
  decide +kernel

def edgeRowOk : (Bool × Bool × Option Bool × Option Bool × Bool × Bool × Bool) × EShape → Bool
  | ((alias, value, tr, hi, ts, md, props), shape) =>
    decide ((edgeEncode (markerPub alias value tr hi ts md props)).markers = shape)

/-- the compiled edge conversion and the model agree on every marker combination of a publish metric -/
theorem C12_table_edge_matches_model : ∀ row ∈ Srad.Generated.metricEdgeTable, edgeRowOk row = true := by
  decide +kernel

def propRowOk : Nat × Nat × Bool × Option Bool × Option Nat × PShape → Bool
  | (nk, nv, value, nu, ty, shape) => decide (propShape (markerPSet nk nv value nu ty) = shape)

/-- the compiled property-set decoder and the model agree on every row -/
theorem C12_table_prop_matches_model : ∀ row ∈ Srad.Generated.metricPropTable, propRowOk row = true := by
  decide +kernel

/-- the compiled `new_with_quality` writes exactly the three quality codes of the model, and the
compiled `Quality::try_from` reads a code back exactly when the model's does -/
theorem C12_table_quality_matches_model :
    (Srad.Generated.metricQualityTable.take 3).map (·.1)
      = [Quality.good.code, Quality.bad.code, Quality.stale.code] ∧
    ∀ row ∈ Srad.Generated.metricQualityTable, (Quality.ofCode row.1).map Quality.code = row.2 := by
  decide +kernel

def ob3 : Option Bool → Nat
  | none => 0 | some true => 1 | some false => 2

/-- the row of `metricHostTable` for the given markers: found by its position in the enumeration order
and checked to carry exactly these markers -/
def hostTableLookup (alias name ts value : Bool) (nu hi tr : Option Bool) (props : Nat) : Option HShape :=
  let idx := ((((((alias.toNat * 2 + name.toNat) * 2 + ts.toNat) * 2 + value.toNat) * 3 + ob3 nu) * 3
    + ob3 hi) * 3 + ob3 tr) * 3 + props
  match Srad.Generated.metricHostTable[idx]? with
  | some r =>
    if r.1 == alias && r.2.1 == name && r.2.2.1 == ts && r.2.2.2.1 == value && r.2.2.2.2.1 == nu &&
      r.2.2.2.2.2.1 == hi && r.2.2.2.2.2.2.1 == tr && r.2.2.2.2.2.2.2.1 == props
    then some r.2.2.2.2.2.2.2.2 else none
  | none => none

def edgeRowDelivered : (Bool × Bool × Option Bool × Option Bool × Bool × Bool × Bool) × EShape → Bool
  | ((alias, value, tr, hi, _ts, _md, props), e) =>
    decide (hostTableLookup e.alias e.name e.timestamp e.value e.isNull e.isHistorical e.isTransient
        (if e.properties then 1 else 0)
      = some (HShape.ok alias (!value) (hi.getD false) (tr.getD false) props))

/-- In the compiled code itself, with no model in between: for every combination of identifier
kind, value/null, flags, timestamp, metadata and properties a user can build, the payload metric
the edge conversion produces is accepted by the host, under the same identifier kind, null exactly
when no value was given, flags with absent = false, properties present exactly when given. -/
theorem C12_table_edge_accepted_by_host :
    ∀ row ∈ Srad.Generated.metricEdgeTable, edgeRowDelivered row = true := by
  decide +kernel

def propRowSpec : Nat × Nat × Bool × Option Bool × Option Nat × PShape → Bool
  | (nk, nv, value, nu, ty, shape) =>
    let malformed := nk != nv || (0 < nk && ((!value && nu != some true) ||
      (match ty with | some c => decide (35 ≤ c) | none => false)))
    if malformed then decide (shape = .err)
    else decide (shape = (if nk = 0 then .ok 0 false none else .ok nk (!value) ty))

/-- In the compiled code itself: mismatched key/value counts, an absent value without
`is_null = true`, or an unknown type code are refused with an error (no panic, no acceptance);
everything else is accepted as the map it denotes. -/
theorem C12_table_prop_malformed_refused :
    ∀ row ∈ Srad.Generated.metricPropTable, propRowSpec row = true := by
  decide +kernel

/-! ### non-vacuity (tests, not the claim) -/

/-- a metric by alias, null, with a two-entry property set holding a nested set -/
def exPm : PubMetric :=
  ((PubMetric.new 1000 none (.alias 7) none).historical true).withProperties
    [([98], some .propertyset, .set [(qualityKey, some .int32, .sc (.int 0))]),
     (qualityKey, some .int32, .sc (.int 192))]

example : exPm.WF := by
  intro m h; cases h; unfold UPS.KeysDistinct; decide
example : UPS.WF [([98], some .propertyset, .set [(qualityKey, some .int32, .sc (.int 0))]),
     (qualityKey, some .int32, .sc (.int 192))] := by
  simp [UPS.WF, entsWF, UVal.WF, encKeys, qualityKey]
example : (edgeEncode exPm).isNull = some true ∧ (edgeEncode exPm).alias = some 7 ∧
    (edgeEncode exPm).isHistorical = some true ∧ (edgeEncode exPm).isTransient = none := by
  decide
example : (sortByTs [PubMetric.new 5 none (.alias 1) none, PubMetric.new 3 none (.alias 2) none,
    PubMetric.new 5 none (.alias 3) none, PubMetric.new 3 none (.alias 4) none]).map (·.id)
    = [.alias 2, .alias 4, .alias 1, .alias 3] := by decide
example : ({ seq := 255, online := true, birthed := true } : EdgeState).Ready := ⟨rfl, rfl⟩
example : getNextSeq { seq := 255, online := true, birthed := true }
    = .ok (0, { seq := 0, online := true, birthed := true }) := by rfl
example : ¬ PSet.Acceptable ([[97]], []) := by simp [PSet.Acceptable]
example : ¬ PSet.Acceptable ([[97]], [(some 35, none, .sc (.int 1))]) := by
  simp [PSet.Acceptable, PPV.Acceptable]
example : PSet.Acceptable ([[97]], [(some 34, some true, .none)]) := by
  simp [PSet.Acceptable, PPV.Acceptable]
example : UPS.lookup [(none, qualityKey)]
    [([98], some .propertyset, .set [(qualityKey, some .int32, .sc (.int 0))])] [98]
    = some (some .int32, .sc (.int 0)) := by rfl

end Srad.Metric
