/-
C20, "shutdown terminates under every scheduler": a potential `termMeasure` that every task step
strictly lowers and that time and late client answers leave alone, the invariants of a shutdown run
(`Term.Good`), and progress (`Term.progress`).
-/
import SradModel.Proofs.EonC20
import SradModel.Proofs.EonC04

namespace Srad.Eon
open Srad.Eon.P20

/-! ### the measure -/

def devRank : DevPc → Nat
  | .idle => 0 | .waitBirth _ _ => 2 | .birthDone _ _ => 1 | .waitDeath _ _ => 1 | .inCb => 1 | .done => 0

/-- remaining work of one device task: every queued node-state message or handle request costs at
most 3 steps (take it, wait for the DBIRTH, finish the birth), every queued DCMD at most 2 -/
def devPot (x : Dev) : Nat := devRank x.pc + 3 * x.nsq.length + 3 * x.hq.length + 2 * x.mq.length

def devsPot : List Dev → Nat
  | [] => 0
  | x :: t => devPot x + devsPot t

def uRank : UPc → Nat
  | .start => 3 | .cancelStop => 2 | .wait _ => 1 | .cancelDisc => 1 | .done => 0

def usersPot : List UCall → Nat
  | [] => 0
  | u :: t => uRank u.pc + usersPot t

/-- weight of one unit of queued node-task work (a `client_state` message, a rebirth request, an
NCMD) with `d` devices: at most 5 node steps and one message to each device (3 steps each) -/
def nodeW (d : Nat) : Nat := 3 * d + 6

/-- weight of one event the MQTT event loop still holds: the loop steps that deliver it and the
node / device work it creates -/
def evW (d : Nat) : Nat := 3 * d + 10

def nodeRank (d : Nat) : NodePc → Nat
  | .idle => 0 | .done => 0
  | .nbDone _ _ _ => 3 * d + 1 | .waitNb _ _ _ => 3 * d + 2 | .birthStart _ _ => 3 * d + 3
  | .subDone _ => 3 * d + 4 | .inCb _ => 3 * d + 4 | .waitSub _ => 3 * d + 5

/-- remaining loop steps from program location `pc` with an empty inbox, including the
`client_state` messages it is still going to send -/
def loopRank (d : Nat) : LoopPc → Nat
  | .done => 0
  | .sendStopped => nodeW d + 1
  | .forceAwaitWill _ => nodeW d + 2
  | .forceSendCs _ => 2 * nodeW d + 3
  | .stopAwaitWill _ => 2 * nodeW d + 4
  | .stopPolling => 2 * nodeW d + 4
  | .stopCheck => 2 * nodeW d + 5
  | .stopSendCs _ => 3 * nodeW d + 5
  | .polling => 2 * nodeW d + 6
  | .sel => 2 * nodeW d + 7
  | .awaitWill _ => 2 * nodeW d + 8
  | .start => 2 * nodeW d + 8
  | .sendCs _ => 3 * nodeW d + 9

/-- **The termination measure**: an upper bound on the number of task steps that can still be
taken when no new stimulus arrives. A sum of potentials (a weighted encoding of the
lexicographic order loop phase > undelivered events > node work > device work > user calls):
each component bounds the remaining steps of one task *plus* the work those steps create for
the other tasks. It does not mention the clock. -/
def termMeasure (s : St) : Nat :=
  loopRank s.devs.length s.loop + evW s.devs.length * s.inbox.length
  + (nodeRank s.devs.length s.node + (if s.cs.isSome then nodeW s.devs.length else 0)
      + (if s.rebirthQ then nodeW s.devs.length else 0) + nodeW s.devs.length * s.msgQ.length)
  + devsPot s.devs + usersPot s.ucalls

namespace Term

theorem nodeW_eq (d : Nat) : nodeW d = 3 * d + 6 := rfl
theorem evW_eq (d : Nat) : evW d = 3 * d + 10 := rfl

theorem devsPot_append (a b : List Dev) : devsPot (a ++ b) = devsPot a + devsPot b := by
  induction a with
  | nil => simp [devsPot]
  | cons x t ih => simp only [List.cons_append, devsPot, ih]; omega

theorem devsPot_setDev {u : Nat} {l : List Dev} {x x' : Dev} (h : findUid u l = some x) (hu : x'.uid = u) :
    devsPot (setDev x' l) + devPot x = devsPot l + devPot x' := by
  obtain ⟨a, b, rfl, hs⟩ := setDev_split h x' hu
  simp only [hs, devsPot_append, devsPot]
  omega

theorem devsPot_pushAll_le (m : NS) (l : List Dev) : devsPot (pushAll m l) ≤ devsPot l + 3 * l.length := by
  induction l with
  | nil => exact Nat.le_refl _
  | cons x t ih =>
    simp only [pushAll, List.map_cons, devsPot, List.length_cons] at ih ⊢
    split
    · simp only [devPot, List.length_append, List.length_cons, List.length_nil]; omega
    · omega

theorem usersPot_setUCall {j : Nat} {l : List UCall} {u u' : UCall} (h : l.find? (·.j == j) = some u) (hj : u'.j = u.j) :
    usersPot (setUCall u' l) + uRank u.pc = usersPot l + uRank u'.pc := by
  induction l with
  | nil => cases h
  | cons v t ih =>
    have huj : u.j = j := by simpa using List.find?_some h
    simp only [List.find?_cons] at h
    simp only [setUCall, hj, huj]
    split at h
    · next hv => cases h; simp only [hv, ↓reduceIte, usersPot]; omega
    · next hv => have := ih h; simp only [hv, Bool.false_eq_true, ↓reduceIte, usersPot]; omega

theorem termMeasure_setUCall {s : St} {j : Nat} {u : UCall} (h : s.ucalls.find? (·.j == j) = some u) {P : UPc}
    (hP : uRank P < uRank u.pc) (sq : Nat) (cl : List Call) (st sp : Bool) :
    termMeasure { s with seq := sq, calls := cl, stopping := st, stop := sp,
                         ucalls := setUCall { u with pc := P } s.ucalls } < termMeasure s := by
  have := usersPot_setUCall (u' := { u with pc := P }) h rfl
  simp only [termMeasure] at this ⊢
  omega

/-! ### every task step lowers the measure

Where the ranks come from. A `client_state` message, a rebirth request or an NCMD costs the node task
`nodeW d = 3 d + 6`: the longest chain it starts is idle → `waitSub` (3d+5) → `subDone` → `birthStart` →
`waitNb` → `nbDone` (3d+1) → idle, one step each, the last one (`birth_devices`; likewise `on_death`) queueing
one message (3) for each of the `d` devices. `loopRank` counts the loop's remaining steps plus `nodeW` for
every `client_state` message it has yet to send: a step that fills the slot raises the node part by `nodeW`,
so it lowers the rank by `nodeW + 1` (`stopSendCs` 3·nodeW+5 → `stopAwaitWill` 2·nodeW+4 → … → `sendStopped`
nodeW+1 → `done`); the timeout moves to a lower `force*` rank. A polled event is worth `evW d = 3 d + 10`: at
worst `polling` (2·nodeW+6) goes to `sendCs` (3·nodeW+9), and an NCMD adds `nodeW`, a DCMD 2 to its device. -/

theorem loopHandle_dec {s s' : St} {e : Ev} (hu : P04.UidOk s.devs) (hl : s.loop = .polling) (h : LoopHandle s e s') :
    termMeasure s' < termMeasure s + evW s.devs.length := by
  have hK := nodeW_eq s.devs.length
  have hE := evW_eq s.devs.length
  cases h with
  | dcmd d ts x hx =>
    have := devsPot_setDev (x' := { x with mq := x.mq ++ [ts] }) (findUid_of_mem hu.nodup (findReg_some hx).1) rfl
    simp only [devPot, List.length_append, List.length_cons, List.length_nil] at this
    simp only [termMeasure, hl, loopRank, setDev_length]
    omega
  | _ =>
    simp only [termMeasure, loopRank, *, Option.isSome_some, Option.isSome_none, ↓reduceIte, Bool.false_eq_true,
      List.length_append, List.length_cons, List.length_nil, Nat.mul_add]
    omega

theorem loop_dec {s s' : St} {o : List Obs} (hu : P04.UidOk s.devs) (h : LoopStep s s' o) :
    termMeasure s' < termMeasure s := by
  have hK := nodeW_eq s.devs.length
  have hE := evW_eq s.devs.length
  cases h with
  | polled e rest s' hpc hin hh =>
    have := loopHandle_dec (s := { s with inbox := rest }) hu hpc hh
    simp only [termMeasure, hin, List.length_cons, Nat.mul_add, Nat.mul_one] at this ⊢
    omega
  | stopReq hpc | lastWill _ _ hpc | lastWillDropped _ hpc =>
    rcases hpc with hpc | hpc <;> simp only [termMeasure, hpc, loopRank] <;> omega
  | _ =>
    simp only [termMeasure, loopRank, *, Option.isSome_some, Option.isSome_none, ↓reduceIte, Bool.false_eq_true,
      List.length_cons, Nat.mul_add]
    omega

theorem timeout_dec {s s' : St} {o : List Obs} (h : TimeoutStep s s' o) : termMeasure s' < termMeasure s := by
  have hK := nodeW_eq s.devs.length
  cases h with
  | force dl _ _ hp hc | forceBusy dl m _ _ hp hc =>
    rcases hp with hp | hp | ⟨o, hp⟩ | ⟨o, hp⟩ <;>
      simp only [termMeasure, loopRank, hp, hc, Option.isSome_some, Option.isSome_none, ↓reduceIte, Bool.false_eq_true] <;> omega

theorem node_dec {s s' : St} {dec : Dec} {o : List Obs} (h : NodeStep s dec s' o) : termMeasure s' < termMeasure s := by
  have hK := nodeW_eq s.devs.length
  cases h with
  | offline o hpc hcs =>
    have := devsPot_pushAll_le .death s.devs
    simp only [termMeasure, nodeRank, hpc, hcs, pushAll_length, Option.isSome_some, Option.isSome_none, ↓reduceIte,
      Bool.false_eq_true]
    omega
  | nbOk bt fc hpc =>
    have := devsPot_pushAll_le (.birth bt s.epoch) s.devs
    simp only [termMeasure, nodeRank, hpc, pushAll_length]
    omega
  | onlineSub hpc hcs | birthStart bt fc hpc =>
    cases outcome false dec <;>
      simp only [termMeasure, nodeRank, afterCall, *, Option.isSome_some, Option.isSome_none, ↓reduceIte, Bool.false_eq_true] <;>
      omega
  | _ =>
    simp only [termMeasure, nodeRank, *, Option.isSome_some, Option.isSome_none, ↓reduceIte, Bool.false_eq_true,
      List.length_cons, Nat.mul_add]
    omega

theorem termMeasure_setDev {s : St} {u : Nat} {x x' : Dev} (h : findUid u s.devs = some x) (hu : x'.uid = x.uid) :
    termMeasure { s with devs := setDev x' s.devs } + devPot x = termMeasure s + devPot x' := by
  have := devsPot_setDev h (hu.trans (findUid_some h).2)
  simp only [termMeasure, setDev_length]
  omega

theorem termMeasure_setPc {s : St} {x : Dev} (hf : findUid x.uid s.devs = some x) (hpc : x.pc = .idle)
    (fl : Bool) (P : DevPc) (sq : Nat) (cl : List Call) :
    termMeasure { s with seq := sq, calls := cl, devs := setDev { x with flag := fl, pc := P } s.devs } =
      termMeasure s + devRank P := by
  have := termMeasure_setDev (x' := { x with flag := fl, pc := P }) hf rfl
  simp only [termMeasure, devPot, devRank, hpc] at this ⊢
  omega

theorem devBirth_dec {s s' : St} {x : Dev} {bt : BT} {req : Option Nat} {dec : Dec} {o : List Obs}
    (h : DevBirth s x bt req dec s' o) (hf : findUid x.uid s.devs = some x) (hpc : x.pc = .idle) :
    termMeasure s' ≤ termMeasure s + 2 := by
  cases h with
  | handed =>
    rw [termMeasure_setPc hf hpc]
    refine Nat.add_le_add_left ?_ _
    cases outcome false dec
    · exact Nat.le_refl 2
    · exact Nat.le_succ 1
  | _ => exact Nat.le_add_right ..

theorem devDeath_dec {s s' : St} {x : Dev} {pub thenDone : Bool} {dec : Dec} {o : List Obs}
    (h : DevDeath s x pub thenDone dec s' o) (hf : findUid x.uid s.devs = some x) (hpc : x.pc = .idle) :
    termMeasure s' ≤ termMeasure s + 1 := by
  have hfin : devRank (if thenDone = true then DevPc.done else DevPc.idle) = 0 := by cases thenDone <;> rfl
  cases h with
  | handed =>
    rw [termMeasure_setPc hf hpc]
    refine Nat.add_le_add_left ?_ _
    cases outcome false dec
    · exact Nat.le_refl 1
    · exact hfin ▸ Nat.zero_le 1
  | _ => rw [termMeasure_setPc hf hpc, hfin]; exact Nat.le_add_right ..

theorem dev_take {s : St} {u : Nat} {x : Dev} (hx : findUid u s.devs = some x) (x1 : Dev) (hu1 : x1.uid = x.uid)
    (hpot : devPot x1 + 3 ≤ devPot x) :
    findUid x1.uid { s with devs := setDev x1 s.devs }.devs = some x1 ∧
      termMeasure { s with devs := setDev x1 s.devs } + 3 ≤ termMeasure s := by
  have hu := hu1.trans (findUid_some hx).2
  refine ⟨by rw [hu]; exact findUid_setDev hx hu, ?_⟩
  have := termMeasure_setDev (x' := x1) hx hu1
  omega

theorem dev_dec {s s' : St} {u : Nat} {dec : Dec} {o : List Obs} (h : DevStep s u dec s' o) :
    termMeasure s' < termMeasure s := by
  -- taking a queued message or request frees 3, the birth or death it asks for costs at most 2
  have take : ∀ {x : Dev}, findUid u s.devs = some x → ∀ x1 : Dev, x1.uid = x.uid → devPot x1 + 3 ≤ devPot x →
      ∀ {s'}, (findUid x1.uid { s with devs := setDev x1 s.devs }.devs = some x1 →
        termMeasure s' ≤ termMeasure { s with devs := setDev x1 s.devs } + 2) → termMeasure s' < termMeasure s :=
    fun hx x1 hu hp _ hs' => by have := dev_take hx x1 hu hp; have := hs' this.1; omega
  have lower : ∀ {x x' : Dev}, findUid u s.devs = some x → x'.uid = x.uid → devPot x' < devPot x →
      termMeasure { s with devs := setDev x' s.devs } < termMeasure s :=
    fun hx hu hp => by have := termMeasure_setDev hx hu; omega
  cases h with
  | nsBirth x bt ep rest hx hpc hq hb =>
    exact take hx { x with nsq := rest } rfl (by simp only [devPot, hq, List.length_cons]; omega) fun hf => devBirth_dec hb hf hpc
  | nsDeath x rest hx hpc hq hd | nsRemoved x rest hx hpc hq hd =>
    exact take hx { x with nsq := rest } rfl (by simp only [devPot, hq, List.length_cons]; omega) fun hf =>
      Nat.le_trans (devDeath_dec hd hf hpc) (Nat.le_succ _)
  | enable x rest hx hpc _ hq hb =>
    exact take hx { x with hq := rest, enabled := true } rfl (by simp only [devPot, hq, List.length_cons]; omega)
      fun hf => devBirth_dec hb hf hpc
  | rebirth x rest hx hpc _ hq hb =>
    exact take hx { x with hq := rest } rfl (by simp only [devPot, hq, List.length_cons]; omega) fun hf => devBirth_dec hb hf hpc
  | disable x rest hx hpc _ hq hd =>
    exact take hx { x with hq := rest, enabled := false } rfl (by simp only [devPot, hq, List.length_cons]; omega) fun hf =>
      Nat.le_trans (devDeath_dec hd hf hpc) (Nat.le_succ _)
  | deathResolved x id thenDone ok hx hpc =>
    exact lower hx rfl (by cases thenDone <;> simp only [devPot, devRank, hpc, Bool.false_eq_true, if_true, if_false] <;> omega)
  | dcmdBad x rest hx hpc _ _ hm | dcmd x rest hx hpc _ _ hm =>
    exact lower hx rfl (by simp only [devPot, devRank, hpc, hm, List.length_cons]; omega)
  | birthResolved x id ep ok hx hpc | birthOk x ep hx hpc | birthFailed x ep hx hpc | cbReturn x hx hpc =>
    exact lower hx rfl (by simp only [devPot, devRank, hpc]; omega)

theorem user_dec {s s' : St} {j : Nat} {dec : Dec} {o : List Obs} (h : UserStep s j dec s' o) :
    termMeasure s' < termMeasure s := by
  cases h with
  | pubNode u isTry n hu _ hp | pubDev u d isTry n x hu _ hp =>
    exact termMeasure_setUCall hu (by cases outcome isTry dec <;> simp [hp, uRank, afterCall]) ..
  | pubEmpty u t isTry hu _ hp | pubRefused u t isTry n e hu _ hp | pubResolved u t isTry n id ok hu _ hp
  | cancelIdle u hu _ hp | cancelStart u hu _ hp | cancelStopGone u hu _ hp | cancelStop u hu _ hp
  | cancelDisc u hu _ hp =>
    exact termMeasure_setUCall hu (by simp [hp, uRank]) ..

theorem step_dec {s s' : St} {t : Task} {dec : Dec} {o : List Obs} (hu : P04.UidOk s.devs)
    (h : (s', o) ∈ step s t dec) : termMeasure s' < termMeasure s := by
  cases t with
  | loop => exact loop_dec hu (.of_mem h)
  | loopTimeout => exact timeout_dec (.of_mem h)
  | node => exact node_dec (.of_mem h)
  | dev u => exact dev_dec (.of_mem h)
  | user j => exact user_dec (.of_mem h)

theorem advance_measure (s : St) (ms : Nat) : termMeasure (applyStim s (.advance ms)).1 = termMeasure s := rfl

theorem uidOk_runActs {acts : List Act} {s s' : St} {tr : List Obs} (hu : P04.UidOk s.devs)
    (h : runActs s acts = some (s', tr)) : P04.UidOk s'.devs :=
  runActs_induct (P := fun s _ => P04.UidOk s.devs) hu (fun _ _ _ _ hp hs => hp.step hs) acts h

theorem uidOk_reach {cd : Nat} {acts : List Act} {s : St} {tr : List Obs}
    (h : runActs (init cd) acts = some (s, tr)) : P04.UidOk s.devs := uidOk_runActs (s := init cd) rfl h

end Term

/-! ### schedules -/

/-- what happens in a shutdown run without new work arriving: the scheduler runs a task (the
client may answer a hand-over as it likes — accept, reject, park — except that it does not park
a hand-over of the **node task**, i.e. a SUB or an NBIRTH), time passes, or the client answers a
call it had parked earlier. No event from the MQTT event loop, no new API call, no callback gate
closed. -/
def Act.isSched : Act → Bool
  | .task .node dec _ => dec != .park
  | .task _ _ _ => true
  | .stim (.advance _) => true
  | .stim (.resolve _ _) => true
  | .stim _ => false

/-- the same, client decisions unrestricted (any hand-over may be parked) -/
def Act.isInternal : Act → Bool
  | .task _ _ _ => true
  | .stim (.advance _) => true
  | .stim (.resolve _ _) => true
  | .stim _ => false

def taskCount : List Act → Nat
  | [] => 0
  | .task _ _ _ :: t => taskCount t + 1
  | .stim _ :: t => taskCount t


namespace Term

theorem isInternal_of_isSched {a : Act} (h : a.isSched = true) : a.isInternal = true := by
  cases a with
  | task t dec k => rfl
  | stim x => cases x <;> exact h

/-- the passage of time and a late answer of the client are invisible to the measure, to the event loop and to
the node task, and no answer is taken back -/
theorem stim_internal {s s' : St} {x : Stim} {o : List Obs} (ha : (Act.stim x).isInternal = true)
    (h : StimStep s x s' o) :
    termMeasure s' = termMeasure s ∧ s'.loop = s.loop ∧ s'.stop = s.stop ∧ s'.node = s.node ∧
    s'.nodeCbPark = s.nodeCbPark ∧ ∀ i, (callRes s i).isSome = true → (callRes s' i).isSome = true := by
  cases h with
  | resolve id ok c hc hr =>
    refine ⟨rfl, rfl, rfl, rfl, rfl, fun i hi => ?_⟩
    rw [callRes_set (s' := { s with calls := s.calls.set id { c with res := some ok } }) rfl hc]
    split
    · rfl
    · exact hi
  | resolveDone | resolveNone | advance => exact ⟨rfl, rfl, rfl, rfl, rfl, fun _ h => h⟩
  | _ => cases ha

theorem runAct_dec {s s' : St} {a : Act} {o : List Obs} (hu : P04.UidOk s.devs) (ha : a.isInternal = true)
    (h : runAct s a = some (s', o)) : taskCount [a] + termMeasure s' ≤ termMeasure s := by
  cases a with
  | task t dec k => exact Nat.add_comm .. ▸ step_dec hu (List.mem_of_getElem? h)
  | stim x => exact Nat.le_of_eq ((Nat.zero_add _).trans (stim_internal ha (.of_runAct h)).1)

theorem taskCount_cons (a : Act) (l : List Act) : taskCount (a :: l) = taskCount [a] + taskCount l := by
  cases a <;> simp [taskCount]; omega

theorem runActs_bound (sched : List Act) (s s' : St) (tr : List Obs) (hu : P04.UidOk s.devs)
    (hall : ∀ a ∈ sched, a.isInternal = true) (h : runActs s sched = some (s', tr)) :
    taskCount sched + termMeasure s' ≤ termMeasure s := by
  refine runActs_sched_induct (R := fun s sched s' _ => P04.UidOk s.devs → taskCount sched + termMeasure s' ≤ termMeasure s)
    (fun _ _ => Nat.le_of_eq (Nat.zero_add _)) (fun ha h₁ ih hu => ?_) sched hall h hu
  have := runAct_dec hu ha h₁
  have := ih (hu.step (.of_runAct h₁))
  rw [taskCount_cons]
  omega

end Term

/-! ### shutdown runs -/

/-- the stop has been signalled: `run` has started and either the stop message is still in its
channel or the loop has left its main loop -/
def Stopping (s : St) : Prop := s.loop ≠ .start ∧ (s.stop = true ∨ stopPhase s.loop = true)

/-- the node task is not held up by its environment: it is not inside an `on_ncmd` callback that
never returns, and the client call it waits for (SUB, NBIRTH), if any, has been answered -/
def NodeFree (s : St) : Prop :=
  s.nodeCbPark = false ∧ ∀ id, nodeWait s.node = some id → (callRes s id).isSome = true

/-- nothing left to run: no task step is enabled (whatever the client would answer) and the
shutdown timer, if armed, has expired -/
def Quiescent (s : St) : Prop :=
  (∀ (t : Task) (dec : Dec) (k : Nat), dec ≠ Dec.park → (step s t dec)[k]? = none) ∧ (∀ dl, s.stopDeadline = some dl → dl ≤ s.wall)


namespace Term

/-- the fields only the node task writes (the clock excepted, which the cooldown test reads) -/
def NodeOwned (s s' : St) : Prop :=
  s'.node = s.node ∧ s'.lastRebirthReq = s.lastRebirthReq ∧ s'.cooldown = s.cooldown ∧ s'.birthed = s.birthed ∧
  s'.epoch = s.epoch ∧ s'.bdseq = s.bdseq ∧ s'.online = s.online ∧ s'.msgQ.length ≥ s.msgQ.length

def noNcmdCb : List Obs → Bool
  | [] => true
  | .cbNcmd :: _ => false
  | _ :: t => noNcmdCb t

theorem noNcmdCb_spec {o : List Obs} (h : noNcmdCb o = true) : Obs.cbNcmd ∉ o := by
  induction o with
  | nil => simp
  | cons a t ih => cases a <;> simp_all [noNcmdCb]

/-- what a step of any other task looks like from the node task -/
def Other (s s' : St) (o : List Obs) : Prop :=
  NodeOwned s s' ∧ s'.nodeCbPark = s.nodeCbPark ∧ noNcmdCb o = true ∧ ∃ cs, s'.calls = s.calls ++ cs

/-- `Other` for a rule whose successor is a record update of `s`: every fact is `rfl` unless given -/
theorem Other.of_update {s s' : St} {o : List Obs} (h1 : s'.node = s.node := by rfl)
    (h2 : s'.lastRebirthReq = s.lastRebirthReq := by rfl) (h3 : s'.cooldown = s.cooldown := by rfl)
    (h4 : s'.birthed = s.birthed := by rfl) (h5 : s'.epoch = s.epoch := by rfl) (h6 : s'.bdseq = s.bdseq := by rfl)
    (h7 : s'.online = s.online := by rfl) (hq : s'.msgQ.length ≥ s.msgQ.length := by exact Nat.le_refl _)
    (hcb : s'.nodeCbPark = s.nodeCbPark := by rfl) (ho : noNcmdCb o = true := by rfl)
    (hc : ∃ cs, s'.calls = s.calls ++ cs := by exact ⟨[], (List.append_nil _).symm⟩) : Other s s' o :=
  ⟨⟨h1, h2, h3, h4, h5, h6, h7, hq⟩, hcb, ho, hc⟩

theorem loopHandle_frame {s s' : St} {e : Ev} (h : LoopHandle s e s') : s'.stop = s.stop ∧ s'.loop ≠ .start := by
  cases h <;> exact ⟨rfl, nofun⟩

theorem loop_other {s s' : St} {o : List Obs} (h : LoopStep s s' o) : Other s s' o := by
  cases h with
  | polled _ _ _ _ _ hh => cases hh <;> first | exact .of_update | exact .of_update (hq := by simp)
  | _ => exact .of_update

theorem timeout_other {s s' : St} {o : List Obs} (h : TimeoutStep s s' o) :
    Other s s' o ∧ stopPhase s'.loop = true ∧ s'.loop ≠ .start := by
  cases h <;> exact ⟨.of_update, rfl, nofun⟩

theorem node_frame {s s' : St} {dec : Dec} {o : List Obs} (h : NodeStep s dec s' o) :
    s'.loop = s.loop ∧ s'.stop = s.stop ∧ s'.nodeCbPark = s.nodeCbPark := by
  rw [h.frame]; exact ⟨rfl, rfl, rfl⟩

theorem dev_other {s s' : St} {u : Nat} {dec : Dec} {o : List Obs} (h : DevStep s u dec s' o) :
    Other s s' o ∧ s'.loop = s.loop ∧ s'.stop = s.stop := by
  have obs : noNcmdCb o = true ∧ ∃ cs, s'.calls = s.calls ++ cs := by
    have birth : ∀ {s x bt req s' o}, DevBirth s x bt req dec s' o → noNcmdCb o = true ∧ ∃ cs, s'.calls = s.calls ++ cs :=
      fun h => by cases h <;> first | exact ⟨rfl, [], (List.append_nil _).symm⟩ | exact ⟨rfl, _, rfl⟩
    have death : ∀ {s x p t s' o}, DevDeath s x p t dec s' o → noNcmdCb o = true ∧ ∃ cs, s'.calls = s.calls ++ cs :=
      fun h => by cases h <;> first | exact ⟨rfl, [], (List.append_nil _).symm⟩ | exact ⟨rfl, _, rfl⟩
    induction h using DevStep.split with
    | birth hb => exact (birth hb :)
    | death hd => exact (death hd :)
    | quiet | cb => exact ⟨rfl, [], (List.append_nil _).symm⟩
  rw [h.frame]
  exact ⟨.of_update (ho := obs.1) (hc := obs.2), rfl, rfl⟩

theorem user_other {s s' : St} {j : Nat} {dec : Dec} {o : List Obs} (h : UserStep s j dec s' o) :
    Other s s' o ∧ s'.loop = s.loop ∧ (s.stop = true → s'.stop = true) := by
  have obs : (noNcmdCb o = true ∧ ∃ cs, s'.calls = s.calls ++ cs) ∧ (s.stop = true → s'.stop = true) := by
    cases h with
    | pubNode | pubDev => exact ⟨⟨by cases outcome _ dec <;> rfl, _, rfl⟩, id⟩
    | cancelStart | cancelDisc => exact ⟨⟨rfl, _, rfl⟩, id⟩
    | cancelStop => exact ⟨⟨rfl, [], (List.append_nil _).symm⟩, fun _ => rfl⟩
    | _ => exact ⟨⟨rfl, [], (List.append_nil _).symm⟩, id⟩
  rw [h.frame]
  exact ⟨.of_update (ho := obs.1.1) (hc := obs.1.2), rfl, obs.2⟩

theorem loop_stopping {s s' : St} {o : List Obs} (hs : Stopping s) (h : LoopStep s s' o) : Stopping s' := by
  -- in the main loop the stop signal is still queued and the loop leaves it there until it takes it;
  -- from the shutdown phase there is no way back
  have main : ∀ {pc}, s.loop = pc → stopPhase pc = false → s.stop = true :=
    fun h hp => hs.2.resolve_right (by rw [h, hp]; nofun)
  cases h with
  | start hpc => exact absurd hpc hs.1
  | polled e rest s' hpc hin hh =>
    exact ⟨(loopHandle_frame hh).2, .inl ((loopHandle_frame hh).1.trans (main hpc rfl))⟩
  | poll hpc | sendCs _ hpc | sendCsOffline _ hpc | will _ _ hpc | willDropped _ hpc => exact ⟨nofun, .inl (main hpc rfl)⟩
  | _ => exact ⟨nofun, .inr rfl⟩

theorem NodeFree_ext {s s' : St} (hi : Inv s) (hf : NodeFree s) (hn : s'.node = s.node) (hcb : s'.nodeCbPark = s.nodeCbPark)
    (hc : ∃ cs, s'.calls = s.calls ++ cs) : NodeFree s' := by
  obtain ⟨cs, hc⟩ := hc
  refine ⟨hcb.trans hf.1, fun id hid => ?_⟩
  rw [hn] at hid
  rw [callRes_append hc (hi.wait_lt id hid)]
  exact hf.2 id hid

theorem node_nowait {s s' : St} {dec : Dec} {o : List Obs} (hd : dec ≠ .park) (h : NodeStep s dec s' o) :
    nodeWait s'.node = none := by
  obtain ⟨ok, hok⟩ := outcome_of_ne_park false hd
  cases h with
  | onlineSub | birthStart => rw [hok]; rfl
  | onlineStopping hpc | onlineDup hpc | offlineDup _ hpc | offline _ hpc | rebirthReqDrop hpc | ncmdBad _ _ hpc =>
    exact congrArg nodeWait hpc
  | _ => rfl

structure Good (s : St) : Prop where
  inv : Inv s
  uid : P04.UidOk s.devs
  stopping : Stopping s
  free : NodeFree s

theorem Good_runAct {s s' : St} {a : Act} {o : List Obs} (hg : Good s) (ha : a.isSched = true)
    (h : runAct s a = some (s', o)) : Good s' := by
  suffices Stopping s' ∧ NodeFree s' from ⟨Inv_runAct hg.inv h, hg.uid.step (.of_runAct h), this.1, this.2⟩
  have keep : s'.loop = s.loop → (s.stop = true → s'.stop = true) → Stopping s' :=
    fun hl hst => ⟨hl ▸ hg.stopping.1, hl ▸ hg.stopping.2.imp_left hst⟩
  have ext : ∀ {o}, Other s s' o → NodeFree s' := fun h => NodeFree_ext hg.inv hg.free h.1.1 h.2.1 h.2.2.2
  cases a with
  | stim x =>
    obtain ⟨-, hl, hst, hn, hcb, hres⟩ := stim_internal (isInternal_of_isSched ha) (.of_runAct h)
    exact ⟨keep hl hst.trans, hcb.trans hg.free.1, fun id hid => hres id (hg.free.2 id (hn ▸ hid))⟩
  | task t dec k =>
    have hm := List.mem_of_getElem? (a := (s', o)) h
    cases t with
    | loop =>
      have hr : LoopStep s s' o := .of_mem hm
      exact ⟨loop_stopping hg.stopping hr, ext (loop_other hr)⟩
    | loopTimeout =>
      obtain ⟨h1, h2, h3⟩ := timeout_other (s' := s') (.of_mem hm)
      exact ⟨⟨h3, .inr h2⟩, ext h1⟩
    | node =>
      have hr : NodeStep s dec s' o := .of_mem hm
      obtain ⟨h1, h2, h3⟩ := node_frame hr
      refine ⟨keep h1 h2.trans, h3.trans hg.free.1, fun id hid => ?_⟩
      rw [node_nowait (by simpa [Act.isSched] using ha) hr] at hid
      cases hid
    | dev u =>
      obtain ⟨h1, h2, h3⟩ := dev_other (s' := s') (.of_mem hm)
      exact ⟨keep h2 h3.trans, ext h1⟩
    | user j =>
      obtain ⟨h1, h2, h3⟩ := user_other (s' := s') (.of_mem hm)
      exact ⟨keep h2 h3, ext h1⟩

theorem Good_runActs (sched : List Act) (s s' : St) (tr : List Obs) (hg : Good s)
    (hall : ∀ a ∈ sched, a.isSched = true) (h : runActs s sched = some (s', tr)) : Good s' :=
  runActs_sched_induct (R := fun s _ s' _ => Good s → Good s') (fun _ hg => hg)
    (fun ha h₁ ih hg => ih (Good_runAct hg ha h₁)) sched hall h hg

theorem Good_reach {cd : Nat} {acts : List Act} {s : St} {tr : List Obs}
    (h : runActs (init cd) acts = some (s, tr)) (hs : Stopping s) (hf : NodeFree s) : Good s :=
  ⟨Inv_reach h, uidOk_reach h, hs, hf⟩

theorem NodeFree_of_resolved {s : St} (hi : Inv s) (hnopark : ∀ c ∈ s.calls, c.res.isSome = true)
    (hcb : s.nodeCbPark = false) : NodeFree s := by
  refine ⟨hcb, fun id hid => ?_⟩
  obtain ⟨ok, hok⟩ := callRes_some hnopark (hi.wait_lt id hid)
  simp [hok]

/-! ### progress -/

theorem ne_nil_enabled {α : Type} {l : List α} (h : l ≠ []) : l[0]? ≠ none := by
  cases l <;> simp_all

/-- **Progress**: in a shutdown run whose loop has not returned, some task can step — or
`poll_until_offline` is blocked in `poll()` with nothing to return and the 1 s timer has not
expired yet, in which case the timeout task can step once the clock reaches the deadline -/
theorem progress {s : St} (hg : Good s) (hnd : s.loop ≠ .done) :
    (∃ (t : Task) (dec : Dec) (k : Nat), dec ≠ Dec.park ∧ (step s t dec)[k]? ≠ none) ∨
    (∃ dl, s.stopDeadline = some dl ∧ s.wall < dl ∧ s.loop = .stopPolling ∧ s.inbox = [] ∧
      (step (applyStim s (.advance (dl - s.wall))).1 .loopTimeout .acc)[0]? ≠ none) := by
  obtain ⟨hi, -, hs, hf⟩ := hg
  have en {q : Prop} {t r} (h : r ∈ step s t .acc) :
      (∃ (t : Task) (dec : Dec) (k : Nat), dec ≠ Dec.park ∧ (step s t dec)[k]? ≠ none) ∨ q :=
    .inl ⟨t, .acc, 0, by decide, ne_nil_enabled (List.ne_nil_of_mem h)⟩
  cases hc : s.cs with
  | some _ =>
    obtain ⟨_, _, hr⟩ := node_ready hi hf.1 (fun id h => Option.isSome_iff_exists.1 (hf.2 id h)) (by rw [hc]; rfl) hnd .acc
    exact en (t := .node) hr.mem
  | none =>
  have loop {q : Prop} {s' o} (h : LoopStep s s' o) := en (q := q) (t := .loop) h.mem
  cases ht : timed s.loop with
  | false =>
    have hm : mainPc s.loop = true → s.stop = true := fun h =>
      hs.2.resolve_right (by revert h; cases s.loop <;> simp)
    obtain ⟨_, _, h, -⟩ := loop_ready hi hc hm hs.1 hnd ht
    exact loop h
  | true =>
  -- `poll_until_offline`: the loop goes on by itself unless `poll` has nothing to return
  cases hl : s.loop with
  | stopCheck =>
    cases ho : s.online with
    | false => exact loop (.stopOffline hl ho)
    | true => exact loop (.stopPoll hl ho)
  | stopPolling =>
    cases hin : s.inbox with
    | cons e rest =>
      by_cases he : e = .offline
      · exact loop (.stopPolledOffline rest hl (he ▸ hin) hc)
      · exact loop (.stopPolled e rest hl hin he)
    | nil =>
      obtain ⟨dl, hdl⟩ := Option.isSome_iff_exists.1 (hi.dl_some (hl ▸ rfl))
      have hp : PollingOffline s.loop := .inr (.inl hl)
      by_cases hle : dl ≤ s.wall
      · exact en (t := .loopTimeout) (TimeoutStep.force dl hdl hle hp hc).mem
      · exact .inr ⟨dl, hdl, by omega, rfl, rfl, ne_nil_enabled (List.ne_nil_of_mem
          (TimeoutStep.force (s := { s with wall := s.wall + (dl - s.wall) }) dl hdl (by simp only; omega) hp hc).mem)⟩
  | stopSendCs o => exact loop (.stopSendCs o hl hc)
  | stopAwaitWill o =>
    obtain ⟨r, hr⟩ := reply_ready hi hc (o := o) (hl ▸ rfl)
    cases r with
    | some bd => exact loop (.lastWill o bd (.inl hl) hr)
    | none => exact loop (.lastWillDropped o (.inl hl) hr)
  | _ => rw [hl] at ht; cases ht

theorem quiescent_done {s : St} (hg : Good s) (hq : Quiescent s) : s.loop = .done := by
  apply Classical.byContradiction
  intro hnd
  rcases progress hg hnd with ⟨t, dec, k, hd, he⟩ | ⟨dl, hdl, hlt, -⟩
  · exact he (hq.1 t dec k hd)
  · have := hq.2 dl hdl; omega

theorem progress_step {s : St} (hg : Good s) (hnd : s.loop ≠ .done) :
    ∃ pre s1 o1, (∀ a ∈ pre, Act.isSched a = true) ∧ runActs s pre = some (s1, o1) ∧ Good s1 ∧
      termMeasure s1 < termMeasure s := by
  rcases progress hg hnd with ⟨t, dec, k, hd, he⟩ | ⟨dl, -, -, -, -, he⟩
  · obtain ⟨⟨s1, o1⟩, h1⟩ := Option.ne_none_iff_exists'.1 he
    have hs : Act.isSched (.task t dec k) = true := by cases t <;> simp [Act.isSched, hd]
    exact ⟨[_], s1, o1, fun a ha => List.mem_singleton.1 ha ▸ hs, runActs_single h1, Good_runAct hg hs h1,
      step_dec hg.uid (List.mem_of_getElem? h1)⟩
  · -- let the clock reach the deadline, then the timer fires
    obtain ⟨⟨s1, o1⟩, h1⟩ := Option.ne_none_iff_exists'.1 he
    have h1 : runAct (applyStim s (.advance (dl - s.wall))).1 (.task .loopTimeout .acc 0) = some (s1, o1) := h1
    have hg0 : Good (applyStim s (.advance (dl - s.wall))).1 :=
      Good_runAct (a := .stim (.advance (dl - s.wall))) hg rfl rfl
    refine ⟨[.stim (.advance (dl - s.wall)), _], s1, o1, ?_,
      runActs_append (a := [_]) (b := [_]) (t1 := []) (runActs_single rfl) (runActs_single h1), Good_runAct hg0 rfl h1,
      Nat.lt_of_lt_of_eq (step_dec hg0.uid (List.mem_of_getElem? h1)) (advance_measure ..)⟩
    intro a ha
    simp only [List.mem_cons, List.not_mem_nil, or_false] at ha
    rcases ha with rfl | rfl <;> rfl

theorem extend_to_done {s : St} (hg : Good s) :
    ∃ sched s' tr', (∀ a ∈ sched, Act.isSched a = true) ∧ runActs s sched = some (s', tr') ∧ s'.loop = .done :=
  extend_by_measure (I := Good) (fun _ hg hnd => progress_step hg hnd) hg

end Term
end Srad.Eon
