/-
Lemmas for M13. The decoding loop `mergeLoop` computes a relation that knows no fuel (`Dec`, one
rule per kind of field: `mergeLoop_eq_some`). Fuel independence is that equivalence, canonicity of
the result an induction on the relation, and the round trip builds a derivation from typed records.
-/
import SradModel.Model.Wire

namespace Srad.Wire

variable (valid : Bytes → Bool) (s : Schema)

theorem encodeVarint_length_pos (n : Nat) : 0 < (encodeVarint n).length := by
  unfold encodeVarint encVarAux; split <;> simp

theorem decVarAux_encVarAux (j : Nat) : ∀ (n : Nat) (rest : Bytes), n < 2 ^ (7 * j + 1) →
    decVarAux (j + 1) (encVarAux (j + 1) n ++ rest) = some (n, rest) := by
  induction j with
  | zero =>
    intro n rest h
    have h2 : n < 2 := by simpa using h
    have h128 : n < 128 := by omega
    have hm : n % 256 = n := Nat.mod_eq_of_lt (by omega)
    simp [encVarAux, decVarAux, h128, UInt8.toNat_ofNat', hm]
    omega
  | succ j ih =>
    intro n rest h
    by_cases h128 : n < 128
    · have hm : n % 256 = n := Nat.mod_eq_of_lt (by omega)
      rw [encVarAux]
      simp [decVarAux, h128, UInt8.toNat_ofNat', hm]
    · have hpow : 2 ^ (7 * (j + 1) + 1) = 128 * 2 ^ (7 * j + 1) := by
        rw [show 7 * (j + 1) + 1 = (7 * j + 1) + 7 by omega, Nat.pow_add, Nat.mul_comm]
      have hdiv : n / 128 < 2 ^ (7 * j + 1) := by
        rw [hpow] at h
        exact Nat.div_lt_of_lt_mul h
      have hb : (n % 128 + 128) % 256 = n % 128 + 128 := Nat.mod_eq_of_lt (by omega)
      rw [encVarAux]
      simp only [h128, if_false, List.cons_append]
      rw [decVarAux]
      simp only [UInt8.toNat_ofNat', hb]
      rw [if_neg (by omega), ih (n / 128) rest hdiv]
      have e : n % 128 + 128 - 128 + 128 * (n / 128) = n := by omega
      simp only [e]

theorem decodeVarint_encodeVarint (n : Nat) (rest : Bytes) (h : n < 2 ^ 64) :
    decodeVarint (encodeVarint n ++ rest) = some (n, rest) :=
  decVarAux_encVarAux 9 n rest (by simpa using h)

theorem encVarAux_length_le (k n : Nat) : (encVarAux k n).length ≤ k := by
  induction k generalizing n with
  | zero => simp [encVarAux]
  | succ k ih =>
    rw [encVarAux]; split
    · simp
    · simp only [List.length_cons]; have := ih (n / 128); omega

theorem decVarAux_length (k : Nat) : ∀ (bs : Bytes) (v : Nat) (rest : Bytes),
    decVarAux k bs = some (v, rest) → rest.length < bs.length := by
  induction k with
  | zero => intro bs v rest h; simp [decVarAux] at h
  | succ k ih =>
    intro bs v rest h
    cases bs with
    | nil => simp [decVarAux] at h
    | cons b t =>
      rw [decVarAux] at h
      split at h
      · split at h
        · cases h
        · cases h; simp
      · cases hr : decVarAux k t with
        | none => simp [hr] at h
        | some p =>
          have := ih t p.1 p.2 hr
          simp only [hr, Option.some.injEq, Prod.mk.injEq] at h
          rw [← h.2, List.length_cons]; omega

theorem decodeVarint_length {bs : Bytes} {v : Nat} {rest : Bytes}
    (h : decodeVarint bs = some (v, rest)) : rest.length < bs.length :=
  decVarAux_length 10 bs v rest h

theorem le_length (w n : Nat) : (le w n).length = w := by
  induction w generalizing n with
  | zero => rfl
  | succ w ih => simp [le, ih]

theorem unle_le (w : Nat) : ∀ n, n < 256 ^ w → unle (le w n) = n := by
  induction w with
  | zero => intro n h; simp at h; simp [le, unle, h]
  | succ w ih =>
    intro n h
    have hd : n / 256 < 256 ^ w := by
      rw [Nat.pow_succ] at h
      exact Nat.div_lt_of_lt_mul (by omega)
    have hp : n % 256 % 256 = n % 256 := Nat.mod_mod _ _
    simp only [le, unle, ih _ hd, UInt8.toNat_ofNat', hp]
    omega

theorem decodeFixed_le (w n : Nat) (rest : Bytes) (h : n < 256 ^ w) :
    decodeFixed w (le w n ++ rest) = some (n, rest) := by
  unfold decodeFixed
  have hl := le_length w n
  rw [if_neg (by simp [hl]), List.take_left' hl, List.drop_left' hl, unle_le w n h]

theorem decodeFixed_length {w : Nat} {bs : Bytes} {v : Nat} {rest : Bytes}
    (h : decodeFixed w bs = some (v, rest)) : rest.length + w = bs.length := by
  unfold decodeFixed at h
  split at h
  · cases h
  · cases h; simp; omega

theorem keyOf_eq (tag wt : Nat) (h : wt < 8) : keyOf tag wt = 8 * tag + wt := by
  unfold keyOf
  rw [← Nat.shiftLeft_add_eq_or_of_lt (i := 3) (by simpa using h), Nat.shiftLeft_eq]
  omega

theorem decodeKey_encodeKey (tag wt : Nat) (rest : Bytes) (h1 : 1 ≤ tag) (h2 : tag < 536870912)
    (hw : wt ≤ 5) : decodeKey (encodeKey tag wt ++ rest) = some (tag, wt, rest) := by
  unfold decodeKey encodeKey
  have hk := keyOf_eq tag wt (by omega)
  rw [decodeVarint_encodeVarint _ _ (by rw [hk]; omega)]
  have ha : keyOf tag wt &&& 7 = wt := by
    rw [show (7 : Nat) = 2 ^ 3 - 1 from rfl, Nat.and_two_pow_sub_one_eq_mod, hk]; omega
  have hs : keyOf tag wt >>> 3 = tag := by
    rw [Nat.shiftRight_eq_div_pow, hk]; omega
  simp only [ha, hs]
  rw [if_neg (by rw [hk]; omega), if_neg (by omega), if_neg (by omega)]

theorem decodeKey_length {bs : Bytes} {t w : Nat} {rest : Bytes}
    (h : decodeKey bs = some (t, w, rest)) : rest.length < bs.length := by
  unfold decodeKey at h
  cases hv : decodeVarint bs with
  | none => simp [hv] at h
  | some p =>
    have := decodeVarint_length hv
    simp only [hv, Option.ite_none_left_eq_some, Option.some.injEq, Prod.mk.injEq] at h
    obtain ⟨_, _, _, _, _, hrest⟩ := h
    rw [← hrest]
    exact this

theorem decodeLen_enc (b rest : Bytes) (h : b.length < 2 ^ 64) :
    decodeLen (encodeVarint b.length ++ (b ++ rest)) = some (b, rest) := by
  unfold decodeLen
  rw [decodeVarint_encodeVarint _ _ h]
  simp only
  rw [if_neg (by simp), List.take_left' rfl, List.drop_left' rfl]

theorem decodeLen_length {bs body rest : Bytes} (h : decodeLen bs = some (body, rest)) :
    body.length + rest.length < bs.length := by
  unfold decodeLen at h
  cases hv : decodeVarint bs with
  | none => simp [hv] at h
  | some p =>
    have := decodeVarint_length hv
    simp only [hv] at h
    split at h
    · cases h
    · cases h; simp; omega

theorem decScalar_encVal (ty : Ty) (v : Val) (rest : Bytes)
    (h : scalarTyped valid ty v = true) :
    decScalar valid ty ty.wire (encVal s ty v ++ rest) = some (v, rest) := by
  -- a value of another shape than its type is not typed; one case per type is left
  cases ty <;> cases v <;> simp [scalarTyped] at h
  case uint32.num n =>
    simp [decScalar, encVal, decodeVarint_encodeVarint n rest (by omega), Nat.mod_eq_of_lt h]
  case uint64.num n => simp [decScalar, encVal, decodeVarint_encodeVarint n rest (by omega)]
  case bool.bool b => cases b <;> simp [decScalar, encVal, decodeVarint_encodeVarint _ rest]
  case string.bytes b =>
    simp [decScalar, encVal, List.append_assoc, decodeLen_enc b rest (by omega), h.1]
  case bytes.bytes b => simp [decScalar, encVal, List.append_assoc, decodeLen_enc b rest (by omega)]
  case float.num n => simp [decScalar, encVal, decodeFixed_le 4 n rest (by omega)]
  case double.num n => simp [decScalar, encVal, decodeFixed_le 8 n rest (by omega)]

theorem decScalar_some {valid : Bytes → Bool} {ty : Ty} {wt : Nat} {bs : Bytes} {v : Val}
    {rest : Bytes} (h : decScalar valid ty wt bs = some (v, rest)) :
    rest.length < bs.length ∧ ∀ sub, v ≠ .msg sub := by
  have varint : ∀ p, decodeVarint bs = some p → p.2.length < bs.length :=
    fun p hp => decodeVarint_length hp
  have fixed : ∀ w p, 0 < w → decodeFixed w bs = some p → p.2.length < bs.length :=
    fun w p hw hp => by have := decodeFixed_length hp; omega
  have len : ∀ p, decodeLen bs = some p → p.2.length < bs.length :=
    fun p hp => by have := decodeLen_length hp; omega
  unfold decScalar at h
  by_cases hw : wt ≠ ty.wire
  · rw [if_pos hw] at h; cases h
  rw [if_neg hw] at h
  cases ty <;> simp only at h
  case message => cases h
  case string =>
    split at h
    · next b r hb => split at h <;> cases h; exact ⟨len _ hb, fun _ e => nomatch e⟩
    · cases h
  all_goals
    obtain ⟨p, hp, he⟩ := Option.map_eq_some_iff.mp h
    cases he
    refine ⟨?_, fun _ e => nomatch e⟩
    first | exact varint p hp | exact len p hp | exact fixed _ p (by decide) hp

/-- every tag of the entries is a legal protobuf field number -/
def TagsOK (es : List Entry) : Prop :=
  ∀ r t x, findIn es r t = some x → 1 ≤ t ∧ t < 536870912

def SchemaOK (s : Schema) : Prop := ∀ m es, lookupMsg s m = some es → TagsOK es

theorem findIn_mem (es : List Entry) : ∀ r t x, findIn es r t = some x →
    t ∈ es.flatMap (fun e => e.fields.map (·.tag)) := by
  induction es with
  | nil => intro r t x h; simp [findIn] at h
  | cons e es ih =>
    intro r t x h
    rw [List.flatMap_cons, List.mem_append]
    cases e
    -- an optional and a repeated field alike
    iterate 2
      simp only [findIn] at h
      split at h
      · next he => exact Or.inl (by simp [Entry.fields, he])
      · exact Or.inr (ih _ _ _ h)
    simp only [findIn] at h
    split at h
    · next f hf =>
      exact Or.inl (List.mem_map.mpr ⟨f, List.mem_of_find?_eq_some hf, by simpa using List.find?_some hf⟩)
    · exact Or.inr (ih _ _ _ h)

theorem schemaOK_of_wf (h : wfSchema s = true) : SchemaOK s := by
  intro m es hl r t x hf
  unfold lookupMsg at hl
  cases hd : s.find? (fun d => d.name == m) with
  | none => simp [hd] at hl
  | some d =>
    simp only [hd, Option.map_some, Option.some.injEq] at hl
    unfold wfSchema at h
    simp only [Bool.and_eq_true, List.all_eq_true] at h
    have ht := findIn_mem es r t x hf
    rw [← hl] at ht
    -- the first clause of `wfSchema` for message `d`: its tags are field numbers
    obtain ⟨⟨⟨⟨htags, _⟩, _⟩, _⟩, _⟩ := h.2 d (List.mem_of_find?_eq_some hd)
    simpa using htags t ht

theorem findIn_rank_ge (es : List Entry) : ∀ r t rank k ty,
    findIn es r t = some (rank, k, ty) → r ≤ rank := by
  induction es with
  | nil => intro r t rank k ty h; simp [findIn] at h
  | cons e es ih =>
    intro r t rank k ty h
    cases e <;> simp only [findIn] at h <;> split at h
    all_goals first
      | (cases h; exact Nat.le_refl _)
      | (have := ih _ _ _ _ _ h; omega)

theorem rankOf_of_findIn {es : List Entry} {t rank : Nat} {k : Kind} {ty : Ty}
    (h : findIn es 1 t = some (rank, k, ty)) : rankOf es t = rank := by
  simp [rankOf, h]

theorem Ty.message_or (ty : Ty) : (∃ m, ty = .message m) ∨ (∀ m, ty ≠ .message m) := by
  cases ty <;> first | exact Or.inl ⟨_, rfl⟩ | exact Or.inr fun _ h => nomatch h

theorem wire_ne_two_of_numeric (ty : Ty) (h : ty.numeric = true) : ty.wire ≠ 2 := by
  cases ty <;> simp [Ty.numeric] at h <;> simp [Ty.wire]

theorem wire_le_five (ty : Ty) : ty.wire ≤ 5 := by
  cases ty <;> simp [Ty.wire]

theorem encRecs_cons {es : List Entry} {t rank : Nat} {kind : Kind} {ty : Ty}
    (v : Val) (rest : Recs) (hf : findIn es 1 t = some (rank, kind, ty)) :
    encRecs s es ((t, v) :: rest) = encodeKey t ty.wire ++ (encVal s ty v ++ encRecs s es rest) := by
  simp [encRecs, hf]

theorem encVal_message {s : Schema} {m : String} {es' : List Entry} (sub : Recs)
    (hl : lookupMsg s m = some es') :
    encVal s (.message m) (.msg sub) =
      encodeVarint (encRecs s es' sub).length ++ encRecs s es' sub := by
  simp [encVal, hl]

theorem stepF_scalar {s : Schema} {nrec : List Entry → Recs → Recs → Recs} {es : List Entry}
    {acc : Recs} {t rank : Nat} {kind : Kind} {ty : Ty} {v : Val}
    (hf : findIn es 1 t = some (rank, kind, ty)) (hty : ∀ m, ty ≠ .message m) :
    stepF s nrec es acc (t, v) = put es rank kind t v acc := by
  unfold stepF
  simp only [hf]

theorem stepF_message {s : Schema} {nrec : List Entry → Recs → Recs → Recs} {es es' : List Entry}
    {acc sub : Recs} {t rank : Nat} {kind : Kind} {m : String}
    (hf : findIn es 1 t = some (rank, kind, .message m)) (hl : lookupMsg s m = some es') :
    stepF s nrec es acc (t, .msg sub) =
      put es rank kind t (.msg (nrec es' (initOf kind acc t) sub)) acc := by
  unfold stepF
  simp only [hf, hl]

inductive TypedVal (valid : Bytes → Bool) (s : Schema) (trec : List Entry → Recs → Bool) :
    Ty → Val → Prop
  | scalar {ty v} (hty : ∀ m, ty ≠ .message m) (h : scalarTyped valid ty v = true) :
    TypedVal valid s trec ty v
  | msg {m es' sub} (hl : lookupMsg s m = some es') (h : trec es' sub = true)
    (hlen : (encRecs s es' sub).length < 2 ^ 64) : TypedVal valid s trec (.message m) (.msg sub)

theorem typedRecF_iff {valid : Bytes → Bool} {s : Schema} {trec : List Entry → Recs → Bool}
    {es : List Entry} {t : Nat} {v : Val} :
    typedRecF valid s trec es (t, v) = true ↔
      ∃ r k ty, findIn es 1 t = some (r, k, ty) ∧ TypedVal valid s trec ty v := by
  unfold typedRecF
  cases hf : findIn es 1 t with
  | none => simp
  | some x =>
    obtain ⟨r, k, ty⟩ := x
    rcases Ty.message_or ty with ⟨m, rfl⟩ | hty
    · simp only
      constructor
      · intro h
        split at h
        · next sub es' hl =>
          simp only [Bool.and_eq_true, decide_eq_true_eq] at h
          exact ⟨r, k, _, rfl, .msg hl h.1 h.2⟩
        · cases h
      · rintro ⟨_, _, _, he, h⟩
        cases he
        cases h with
        | scalar hty => exact absurd rfl (hty m)
        | msg hl h hlen => simp only [hl, h, Bool.true_and, decide_eq_true_eq]; exact hlen
    · constructor
      · intro h
        refine ⟨r, k, ty, rfl, .scalar hty ?_⟩
        cases ty <;> first | exact h | exact absurd rfl (hty _)
      · rintro ⟨_, _, _, he, h⟩
        cases he
        cases h with
        | scalar _ h => cases ty <;> first | exact h | exact absurd rfl (hty _)
        | msg => exact absurd rfl (hty _)

theorem canonRecF_scalar {s : Schema} {crec : List Entry → Recs → Bool} {es : List Entry}
    {t : Nat} {v : Val} (hv : ∀ sub, v ≠ .msg sub) : canonRecF s crec es (t, v) = true := by
  unfold canonRecF
  split
  · next h => exact absurd h (hv _)
  · rfl

theorem canonRecF_message {s : Schema} {crec : List Entry → Recs → Bool} {es es' : List Entry}
    {t rank : Nat} {kind : Kind} {m : String} {sub : Recs}
    (hf : findIn es 1 t = some (rank, kind, .message m)) (hl : lookupMsg s m = some es') :
    canonRecF s crec es (t, .msg sub) = crec es' sub := by
  simp only [canonRecF, hf, hl]

theorem canonRecsF_iff (crec : List Entry → Recs → Bool) (es : List Entry) (rs : Recs) :
    canonRecsF s crec es rs = true ↔
      orderedFrom es 0 rs = true ∧ ∀ y ∈ rs, canonRecF s crec es y = true := by
  simp [canonRecsF, List.all_eq_true]

theorem canonRecs_eq (d : Nat) : ∃ crec, canonRecs s d = canonRecsF s crec := by
  cases d <;> exact ⟨_, rfl⟩

theorem canonRecs_nil (d : Nat) (es : List Entry) : canonRecs s d es [] = true := by
  cases d <;> rfl

theorem scalarTyped_mono (valid1 valid2 : Bytes → Bool) (hv : ∀ b, valid1 b = true → valid2 b = true)
    (ty : Ty) (v : Val) (h : scalarTyped valid1 ty v = true) : scalarTyped valid2 ty v = true := by
  cases ty <;> cases v <;> simp [scalarTyped] at h ⊢ <;> first | exact h | exact ⟨hv _ h.1, h.2⟩

theorem put_eq (es : List Entry) (r : Nat) (k : Kind) (t : Nat) (v : Val) (acc : Recs) :
    put es r k t v acc = insertRec es r (t, v)
      (if k = .repeated then acc else acc.filter fun y => rankOf es y.1 != r) := by
  cases k <;> rfl

theorem initOf_mem (k : Kind) (acc : Recs) (t : Nat) :
    initOf k acc t = [] ∨ (t, Val.msg (initOf k acc t)) ∈ acc := by
  cases k
  case repeated => exact Or.inl rfl
  all_goals
    simp only [initOf]
    split
    · next t' old hfind =>
      have ht : t' = t := by simpa using List.find?_some hfind
      exact Or.inr (ht ▸ List.mem_of_find?_eq_some hfind)
    · exact Or.inl rfl

theorem mem_insertRec {es : List Entry} {r : Nat} {x y : Nat × Val} {acc : Recs}
    (h : y ∈ insertRec es r x acc) : y = x ∨ y ∈ acc := by
  induction acc with
  | nil => exact Or.inl (List.mem_singleton.mp h)
  | cons z zs ih =>
    simp only [insertRec] at h
    split at h
    · rcases List.mem_cons.mp h with h | h
      · exact Or.inr (h ▸ List.mem_cons_self)
      · exact (ih h).imp id (List.mem_cons_of_mem _)
    · exact List.mem_cons.mp h

theorem mem_put {es : List Entry} {r : Nat} {k : Kind} {t : Nat} {v : Val} {y : Nat × Val}
    {acc : Recs} (h : y ∈ put es r k t v acc) : y = (t, v) ∨ y ∈ acc := by
  rw [put_eq] at h
  refine (mem_insertRec h).imp id fun h => ?_
  split at h
  · exact h
  · exact (List.mem_filter.mp h).1

theorem insertRec_append {es : List Entry} {r : Nat} (x : Nat × Val) {acc : Recs}
    (h : ∀ y ∈ acc, rankOf es y.1 ≤ r) : insertRec es r x acc = acc ++ [x] := by
  induction acc with
  | nil => rfl
  | cons y ys ih =>
    simp only [insertRec, h y List.mem_cons_self, if_true, List.cons_append]
    rw [ih fun z hz => h z (List.mem_cons_of_mem _ hz)]

theorem put_append {es : List Entry} {r : Nat} {k : Kind} (t : Nat) (v : Val) {acc : Recs}
    (h1 : ∀ y ∈ acc, rankOf es y.1 ≤ r) (h2 : k ≠ .repeated → ∀ y ∈ acc, rankOf es y.1 < r) :
    put es r k t v acc = acc ++ [(t, v)] := by
  rw [put_eq]
  split
  · exact insertRec_append (t, v) h1
  · next hk =>
    rw [List.filter_eq_self.mpr fun y hy => by have := h2 hk y hy; simp; omega]
    exact insertRec_append (t, v) h1

inductive Ordered (es : List Entry) : Nat → Recs → Prop
  | nil {last} : Ordered es last []
  | cons {last t v r k ty rest} (hf : findIn es 1 t = some (r, k, ty)) (hl : last ≤ r)
    (hlt : k ≠ .repeated → last < r) (hrest : Ordered es r rest) :
    Ordered es last ((t, v) :: rest)

theorem orderedFrom_iff {es : List Entry} {last : Nat} {rs : Recs} :
    orderedFrom es last rs = true ↔ Ordered es last rs := by
  induction rs generalizing last with
  | nil => exact ⟨fun _ => .nil, fun _ => rfl⟩
  | cons y ys ih =>
    obtain ⟨t, v⟩ := y
    cases hf : findIn es 1 t with
    | none =>
      refine ⟨fun h => ?_, fun h => ?_⟩
      · simp [orderedFrom, hf] at h
      · cases h with
        | cons hf' => rw [hf] at hf'; cases hf'
    | some x =>
      obtain ⟨r, k, ty⟩ := x
      simp only [orderedFrom, hf]
      refine ⟨fun h => ?_, fun h => ?_⟩
      · cases k <;> simp only [Bool.and_eq_true, decide_eq_true_eq, ih] at h
        · exact .cons hf (Nat.le_of_lt h.1) (fun _ => h.1) h.2
        · exact .cons hf h.1 (fun hk => absurd rfl hk) h.2
        · exact .cons hf (Nat.le_of_lt h.1) (fun _ => h.1) h.2
      · cases h with
        | cons hf' hl hlt hrest =>
          rw [hf] at hf'
          cases hf'
          cases k <;> simp only [Bool.and_eq_true, decide_eq_true_eq, ih]
          · exact ⟨hlt (fun h => nomatch h), hrest⟩
          · exact ⟨hl, hrest⟩
          · exact ⟨hlt (fun h => nomatch h), hrest⟩

theorem Ordered.mono {es : List Entry} {rs : Recs} {last last' : Nat} (h : last' ≤ last)
    (ho : Ordered es last rs) : Ordered es last' rs := by
  cases ho with
  | nil => exact .nil
  | cons hf hl hlt hrest =>
    exact .cons hf (Nat.le_trans h hl) (fun hk => Nat.lt_of_le_of_lt h (hlt hk)) hrest

theorem Ordered.filter {es : List Entry} (p : Nat × Val → Bool) {rs : Recs} {last : Nat}
    (ho : Ordered es last rs) : Ordered es last (rs.filter p) := by
  induction ho with
  | nil => exact .nil
  | cons hf hl hlt _ ih =>
    rw [List.filter_cons]
    split
    · exact .cons hf hl hlt ih
    · exact ih.mono hl

theorem Ordered.insertRec {es : List Entry} {t r : Nat} {k : Kind} {ty : Ty} (v : Val)
    (hf : findIn es 1 t = some (r, k, ty)) {acc : Recs} {last : Nat} (ho : Ordered es last acc)
    (h1 : last ≤ r) (h2 : k ≠ .repeated → last < r)
    (h3 : k ≠ .repeated → ∀ y ∈ acc, rankOf es y.1 ≠ r) :
    Ordered es last (insertRec es r (t, v) acc) := by
  induction ho with
  | nil => exact .cons hf h1 h2 .nil
  | @cons last ty' vy ry ky tyy ys hfy hl hlt hrest ih =>
    have hry : rankOf es ty' = ry := rankOf_of_findIn hfy
    simp only [Wire.insertRec, hry]
    split
    · next hle =>
      refine .cons hfy hl hlt (ih hle ?_ fun hk y hy => h3 hk y (List.mem_cons_of_mem _ hy))
      intro hk
      have := h3 hk (ty', vy) List.mem_cons_self
      simp only [hry] at this; omega
    · next hgt =>
      exact .cons hf h1 h2 (.cons hfy (by omega) (fun _ => by omega) hrest)

theorem orderedFrom_put {es : List Entry} {t r : Nat} {k : Kind} {ty : Ty} (v : Val)
    (hf : findIn es 1 t = some (r, k, ty)) {acc : Recs}
    (ho : orderedFrom es 0 acc = true) : orderedFrom es 0 (put es r k t v acc) = true := by
  have hr := findIn_rank_ge es 1 t r k ty hf
  rw [orderedFrom_iff] at ho ⊢
  rw [put_eq]
  split
  · next hk =>
    exact ho.insertRec v hf (by omega) (fun h => absurd hk h) (fun h => absurd hk h)
  · exact (ho.filter _).insertRec v hf (by omega) (fun _ => by omega)
      (fun _ y hy => by simpa using (List.mem_filter.mp hy).2)

theorem canonRecsF_put {s : Schema} {crec : List Entry → Recs → Bool} {es : List Entry}
    {t r : Nat} {k : Kind} {ty : Ty} {v : Val} (hf : findIn es 1 t = some (r, k, ty)) {acc : Recs}
    (hv : canonRecF s crec es (t, v) = true) (h : canonRecsF s crec es acc = true) :
    canonRecsF s crec es (put es r k t v acc) = true := by
  rw [canonRecsF_iff] at h ⊢
  refine ⟨orderedFrom_put v hf h.1, fun y hy => ?_⟩
  rcases mem_put hy with rfl | hy
  · exact hv
  · exact h.2 y hy

theorem decPacked_not_msg (valid : Bytes → Bool) (ty : Ty) : ∀ (fuel : Nat) (bs : Bytes)
    (vs : List Val), decPacked valid ty fuel bs = some vs → ∀ v ∈ vs, ∀ sub, v ≠ .msg sub := by
  intro fuel
  induction fuel with
  | zero =>
    intro bs vs h
    simp only [decPacked] at h
    split at h <;> cases h
    exact fun _ hv => nomatch hv
  | succ fuel ih =>
    intro bs vs h
    rw [decPacked] at h
    split at h
    · cases h; exact fun _ hv => nomatch hv
    · split at h
      · cases h
      · next v rest hd =>
        split at h <;> cases h
        next vs' hp =>
        intro w hw
        rcases List.mem_cons.mp hw with rfl | hw
        · exact (decScalar_some hd).2
        · exact ih rest vs' hp w hw

/-- values that are no messages, stored one after the other, keep a struct canonical -/
theorem canonRecs_foldl_put {s : Schema} {d : Nat} {es : List Entry} {t r : Nat} {k : Kind}
    {ty : Ty} (hf : findIn es 1 t = some (r, k, ty)) :
    ∀ (vs : List Val) (acc : Recs), (∀ v ∈ vs, ∀ sub, v ≠ .msg sub) →
      canonRecs s d es acc = true →
      canonRecs s d es (vs.foldl (fun a v => put es r k t v a) acc) = true := by
  obtain ⟨crec, hcrec⟩ := canonRecs_eq s d
  rw [hcrec]
  intro vs
  induction vs with
  | nil => intro acc _ h; exact h
  | cons v vs ih =>
    intro acc hv h
    exact ih _ (fun w hw => hv w (List.mem_cons_of_mem _ hw))
      (canonRecsF_put hf (canonRecF_scalar (hv v List.mem_cons_self)) h)

/-! ### skipping unknown fields only moves forward, and its fuel never runs out -/

def NoLonger (n : Nat) (o : Option Bytes) : Prop := ∀ rest, o = some rest → rest.length ≤ n

theorem NoLonger.none {n : Nat} : NoLonger n none := fun _ h => nomatch h

theorem NoLonger.ite {n : Nat} {c : Prop} [Decidable c] {a b : Option Bytes} (ha : NoLonger n a)
    (hb : NoLonger n b) : NoLonger n (if c then a else b) := by
  split <;> assumption

theorem NoLonger.map_snd {n : Nat} {α : Type} {d : Option (α × Bytes)}
    (hd : ∀ p, d = some p → p.2.length ≤ n) : NoLonger n (d.map (·.2)) := by
  intro rest h
  obtain ⟨p, hp, rfl⟩ := Option.map_eq_some_iff.mp h
  exact hd p hp

theorem skip_length (fuel : Nat) :
    (∀ depth wt tag bs, NoLonger bs.length (skipAux fuel depth wt tag bs)) ∧
    (∀ depth tag bs, NoLonger bs.length (skipGroup fuel depth tag bs)) := by
  induction fuel with
  | zero =>
    exact ⟨fun _ _ _ _ => (by simp [skipAux, NoLonger]), fun _ _ _ => (by simp [skipGroup, NoLonger])⟩
  | succ fuel ih =>
    constructor
    · intro depth wt tag bs
      rw [skipAux]
      exact .ite .none <|
        .ite (.map_snd fun p hp => Nat.le_of_lt (decodeVarint_length hp)) <|
        .ite (.map_snd fun p hp => by have := decodeFixed_length hp; omega) <|
        .ite (.map_snd fun p hp => by have := decodeFixed_length hp; omega) <|
        .ite (.map_snd fun p hp => by have := decodeLen_length hp; omega) <|
        .ite (ih.2 depth tag bs) .none
    · intro depth tag bs rest h
      rw [skipGroup] at h
      cases hk : decodeKey bs with
      | none => rw [hk] at h; cases h
      | some k =>
        have h1 := decodeKey_length (rest := k.2.2) hk
        rw [hk] at h
        simp only at h
        by_cases h4 : k.2.1 = 4
        · rw [if_pos h4] at h
          have : rest = k.2.2 := by split at h <;> cases h; rfl
          rw [this]; exact Nat.le_of_lt h1
        · rw [if_neg h4] at h
          cases hs : skipAux fuel (depth - 1) k.2.1 k.1 k.2.2 with
          | none => rw [hs] at h; cases h
          | some r2 =>
            rw [hs] at h
            have h2 := ih.1 _ _ _ _ _ hs
            have h3 := ih.2 _ _ _ _ h
            omega

theorem skipField_length {depth wt tag : Nat} {bs rest : Bytes}
    (h : skipField depth wt tag bs = some rest) : rest.length ≤ bs.length :=
  (skip_length _).1 _ _ _ _ _ h

theorem skip_fuel (f1 : Nat) : ∀ f2,
    (∀ depth wt tag bs, 2 * bs.length + 2 ≤ f1 → 2 * bs.length + 2 ≤ f2 →
      skipAux f1 depth wt tag bs = skipAux f2 depth wt tag bs) ∧
    (∀ depth tag bs, 2 * bs.length + 1 ≤ f1 → 2 * bs.length + 1 ≤ f2 →
      skipGroup f1 depth tag bs = skipGroup f2 depth tag bs) := by
  induction f1 with
  | zero => intro f2; constructor <;> intros <;> omega
  | succ f1 ih =>
    intro f2
    constructor
    · intro depth wt tag bs h1 h2
      obtain ⟨f2, rfl⟩ : ∃ f, f2 = f + 1 := ⟨f2 - 1, by omega⟩
      rw [skipAux, skipAux, (ih f2).2 depth tag bs (by omega) (by omega)]
    · intro depth tag bs h1 h2
      obtain ⟨f2, rfl⟩ : ∃ f, f2 = f + 1 := ⟨f2 - 1, by omega⟩
      rw [skipGroup, skipGroup]
      cases hk : decodeKey bs with
      | none => rfl
      | some p =>
        obtain ⟨itag, iwt, r1⟩ := p
        have hr := decodeKey_length hk
        simp only
        by_cases h4 : iwt = 4
        · rw [if_pos h4, if_pos h4]
        · rw [if_neg h4, if_neg h4, (ih f2).1 (depth - 1) iwt itag r1 (by omega) (by omega)]
          cases hs : skipAux f2 (depth - 1) iwt itag r1 with
          | none => rfl
          | some r2 =>
            have := (skip_length f2).1 _ _ _ _ _ hs
            exact (ih f2).2 depth tag r2 (by omega) (by omega)

/-! ### the decoder without fuel

`Dec valid s d es acc bs res`: reading the fields of `bs` one after the other into the struct `acc`
of a message with entries `es`, with recursion budget `d`, ends with the struct `res`. One rule per
branch of `mergeLoop` that goes on: an unknown field skipped, a nested message (decoded with budget
`d - 1` into what `initOf` finds), a packed repeated field, a single value. -/

section
variable {valid : Bytes → Bool} {s : Schema}

theorem mergeLoop_nil (valid : Bytes → Bool) (s : Schema) (fuel d : Nat) (es : List Entry)
    (acc : Recs) : mergeLoop valid s fuel d es acc [] = some acc := by
  cases fuel <;> rfl

inductive Dec (valid : Bytes → Bool) (s : Schema) : Nat → List Entry → Recs → Bytes → Recs → Prop
  | done {d es acc} : Dec valid s d es acc [] acc
  | skip {d es acc bs tag wt rest rest' res} (hk : decodeKey bs = some (tag, wt, rest))
      (hf : findIn es 1 tag = none) (hs : skipField d wt tag rest = some rest')
      (hr : Dec valid s d es acc rest' res) : Dec valid s d es acc bs res
  | msg {d es acc bs tag rest rank kind m es' body rest' sub res}
      (hk : decodeKey bs = some (tag, 2, rest))
      (hf : findIn es 1 tag = some (rank, kind, .message m)) (hl : lookupMsg s m = some es')
      (hb : decodeLen rest = some (body, rest'))
      (hsub : Dec valid s d es' (initOf kind acc tag) body sub)
      (hr : Dec valid s (d + 1) es (put es rank kind tag (.msg sub) acc) rest' res) :
      Dec valid s (d + 1) es acc bs res
  | packed {d es acc bs tag rest rank ty body rest' vs res}
      (hk : decodeKey bs = some (tag, 2, rest))
      (hf : findIn es 1 tag = some (rank, .repeated, ty)) (hn : ty.numeric = true)
      (hb : decodeLen rest = some (body, rest'))
      (hvs : decPacked valid ty body.length body = some vs)
      (hr : Dec valid s d es (vs.foldl (fun a v => put es rank .repeated tag v a) acc) rest' res) :
      Dec valid s d es acc bs res
  | scalar {d es acc bs tag wt rest rank kind ty v rest' res}
      (hk : decodeKey bs = some (tag, wt, rest))
      (hf : findIn es 1 tag = some (rank, kind, ty)) (hty : ∀ m, ty ≠ .message m)
      (hnp : ¬ (kind = .repeated ∧ wt = 2 ∧ ty.numeric = true))
      (hv : decScalar valid ty wt rest = some (v, rest'))
      (hr : Dec valid s d es (put es rank kind tag v acc) rest' res) :
      Dec valid s d es acc bs res

theorem Dec.of_mergeLoop {f d es acc bs res} (h : mergeLoop valid s f d es acc bs = some res) :
    Dec valid s d es acc bs res := by
  fun_induction mergeLoop valid s f d es acc bs generalizing res
  -- the branches that answer `none`
  all_goals try (cases h; done)
  next he => cases h; cases List.isEmpty_iff.mp he; exact .done
  next he => cases h; cases List.isEmpty_iff.mp he; exact .done
  next hk hf _ hs ih => exact .skip hk hf hs (ih h)
  next hk _ _ _ hf hw _ _ hl _ _ hb _ hsub ihs ihr =>
    cases Decidable.not_not.mp hw
    exact .msg hk hf hl hb (ihs hsub) (ihr h)
  next hk _ _ _ _ hf hp _ _ hb _ hvs ih =>
    obtain ⟨rfl, rfl, hn⟩ := hp
    exact .packed hk hf hn hb hvs (ih h)
  next hk _ _ _ hty hf hp _ _ hv ih => exact .scalar hk hf (fun m e => hty m e) hp hv (ih h)

/-- a buffer that starts with a key is not empty: there is fuel for the field and, since the key
has been consumed, enough left for the rest -/
theorem fuel_of_key {bs rest : Bytes} {tag wt f : Nat} (hk : decodeKey bs = some (tag, wt, rest))
    (hf : bs.length ≤ f) : ∃ f', f = f' + 1 ∧ rest.length ≤ f' ∧ bs.isEmpty = false := by
  have := decodeKey_length hk
  refine ⟨f - 1, by omega, by omega, ?_⟩
  cases bs with
  | nil => cases hk
  | cons => rfl

theorem Dec.mergeLoop {d es acc bs res} (h : Dec valid s d es acc bs res) :
    ∀ f, bs.length ≤ f → mergeLoop valid s f d es acc bs = some res := by
  induction h with
  | done => exact fun f _ => mergeLoop_nil valid s f _ _ _
  | skip hk hf hs _ ih =>
    intro f hlen
    obtain ⟨f, rfl, hl, he⟩ := fuel_of_key hk hlen
    have := skipField_length hs
    rw [Wire.mergeLoop]
    simp only [he, Bool.false_eq_true, if_false, hk, hf, hs]
    exact ih f (by omega)
  | msg hk hf hl hb _ _ ihs ihr =>
    intro f hlen
    obtain ⟨f, rfl, hl', he⟩ := fuel_of_key hk hlen
    have := decodeLen_length hb
    rw [Wire.mergeLoop]
    simp only [he, Bool.false_eq_true, if_false, hk, hf, ne_eq, not_true_eq_false, hl, hb,
      ihs f (by omega)]
    exact ihr f (by omega)
  | packed hk hf hn hb hvs _ ih =>
    intro f hlen
    obtain ⟨f, rfl, hl', he⟩ := fuel_of_key hk hlen
    have := decodeLen_length hb
    -- in the context, this lets `simp` pass the branch for message types
    have hty : ∀ m, ‹Ty› ≠ .message m := by rintro m rfl; cases hn
    rw [Wire.mergeLoop]
    simp only [he, Bool.false_eq_true, if_false, hk, hf, hn, and_self, if_true, hb, hvs]
    exact ih f (by omega)
  | scalar hk hf hty hnp hv _ ih =>
    intro f hlen
    obtain ⟨f, rfl, hl', he⟩ := fuel_of_key hk hlen
    have := (decScalar_some hv).1
    rw [Wire.mergeLoop]
    simp only [he, Bool.false_eq_true, if_false, hk, hf, if_neg hnp, hv]
    exact ih f (by omega)

/-- the loop computes the relation, whatever fuel it is given beyond the length of the input -/
theorem mergeLoop_eq_some {f d es acc bs res} (hf : bs.length ≤ f) :
    mergeLoop valid s f d es acc bs = some res ↔ Dec valid s d es acc bs res :=
  ⟨Dec.of_mergeLoop, fun h => h.mergeLoop f hf⟩

/-- Any fuel of at least the input length gives the same answer: `none` never means "out of
fuel", only a prost `DecodeError`. -/
theorem mergeLoop_fuel (f1 f2 d : Nat) (es : List Entry)
    (acc : Recs) (bs : Bytes) (h1 : bs.length ≤ f1) (h2 : bs.length ≤ f2) :
    mergeLoop valid s f1 d es acc bs = mergeLoop valid s f2 d es acc bs := by
  cases h : mergeLoop valid s f2 d es acc bs with
  | some res => exact (Dec.of_mergeLoop h).mergeLoop f1 h1
  | none =>
    cases h' : mergeLoop valid s f1 d es acc bs with
    | none => rfl
    | some res => rw [(Dec.of_mergeLoop h').mergeLoop f2 h2] at h; cases h

/-- Whatever the decoder accepts, the struct it builds is canonical. -/
theorem Dec.canon {d es acc bs res} (h : Dec valid s d es acc bs res)
    (hc : canonRecs s d es acc = true) : canonRecs s d es res = true := by
  induction h with
  | done => exact hc
  | skip _ _ _ _ ih => exact ih hc
  | msg _ hf hl _ _ _ ihs ihr =>
    refine ihr ?_
    rw [canonRecs] at hc ⊢
    refine canonRecsF_put hf ((canonRecF_message hf hl).trans (ihs ?_)) hc
    -- the message merged into is canonical: it is fresh, or sits in the canonical struct
    rcases initOf_mem _ _ _ with h0 | hm
    · rw [h0]; exact canonRecs_nil s _ _
    · exact (canonRecF_message hf hl).symm.trans (((canonRecsF_iff s _ _ _).mp hc).2 _ hm)
  | packed _ hf _ _ hvs _ ih =>
    exact ih (canonRecs_foldl_put hf _ _ (decPacked_not_msg valid _ _ _ _ hvs) hc)
  | scalar _ hf _ _ hv _ ih =>
    exact ih (canonRecs_foldl_put hf [_] _
      (fun _ hw => List.mem_singleton.mp hw ▸ (decScalar_some hv).2) hc)

/-! ### decoding an encoding -/

/-- `trec` / `nrec` abstract the nested level (instantiated by induction on the depth). -/
theorem Dec.encRecs_step {valid1 valid2 : Bytes → Bool}
    (hv12 : ∀ b, valid1 b = true → valid2 b = true) (s : Schema) (d : Nat) (es : List Entry)
    (hes : TagsOK es) (trec : List Entry → Recs → Bool) (nrec : List Entry → Recs → Recs → Recs)
    (hnested : ∀ m es' sub init, lookupMsg s m = some es' → trec es' sub = true →
      ∃ d', d = d' + 1 ∧ Dec valid2 s d' es' init (encRecs s es' sub) (nrec es' init sub)) :
    ∀ (rs acc : Recs), typedRecsF valid1 s trec es rs = true →
      Dec valid2 s d es acc (encRecs s es rs) (rs.foldl (stepF s nrec es) acc) := by
  intro rs
  induction rs with
  | nil => intro acc _; exact .done
  | cons r rest ih =>
    obtain ⟨t, v⟩ := r
    intro acc htyped
    simp only [typedRecsF, List.all_cons, Bool.and_eq_true] at htyped
    obtain ⟨h1, hrest⟩ := htyped
    obtain ⟨rank, kind, ty, hf, hv⟩ := typedRecF_iff.mp h1
    obtain ⟨htag1, htag2⟩ := hes 1 t _ hf
    have hk := decodeKey_encodeKey t ty.wire (encVal s ty v ++ encRecs s es rest) htag1 htag2
      (wire_le_five ty)
    rw [encRecs_cons s v rest hf, List.foldl_cons]
    cases hv with
    | msg hl htr hlt =>
      obtain ⟨d', rfl, hsub⟩ := hnested _ _ _ (initOf kind acc t) hl htr
      rw [encVal_message _ hl, List.append_assoc] at hk ⊢
      rw [stepF_message hf hl]
      exact .msg hk hf hl (decodeLen_enc _ _ hlt) hsub (ih _ hrest)
    | scalar hty hv =>
      rw [stepF_scalar hf hty]
      exact .scalar hk hf hty (fun h => wire_ne_two_of_numeric ty h.2.2 h.2.1)
        (decScalar_encVal valid2 s ty v _ (scalarTyped_mono valid1 valid2 hv12 ty v hv))
        (ih _ hrest)

/-- Records typed `d` levels deep decode to their normal form under every recursion budget
`dd ≥ d` (and every string check no stricter than the one they are typed with). -/
theorem Dec.encRecs {valid1 valid2 : Bytes → Bool}
    (hv12 : ∀ b, valid1 b = true → valid2 b = true) (s : Schema) (hs : SchemaOK s) :
    ∀ (d dd : Nat) (es : List Entry), d ≤ dd → TagsOK es → ∀ (rs acc : Recs),
      typedRecs valid1 s d es rs = true →
      Dec valid2 s dd es acc (encRecs s es rs) (normRecs s d es acc rs) := by
  intro d
  induction d with
  | zero =>
    intro dd es _ hes
    exact Dec.encRecs_step hv12 s dd es hes _ _ (fun _ _ _ _ _ h => by cases h)
  | succ d ih =>
    intro dd es hd hes
    obtain ⟨dd', rfl⟩ : ∃ k, dd = k + 1 := ⟨dd - 1, by omega⟩
    exact Dec.encRecs_step hv12 s (dd' + 1) es hes _ _
      (fun m es' sub init hlk htr => ⟨dd', rfl, ih dd' es' (by omega) (hs m es' hlk) sub init htr⟩)

/-! ### canonical records are their own normal form -/

theorem initOf_nil {es : List Entry} (k : Kind) {acc : Recs} {t : Nat}
    (h : ∀ y ∈ acc, rankOf es y.1 < rankOf es t) : initOf k acc t = [] :=
  (initOf_mem k acc t).resolve_right fun hm => Nat.lt_irrefl _ (h _ hm)

theorem foldl_stepF_canon (valid : Bytes → Bool) (s : Schema) (es : List Entry)
    (trec crec : List Entry → Recs → Bool) (nrec : List Entry → Recs → Recs → Recs)
    (hnested : ∀ m es' sub, lookupMsg s m = some es' → trec es' sub = true → crec es' sub = true →
      nrec es' [] sub = sub) :
    ∀ (rs acc : Recs) (last : Nat), (∀ y ∈ acc, rankOf es y.1 ≤ last) →
      typedRecsF valid s trec es rs = true → orderedFrom es last rs = true →
      rs.all (canonRecF s crec es) = true →
      rs.foldl (stepF s nrec es) acc = acc ++ rs := by
  intro rs
  induction rs with
  | nil => intro acc last _ _ _ _; simp
  | cons r rest ih =>
    obtain ⟨t, v⟩ := r
    intro acc last hacc htyped hord hcan
    simp only [typedRecsF, List.all_cons, Bool.and_eq_true] at htyped hcan
    obtain ⟨h1, hrest⟩ := htyped
    obtain ⟨c1, crest⟩ := hcan
    obtain ⟨rank, kind, ty, hf, hv⟩ := typedRecF_iff.mp h1
    have hrk := rankOf_of_findIn hf
    obtain ⟨hle, hlt, hordrest⟩ : last ≤ rank ∧ (kind ≠ .repeated → last < rank) ∧
        orderedFrom es rank rest = true := by
      cases orderedFrom_iff.mp hord with
      | cons hf' hl hlt hrest =>
        rw [hf] at hf'
        cases hf'
        exact ⟨hl, hlt, orderedFrom_iff.mpr hrest⟩
    have hacc1 : ∀ y ∈ acc, rankOf es y.1 ≤ rank := fun y hy => Nat.le_trans (hacc y hy) hle
    have hacc2 : kind ≠ .repeated → ∀ y ∈ acc, rankOf es y.1 < rank :=
      fun hk y hy => Nat.lt_of_le_of_lt (hacc y hy) (hlt hk)
    have hnew : ∀ w, ∀ y ∈ acc ++ [(t, w)], rankOf es y.1 ≤ rank := by
      intro w y hy
      rcases List.mem_append.mp hy with h | h
      · exact hacc1 y h
      · rw [List.mem_singleton.mp h, hrk]; exact Nat.le_refl _
    rw [List.foldl_cons]
    cases hv with
    | msg hl htr =>
      rw [canonRecF_message hf hl] at c1
      -- a second record of an optional message would be merged into the first: there is none
      have hinit : initOf kind acc t = [] := by
        cases kind with
        | repeated => rfl
        | _ => exact initOf_nil _ (hrk ▸ hacc2 (fun h => nomatch h))
      rw [stepF_message hf hl, hinit, hnested _ _ _ hl htr c1, put_append t _ hacc1 hacc2,
        ih _ rank (hnew _) hrest hordrest crest, List.append_assoc, List.singleton_append]
    | scalar hty =>
      rw [stepF_scalar hf hty, put_append t _ hacc1 hacc2,
        ih _ rank (hnew _) hrest hordrest crest, List.append_assoc, List.singleton_append]

theorem normRecs_canon (valid : Bytes → Bool) (s : Schema) :
    ∀ (d : Nat) (es : List Entry) (rs : Recs), typedRecs valid s d es rs = true →
      canonRecs s d es rs = true → normRecs s d es [] rs = rs := by
  intro d
  induction d with
  | zero =>
    intro es rs ht hc
    simp only [canonRecs, canonRecsF, Bool.and_eq_true] at hc
    exact foldl_stepF_canon valid s es _ (fun _ _ => true) (fun _ a _ => a)
      (fun _ _ _ _ h _ => by cases h) rs [] 0 (fun _ h => nomatch h) ht hc.1 hc.2
  | succ d ih =>
    intro es rs ht hc
    simp only [canonRecs, canonRecsF, Bool.and_eq_true] at hc
    exact foldl_stepF_canon valid s es _ (canonRecs s d) (normRecs s d)
      (fun _ es' sub _ h1 h2 => ih es' sub h1 h2) rs [] 0 (fun _ h => nomatch h) ht hc.1 hc.2

/-! ### messages: the predicates and the codec of a message, read at the level of its records -/

theorem typedMsgD_iff {valid : Bytes → Bool} {s : Schema} {d : Nat} {m : String} {v : Val} :
    typedMsgD valid s d m v = true ↔
      ∃ es rs, lookupMsg s m = some es ∧ v = .msg rs ∧ typedRecs valid s d es rs = true := by
  cases v <;> simp [typedMsgD]
  cases lookupMsg s m <;> simp

theorem canonMsgD_msg {s : Schema} {d : Nat} {m : String} {es : List Entry} {rs : Recs}
    (hl : lookupMsg s m = some es) : canonMsgD s d m (.msg rs) = canonRecs s d es rs := by
  simp [canonMsgD, hl]

theorem encodeMsg_msg {s : Schema} {m : String} {es : List Entry} (rs : Recs)
    (hl : lookupMsg s m = some es) : encodeMsg s m (.msg rs) = encRecs s es rs := by
  simp [encodeMsg, hl]

theorem normMsg_msg {s : Schema} {m : String} {es : List Entry} (rs : Recs)
    (hl : lookupMsg s m = some es) :
    normMsg s m (.msg rs) = .msg (normRecs s recursionLimit es [] rs) := by
  simp [normMsg, hl]

theorem decodeMsg_encRecs {valid1 valid2 : Bytes → Bool}
    (hv12 : ∀ b, valid1 b = true → valid2 b = true) {s : Schema} (hs : SchemaOK s) {m : String}
    {es : List Entry} (hl : lookupMsg s m = some es) {d : Nat} (hd : d ≤ recursionLimit)
    {rs : Recs} (ht : typedRecs valid1 s d es rs = true) :
    decodeMsg valid2 s m (encRecs s es rs) = some (.msg (normRecs s d es [] rs)) := by
  simp only [decodeMsg, hl]
  rw [(Dec.encRecs hv12 s hs d _ es hd (hs m es hl) rs [] ht).mergeLoop _ (Nat.le_refl _)]
  rfl

/-- ROUND TRIP at the level of records: typed and canonical `d ≤ 100` levels deep. -/
theorem decodeMsg_roundtrip {valid1 valid2 : Bytes → Bool}
    (hv12 : ∀ b, valid1 b = true → valid2 b = true) {s : Schema} (hs : SchemaOK s) {m : String}
    {es : List Entry} (hl : lookupMsg s m = some es) {d : Nat} (hd : d ≤ recursionLimit)
    {rs : Recs} (ht : typedRecs valid1 s d es rs = true) (hc : canonRecs s d es rs = true) :
    decodeMsg valid2 s m (encRecs s es rs) = some (.msg rs) := by
  rw [decodeMsg_encRecs hv12 hs hl hd ht, normRecs_canon valid1 s d es rs ht hc]

/-- a decoder that returns two values from their encodings tells them apart -/
theorem inj_of_roundtrip {α β : Type} {enc : α → β} {dec : β → Option α} {x y : α}
    (hx : dec (enc x) = some x) (hy : dec (enc y) = some y) (h : enc x = enc y) : x = y := by
  rw [h] at hx
  exact Option.some.inj (hx.symm.trans hy)

end

end Srad.Wire
