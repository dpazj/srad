/-
C03 — bdSeq and the will: the three scanners share one monitor state, which `Rel` ties to the registered will and
to where the event loop stands in its exchange with the node task (`Proofs/EonSync`).
-/
import SradModel.Proofs.EonSync

namespace Srad.Eon.P03
open Srad.Eon

theorem reply_none_of_lt {s : St} {o : Nat} (h : ∀ p ∈ s.oneshots, p.1 < o) : reply? s o = none :=
  reply?_none_of_lt h

/-! ### the scanners -/

/-- `w`: the last will; `so₁` (`willChainOk`: until the next `poll`), `so₂` (`ndeathBdOk`): an Offline was
polled since; `c`: an NDEATH was handed over -/
structure Mon where
  w : Option Nat
  so₁ : Bool
  so₂ : Bool
  c : Bool

def Mon.next (q : Mon) : Obs → Mon
  | .will bd => { q with w := some bd, so₁ := false, so₂ := false }
  | .polled .offline => { q with so₁ := true, so₂ := true }
  | .poll => { q with so₁ := false }
  | .call _ .ndeath _ _ _ _ _ => { q with c := true }
  | _ => q

def Mon.ok (q : Mon) (t : List Obs) : Bool :=
  nbirthBdOk q.w t && (willChainOk q.w q.so₁ q.c t && ndeathBdOk q.w q.so₂ q.c t)

theorem nbirthBdOk_monitor : IsMonitor (fun q : Mon => nbirthBdOk q.w) Mon.next where
  nil _ := rfl
  cons q o t := by
    cases o with
    | call id k d sq bd it dec => cases k <;> first | rfl | exact cons_check _ _
    | polled e => cases e <;> rfl
    | _ => rfl

theorem willChainOk_monitor : IsMonitor (fun q : Mon => willChainOk q.w q.so₁ q.c) Mon.next where
  nil _ := rfl
  cons q o t := by
    obtain ⟨_ | w, so₁, so₂, c⟩ := q <;> cases o with
    | call id k d sq bd it dec => cases k <;> rfl
    | polled e => cases e <;> rfl
    | will bd => exact cons_check _ _
    | _ => rfl

theorem ndeathBdOk_monitor : IsMonitor (fun q : Mon => ndeathBdOk q.w q.so₂ q.c) Mon.next where
  nil _ := rfl
  cons q o t := by
    obtain ⟨_ | w, so₁, so₂, c⟩ := q <;> cases o with
    | call id k d sq bd it dec => cases k <;> first | rfl | exact cons_check _ _
    | polled e => cases e <;> rfl
    | _ => rfl

theorem ok_monitor : IsMonitor Mon.ok Mon.next :=
  nbirthBdOk_monitor.and (willChainOk_monitor.and ndeathBdOk_monitor)

def Quiet : Obs → Bool
  | .will _ | .poll | .polled .offline => false
  | .call _ k _ _ _ _ _ => k != .nbirth && k != .ndeath
  | _ => true

theorem quiet_spec (y : Obs) (hy : Quiet y = true) (q : Mon) : q.ok [y] = true ∧ q.next y = q := by
  obtain ⟨_ | w, so₁, so₂, c⟩ := q <;> cases y with
  | call id k d sq bd it dec => cases k <;> first | exact ⟨rfl, rfl⟩ | cases hy
  | polled e => cases e <;> first | exact ⟨rfl, rfl⟩ | cases hy
  | will | poll => cases hy
  | _ => exact ⟨rfl, rfl⟩

structure Rel (s : St) (q : Mon) : Prop where
  will : q.w = s.will
  so₁ : SoPc s.loop = true → q.so₁ = true
  so₂ : SoPc s.loop = true → q.so₂ = true
  c : s.stopping = true → q.c = true

theorem Rel.quiet {s s' : St} {q : Mon} {o : List Obs} (hR : Rel s q) (ho : o.all Quiet = true)
    (hw : s'.will = s.will) (hso : SoPc s'.loop = true → SoPc s.loop = true)
    (hst : s'.stopping = s.stopping) : q.ok o = true ∧ Rel s' (o.foldl Mon.next q) :=
  ok_monitor.pass_quiet quiet_spec ho
    ⟨hR.will.trans hw.symm, fun h => hR.so₁ (hso h), fun h => hR.so₂ (hso h), hst ▸ hR.c⟩

theorem Rel.newWill {s s' : St} {q : Mon} {bd : Nat} (hR : Rel s q)
    (hb : s.will = none ∧ bd = 0 ∨ ∃ w, s.will = some w ∧ bd = (w + 1) % 256 ∧ (SoPc s.loop = true ∨ s.stopping = true))
    (hw : s'.will = some bd) (hso : SoPc s'.loop = false) (hst : s'.stopping = s.stopping) :
    q.ok [.will bd] = true ∧ Rel s' (q.next (.will bd)) := by
  refine ⟨?_, hw.symm, fun h => (Bool.false_ne_true (hso.symm.trans h)).elim, fun h => (Bool.false_ne_true (hso.symm.trans h)).elim, hst ▸ hR.c⟩
  obtain ⟨w, so₁, so₂, c⟩ := q
  obtain ⟨rfl, h1, -, h3⟩ := hR
  rcases hb with ⟨h, rfl⟩ | ⟨w, h, rfl, hc⟩ <;> simp only [] at h1 h3 <;> rw [h]
  · rfl
  · have : (so₁ || c) = true := by rcases hc with hc | hc <;> simp [h1, h3, hc]
    -- the check, unfolded: `simp [willChainOk]` would first generate equation lemmas
    show ((so₁ || c) && _ && true && true) = true
    rw [this, beq_self_eq_true]; rfl

theorem Rel.poll {s s' : St} {q : Mon} (hR : Rel s q) (hw : s'.will = s.will) (hso : SoPc s'.loop = false)
    (hst : s'.stopping = s.stopping) : q.ok [.poll] = true ∧ Rel s' (q.next .poll) := by
  refine ⟨?_, hR.will.trans hw.symm, fun h => (Bool.false_ne_true (hso.symm.trans h)).elim, fun h => (Bool.false_ne_true (hso.symm.trans h)).elim,
    hst ▸ hR.c⟩
  obtain ⟨_ | w, so₁, so₂, c⟩ := q <;> rfl

theorem Rel.polledOffline {s s' : St} {q : Mon} (hR : Rel s q) (hw : s'.will = s.will)
    (hst : s'.stopping = s.stopping) : q.ok [.polled .offline] = true ∧ Rel s' (q.next (.polled .offline)) := by
  refine ⟨?_, hR.will.trans hw.symm, fun _ => rfl, fun _ => rfl, hst ▸ hR.c⟩
  obtain ⟨_ | w, so₁, so₂, c⟩ := q <;> rfl

theorem Rel.step {s s' : St} {q : Mon} {o : List Obs} (hI : Wf s) (hR : Rel s q) (h : Step s s' o) :
    q.ok o = true ∧ Rel s' (o.foldl Mon.next q) := by
  have hl : ∀ {pc}, s.loop = pc → LoopAt s pc := fun h => h ▸ hI.sync.loop
  cases h with
  | stim x h => cases h <;> exact hR.quiet rfl rfl id rfl
  | loop h =>
    cases h with
    | start hpc => exact hR.newWill (.inl ⟨(hl hpc).1, (hl hpc).2.1⟩) rfl rfl rfl
    | poll | stopPoll => exact hR.poll rfl rfl rfl
    | polled e rest s' hpc hin hh =>
      cases hh with
      | offline | offlineBusy => exact hR.polledOffline rfl rfl
      | _ => exact hR.quiet rfl rfl nofun rfl
    | stopPolledOffline | stopPolledOfflineBusy => exact hR.polledOffline rfl rfl
    | stopPolled e rest hpc hin hne =>
      cases e <;> first | exact absurd rfl hne | exact hR.quiet rfl rfl nofun rfl
    | sendCsOffline o hpc | stopSendCs o hpc => exact hR.quiet rfl rfl (fun _ => hpc ▸ rfl) rfl
    | will o bd hpc hre =>
      obtain ⟨-, rfl, w, hw, hb, -⟩ := (hl hpc).replied hre
      exact hR.newWill (.inr ⟨w, hw, hb, .inl (hpc ▸ rfl)⟩) rfl rfl rfl
    | lastWill o bd hpc hre =>
      obtain ⟨-, rfl, w, hw, hb, -⟩ := hpc.elim (fun h => (hl h).replied hre) (fun h => (hl h).replied hre)
      -- awaited after an Offline was polled, or forced after the cancel
      exact hR.newWill
        (.inr ⟨w, hw, hb, hpc.elim (fun h => .inl (h ▸ rfl)) (fun h => .inr (hI.inv.phase_stopping (h ▸ rfl)))⟩) rfl rfl rfl
    | _ => exact hR.quiet rfl rfl nofun rfl
  | timeout h => cases h <;> exact hR.quiet rfl rfl nofun rfl
  | node dec h =>
    cases h with
    | birthStart bt fromCmd hpc =>
      refine ⟨?_, hR.will, hR.so₁, hR.so₂, hR.c⟩
      obtain ⟨w, so₁, so₂, c⟩ := q
      obtain rfl : w = s.will := hR.will
      rw [show s.will = some s.bdseq from hI.sync.sync (hI.inv.busy_online (hpc ▸ rfl))]
      show ((some s.bdseq == some s.bdseq) && true && true && true) = true
      rw [beq_self_eq_true]; rfl
    | _ => exact hR.quiet rfl rfl id rfl
  | dev u dec h =>
    have hf := h.frame
    refine hR.quiet ?_ (by rw [hf]) (by rw [hf]; exact id) (by rw [hf])
    induction h using DevStep.split with
    | birth h | death h => cases h <;> rfl
    | quiet | cb => rfl
  | user j dec h =>
    cases h with
    | cancelStart u hu hk hp hr =>
      refine ⟨?_, hR.will, hR.so₁, hR.so₂, fun _ => rfl⟩
      obtain ⟨w, so₁, so₂, c⟩ := q
      obtain rfl : w = s.will := hR.will
      rcases hI.sync.loop.sl with hst | hs | ⟨⟨w, hw, hb, -⟩, hc⟩
      · rw [(hl hst).2.2.2.2] at hr; cases hr
      · rw [show s.will = some s.bdseq from hs]
        show ((some s.bdseq == some s.bdseq || _) && true) = true
        rw [beq_self_eq_true]; rfl
      · have : (so₂ || c) = true := by
          rcases hc with hc | hc
          · simp [show so₂ = true from hR.so₂ hc]
          · simp [show c = true from hR.c (hI.inv.phase_stopping hc)]
        rw [hw, hb]
        show ((_ || (so₂ || c) && (some ((w + 1) % 256) == some ((w + 1) % 256))) && true) = true
        rw [this, beq_self_eq_true, Bool.and_self, Bool.or_true]; rfl
    | pubNode | pubDev => exact hR.quiet (by generalize outcome _ dec = r; cases r <;> rfl) rfl id rfl
    | _ => exact hR.quiet rfl rfl id rfl

theorem runActs_init {cd : Nat} {acts : List Act} {s : St} {tr : List Obs}
    (h : runActs (init cd) acts = some (s, tr)) :
    Wf s ∧ nbirthBdOk none tr = true ∧ willChainOk none false false tr = true ∧
      ndeathBdOk none false false tr = true := by
  obtain ⟨hok, hI, -⟩ := ok_monitor.reaches (R := Rel) (q₀ := ⟨none, false, false, false⟩)
    (fun hI hR hs => hR.step hI hs) ⟨rfl, nofun, nofun, nofun⟩ h
  simp only [Mon.ok, Bool.and_eq_true] at hok
  exact ⟨hI, hok⟩

theorem will_current {s : St} (hI : Wf s) (hp : s.loop = .sel ∨ s.loop = .polling) :
    s.will = some s.bdseq := by
  have hl := hI.sync.loop
  rcases hp with hp | hp <;> rw [hp] at hl <;> exact hl.1

theorem bdseq_step {s : St} {a : Act} {r : St × List Obs} (h : runAct s a = some r)
    (hne : r.1.bdseq ≠ s.bdseq) :
    (∃ dec k, a = .task .node dec k) ∧ s.node = .idle ∧ (∃ w, s.cs = some (.offline w)) ∧
      s.online = true ∧ r.1.online = false ∧ r.1.bdseq = (s.bdseq + 1) % 256 := by
  cases a with
  | stim x =>
    obtain rfl : applyStim s x = r := Option.some.inj h
    exact absurd (by rw [(StimStep.of_apply s x).frame]) hne
  | task t dec k =>
    have hm : r ∈ step s t dec := List.mem_of_getElem? h
    cases t with
    | loop => exact absurd (by rw [(LoopStep.of_mem hm).frame]) hne
    | loopTimeout => exact absurd (by rw [(TimeoutStep.of_mem hm).frame]) hne
    | dev u => exact absurd (by rw [(DevStep.of_mem hm).frame]) hne
    | user j => exact absurd (by rw [(UserStep.of_mem hm).frame]) hne
    | node =>
      obtain ⟨s', o⟩ := r
      have hs : NodeStep s dec s' o := .of_mem hm
      cases hs with
      | offline w hpc hcs hon => exact ⟨⟨dec, k, rfl⟩, hpc, ⟨w, hcs⟩, hon, rfl, rfl⟩
      | _ => exact absurd rfl hne

end Srad.Eon.P03
