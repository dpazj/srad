/-
C15 (host side) / M15 — what a host application publishes through `AppClient::publish_metrics`,
`try_publish_metrics` and `publish_node_rebirth` is what the addressed edge node's (device's)
manager is handed: end-to-end composition of the host-side construction (`Model/HostCmd.lean`),
the topic string and receive path (`Model/Topic.lean`, C13) and the node-side command handling
(`Model/Cmd.lean`, C15).

The protobuf codec is the pair `enc` / `dec`; the theorems need `dec (enc p) = some p` only for
the payload `p` at hand (discharged for prost by M13). `valid` is `String::from_utf8(..).is_ok()`.
A node is *addressable* when its ids pass name validation (that is what `EoNBuilder` enforces)
and its group id is not the reserved word `STATE` (which `EoNBuilder` does NOT enforce: see
`C15H_group_STATE_never_commanded`).
-/
import SradModel.Proofs.HostCmd
import SradModel.Proofs.Codec
import SradModel.Props.C15

namespace Srad.HostCmd
open Srad.Codec Srad.Cmd
open Srad.Topic (Verb STATE nodeTopic deviceTopic NameOk)

/-- the node's ids are Rust strings that pass `validate_name`, the group is not `STATE` -/
structure Addressable (valid : Bytes → Bool) (cfg : NodeCfg) : Prop where
  group : NameOk cfg.group
  node : NameOk cfg.node
  groupUtf8 : valid cfg.group = true
  nodeUtf8 : valid cfg.node = true
  notState : cfg.group ≠ STATE

/-! ### what the host hands to its client -/

/-- **Payload frame.** Whatever the metrics, the payload of `publish_metrics` /
`try_publish_metrics` carries the clock reading as its timestamp, no sequence number, no uuid,
no body, and one payload metric per publish metric, in order. -/
theorem C15H_payload_frame (try_ : Bool) (clock : Nat) (t : PublishTopic) (ms : List PublishMetric) :
    let p := (send try_ clock t ms).payload
    p.ts = some clock ∧ p.seq = none ∧ p.uuid = none ∧ p.body = none ∧ p.metrics = ms.map toMetric := by
  rw [send_eq]
  cases t <;> exact ⟨rfl, rfl, rfl, rfl, rfl⟩

/-- **Payload metric.** A publish metric becomes a payload metric with exactly its identifier
(the name and no alias, or the alias and no name), its value (always present, `is_null` unset),
its optional timestamp, and nothing else (no datatype, flags, metadata, properties). -/
theorem C15H_payload_metric (p : PublishMetric) :
    let m := toMetric p
    (match p.id with
      | .name n => m.core.name = some n ∧ m.core.alias = none
      | .alias a => m.core.alias = some a ∧ m.core.name = none) ∧
    m.core.value = some p.value ∧ m.core.isNull = none ∧ m.core.ts = p.ts ∧
    m.datatype = none ∧ m.historical = none ∧ m.transient = none ∧
    m.hasMetadata = false ∧ m.hasProps = false := by
  rcases p with ⟨id, v, ts⟩
  cases id <;> simp [toMetric]

/-- `PublishMetric::new` leaves the timestamp unset, `.timestamp(t)` sets it and nothing else;
`MetricBirthDetails::get_metric_id` prefers the alias. -/
theorem C15H_builder (id : MetricId) (v : PV) (t : Nat) (name : Bytes) (a : Nat) :
    (PublishMetric.new id v).ts = none ∧ (PublishMetric.new id v).id = id ∧
    (PublishMetric.new id v).value = v ∧
    ((PublishMetric.new id v).timestamp t) = { id := id, value := v, ts := some t } ∧
    getMetricId name (some a) = .alias a ∧ getMetricId name none = .name name :=
  ⟨rfl, rfl, rfl, rfl, rfl, rfl⟩

/-- **try_ = non-blocking, otherwise blocking.** `try_publish_metrics` calls a `try_publish_*`
method of the client and nothing else; `publish_metrics` and `publish_node_rebirth` call a
blocking `publish_*` method and nothing else (each entry point is exactly one client call). -/
theorem C15H_try_nonblocking_blocking_blocking (clock : Nat) (t : PublishTopic)
    (ms : List PublishMetric) (g n : Bytes) :
    (tryPublishMetrics clock t ms).method.blocking = false ∧
    (publishMetrics clock t ms).method.blocking = true ∧
    (publishNodeRebirth clock g n).method.blocking = true := by
  cases t <;> exact ⟨rfl, rfl, rfl⟩

/-- **Node topic = NCMD.** For a topic made by `new_node_cmd(g, n)` the client's *node* method
is called with message type NCMD and the topic string `spBv1.0/<g>/NCMD/<n>`, for all ids. -/
theorem C15H_node_topic_is_ncmd (try_ : Bool) (clock : Nat) (g n : Bytes) (ms : List PublishMetric) :
    let c := send try_ clock (.node g n) ms
    c.method.forDevice = false ∧ c.verb = .cmd ∧ c.topic = nodeTopic g .cmd n ∧
    c.method.blocking = !try_ := by
  cases try_ <;> exact ⟨rfl, rfl, rfl, rfl⟩

/-- **Device topic = DCMD.** For `new_device_cmd(g, n, d)`: the client's *device* method,
message type DCMD, topic string `spBv1.0/<g>/DCMD/<n>/<d>`. -/
theorem C15H_device_topic_is_dcmd (try_ : Bool) (clock : Nat) (g n d : Bytes)
    (ms : List PublishMetric) :
    let c := send try_ clock (.device g n d) ms
    c.method.forDevice = true ∧ c.verb = .cmd ∧ c.topic = deviceTopic g .cmd n d ∧
    c.method.blocking = !try_ := by
  cases try_ <;> exact ⟨rfl, rfl, rfl, rfl⟩

/-! ### nothing the host can build is filtered by the node -/

/-- Every payload metric the host API can build is a well-formed command metric in the sense
of C15 (it has an identifier and a value) — whether or not it has a timestamp of its own: the
node does not require one. -/
theorem C15H_every_metric_wellformed (p : PublishMetric) : (toMetric p).core.WellFormed := by
  rcases p with ⟨id, v, ts⟩
  cases id <;> simp [toMetric, Metric.WellFormed, Metric.specId]

/-- **Nothing is filtered.** The node-side conversion (`MessageMetrics` iteration, which skips
metrics without identifier and metrics with neither value nor `is_null = true`) keeps EVERY
metric of EVERY host-built batch, in order, with the host's identifier, optional timestamp and
value. -/
theorem C15H_nothing_filtered (try_ : Bool) (clock : Nat) (t : PublishTopic) (ms : List PublishMetric) :
    drainIter (send try_ clock t ms).payload.toCmd.metrics = ms.map PublishMetric.asDelivered := by
  rw [send_eq]
  cases t <;> exact drainIter_host ms

/-- **Typed values arrive typed.** A value of one of the thirteen scalar Rust types sent with
`PublishMetric::new::<T>` is delivered as a value that a `SimpleMetricManager` handler registered
for the same Rust type converts back (`T::try_from(MetricValue)`, C15_simple_callbacks) to
exactly the value the host sent. -/
theorem C15H_typed_value_roundtrip (id : MetricId) (ty : STy) (v : SV) (h : ty.holds v = true) :
    convert ty (PublishMetric.newTyped id ty v).asDelivered.value = some (some v) := by
  simp [PublishMetric.newTyped, PublishMetric.new, PublishMetric.asDelivered, convert,
    scalar_roundtrip ty v h]

/-! ### end to end -/

/-- **Fidelity, node.** For EVERY batch of publish metrics (any identifiers, values, optional
timestamps, also the empty batch), sent blocking or try_ to the command topic of an addressable
node whose node task is alive and idle: the node's manager is called exactly once, with the
host's clock reading as payload timestamp and exactly the host's metrics — same identifiers,
timestamps and values, same order, none missing, none added; no device manager is called. -/
theorem C15H_node_fidelity (valid : Bytes → Bool) (enc : WirePayload → Bytes)
    (dec : Bytes → Option WirePayload) (cfg : NodeCfg) (ha : Addressable valid cfg)
    (try_ : Bool) (clock : Nat) (ms : List PublishMetric)
    (hcodec : dec (enc (metricsToPayload clock ms)) = some (metricsToPayload clock ms))
    (decs : List Dec) (st : St) (hr : st.Ready) (hi : st.Inv) :
    let r := endToEnd valid enc dec cfg decs st (send try_ clock (.node cfg.group cfg.node) ms)
    r.2.filter Eff.isCmd = [.cmd none clock (ms.map PublishMetric.asDelivered)] ∧
    ∀ e ∈ r.2, ∀ d, e.target? ≠ some (some d) := by
  simp only [send_eq, endToEnd,
    transport_node_own valid enc dec cfg ha.group ha.node ha.groupUtf8 ha.nodeUtf8 ha.notState try_ _ hcodec]
  have h := C15_ncmd_routing decs .cmd (metricsToPayload clock ms).toCmd st hr hi
  simp only at h
  rw [expectedCmd_host] at h
  exact h

/-- **Fidelity, device.** The same for the command topic of a registered device `d` (token `k`)
of an addressable node, in EVERY node state: `d`'s manager — and only `d`'s — is called exactly
once with the host's clock reading and exactly the host's metrics; the node state is untouched
(in particular no birth). -/
theorem C15H_device_fidelity (valid : Bytes → Bool) (enc : WirePayload → Bytes)
    (dec : Bytes → Option WirePayload) (cfg : NodeCfg) (ha : Addressable valid cfg)
    (d : Bytes) (k : Nat) (hd : NameOk d) (hvd : valid d = true)
    (hk : devToken cfg.devices d = some k)
    (try_ : Bool) (clock : Nat) (ms : List PublishMetric)
    (hcodec : dec (enc (metricsToPayload clock ms)) = some (metricsToPayload clock ms))
    (decs : List Dec) (st : St) (hreg : (st.devs.any fun x => x.name == k) = true) :
    let r := endToEnd valid enc dec cfg decs st (send try_ clock (.device cfg.group cfg.node d) ms)
    r.1 = st ∧
    r.2.filter Eff.isCmd = [.cmd (some k) clock (ms.map PublishMetric.asDelivered)] ∧
    ∀ e ∈ r.2, (e.isCmd = true ∨ e.isCb = true) ∧ e.target? = some (some k) := by
  simp only [send_eq, endToEnd, hk,
    transport_device_own valid enc dec cfg ha.group ha.node ha.groupUtf8 ha.nodeUtf8 ha.notState try_ _
      hcodec d hd hvd]
  have h := C15_dcmd_routing decs st k .cmd (metricsToPayload clock ms).toCmd
  simp only [hreg, if_true] at h
  rw [expectedCmd_host] at h
  exact ⟨h.1, h.2.2, h.2.1⟩

/-- The device token is the position of the device id among the registered ids. -/
theorem C15H_device_token (devs : List Bytes) (d : Bytes) (k : Nat) (h : devToken devs d = some k) :
    devs[k]? = some d := by
  induction devs generalizing k with
  | nil => simp [devToken] at h
  | cons x t ih =>
    simp only [devToken] at h
    split at h
    · cases h; subst_vars; simp
    · cases ht : devToken t d with
      | none => simp [ht] at h
      | some j =>
        simp [ht] at h
        subst h
        simpa using ih j ht

/-- **The one thing that is dropped (by design).** A DCMD for a device id that is not registered
at the addressed node reaches the node and is dropped there (`handle_device_message` logs a
warning): no manager is called, the state is unchanged, the host's call still returned `Ok`. -/
theorem C15H_unregistered_device_dropped (valid : Bytes → Bool) (enc : WirePayload → Bytes)
    (dec : Bytes → Option WirePayload) (cfg : NodeCfg) (ha : Addressable valid cfg)
    (d : Bytes) (hd : NameOk d) (hvd : valid d = true) (hk : devToken cfg.devices d = none)
    (try_ : Bool) (clock : Nat) (ms : List PublishMetric)
    (hcodec : dec (enc (metricsToPayload clock ms)) = some (metricsToPayload clock ms))
    (decs : List Dec) (st : St) :
    transport valid enc dec cfg (send try_ clock (.device cfg.group cfg.node d) ms) = .ignored ∧
    (endToEnd valid enc dec cfg decs st (send try_ clock (.device cfg.group cfg.node d) ms)).2 = [] := by
  have h := transport_device_own valid enc dec cfg ha.group ha.node ha.groupUtf8 ha.nodeUtf8
    ha.notState try_ _ hcodec d hd hvd
  rw [hk] at h
  simp only [send_eq, endToEnd, h, and_self]

/-- **Exactly that node.** A command published to the node (device) topic of valid ids
`(g, n)` passes the subscriptions of an addressable node iff `(g, n)` are that node's own ids;
for any other node nothing happens: no manager call, no state change. -/
theorem C15H_only_the_addressed_node (valid : Bytes → Bool) (enc : WirePayload → Bytes)
    (dec : Bytes → Option WirePayload) (cfg : NodeCfg) (ha : Addressable valid cfg)
    (g n d : Bytes) (hg : NameOk g) (hn : NameOk n) (hd : NameOk d) (hs : g ≠ STATE)
    (try_ : Bool) (clock : Nat) (ms : List PublishMetric) (decs : List Dec) (st : St) :
    (brokerDelivers cfg (send try_ clock (.node g n) ms).topic = true ↔ g = cfg.group ∧ n = cfg.node) ∧
    (brokerDelivers cfg (send try_ clock (.device g n d) ms).topic = true ↔ g = cfg.group ∧ n = cfg.node) ∧
    (¬ (g = cfg.group ∧ n = cfg.node) →
      endToEnd valid enc dec cfg decs st (send try_ clock (.node g n) ms) = (st, []) ∧
      endToEnd valid enc dec cfg decs st (send try_ clock (.device g n d) ms) = (st, [])) := by
  have h1 := brokerDelivers_iff (cfg := cfg) ha.group ha.node hs
    (.inl (split_nodeTopic g n hg.noSlash hn.noSlash))
  have h2 := brokerDelivers_iff (cfg := cfg) ha.group ha.node hs
    (.inr ⟨d, split_deviceTopic g n d hg.noSlash hn.noSlash hd.noSlash⟩)
  refine ⟨by rw [send_eq]; exact h1, by rw [send_eq]; exact h2, ?_⟩
  intro hne
  have b1 : brokerDelivers cfg (nodeTopic g .cmd n) = false := by
    cases hb : brokerDelivers cfg (nodeTopic g .cmd n) with
    | false => rfl
    | true => exact absurd (h1.mp hb) hne
  have b2 : brokerDelivers cfg (deviceTopic g .cmd n d) = false := by
    cases hb : brokerDelivers cfg (deviceTopic g .cmd n d) with
    | false => rfl
    | true => exact absurd (h2.mp hb) hne
  constructor
  · rw [send_eq, endToEnd, transport_other valid enc dec cfg _ (by simpa [clientCall] using b1)]
  · rw [send_eq, endToEnd, transport_other valid enc dec cfg _ (by simpa [clientCall] using b2)]

/-! ### publish_node_rebirth -/

/-- **The rebirth request.** For every group and node id, `publish_node_rebirth(g, n)` hands
its client — by the blocking node method — an NCMD on `spBv1.0/<g>/NCMD/<n>` whose payload has
a timestamp (the clock reading) and the single metric `Node Control/Rebirth`, by name, without
alias, with the value boolean true; the node-side recognition loop accepts it as a valid
rebirth request. -/
theorem C15H_rebirth_request (clock : Nat) (g n : Bytes) :
    let c := publishNodeRebirth clock g n
    c.method = .publishNode ∧ c.verb = .cmd ∧ c.topic = nodeTopic g .cmd n ∧
    c.payload.ts = some clock ∧
    c.payload.toCmd.metrics = [{ name := some rebirthName, alias := none, ts := none, isNull := none,
                                 value := some (.bool true) }] ∧
    rebirthRequested c.payload.toCmd.metrics = true ∧ RebirthRequested c.payload.toCmd.metrics := by
  have hr : rebirthRequested (publishNodeRebirth clock g n).payload.toCmd.metrics = true := rfl
  exact ⟨rfl, rfl, rfl, rfl, rfl, hr, (C15_rebirth_recognition _).mp hr⟩

/-- **The request is honoured.** Sent to an addressable node whose node task is alive and idle,
the request of `publish_node_rebirth` makes the node hand over an NBIRTH if and only if the node
is birthed and the request is outside the rebirth cooldown — for every group / node id, clock
reading and node state; the node's manager is handed the request as well. -/
theorem C15H_rebirth_honoured (valid : Bytes → Bool) (enc : WirePayload → Bytes)
    (dec : Bytes → Option WirePayload) (cfg : NodeCfg) (ha : Addressable valid cfg) (clock : Nat)
    (hcodec : dec (enc (metricsToPayload clock [rebirthMetric])) = some (metricsToPayload clock [rebirthMetric]))
    (decs : List Dec) (st : St) (hr : st.Ready) (hi : st.Inv) :
    let r := endToEnd valid enc dec cfg decs st (publishNodeRebirth clock cfg.group cfg.node)
    ((∃ e ∈ r.2, e.isNBirth = true) ↔ (st.birthed = true ∧ st.cooldown ≤ st.wall - st.last)) ∧
    r.2.filter Eff.isCmd = [.cmd none clock [rebirthMetric.asDelivered]] := by
  have hs : publishNodeRebirth clock cfg.group cfg.node =
      clientCall false (.node cfg.group cfg.node) (metricsToPayload clock [rebirthMetric]) := rfl
  simp only [hs, endToEnd,
    transport_node_own valid enc dec cfg ha.group ha.node ha.groupUtf8 ha.nodeUtf8 ha.notState false _ hcodec]
  have hd := C15_ncmd_decision decs .cmd (metricsToPayload clock [rebirthMetric]).toCmd st hr hi
  have hq : RebirthRequested (metricsToPayload clock [rebirthMetric]).toCmd.metrics :=
    (C15H_rebirth_request clock cfg.group cfg.node).2.2.2.2.2.2
  have hrt := C15_ncmd_routing decs .cmd (metricsToPayload clock [rebirthMetric]).toCmd st hr hi
  simp only at hrt
  rw [expectedCmd_host] at hrt
  refine ⟨?_, hrt.1⟩
  rw [hd]
  constructor
  · rintro ⟨_, _, _, hb, hc⟩; exact ⟨hb, hc⟩
  · rintro ⟨hb, hc⟩; exact ⟨rfl, rfl, hq, hb, hc⟩

/-! ### finding: a node whose group id is `STATE` cannot be commanded -/

/-- `EoNBuilder` accepts the group id `STATE` (it passes name validation); the node subscribes to
`spBv1.0/STATE/NCMD/<n>`, the host publishes there, the broker delivers — and the node's client
reads the topic as a malformed STATE topic (`InvalidPublish`): no command, and no rebirth
request, ever reaches such a node. (Same root as the hypothesis `g ≠ STATE` of C13.) -/
theorem C15H_group_STATE_never_commanded (valid : Bytes → Bool) (enc : WirePayload → Bytes)
    (dec : Bytes → Option WirePayload) (n : Bytes) (devs : List Bytes) (hn : NameOk n)
    (c : Call) (hc : c.topic = nodeTopic STATE .cmd n) (decs : List Dec) (st : St) :
    Topic.eonBuild (some STATE) (some n) = .ok ∧
    brokerDelivers { group := STATE, node := n, devices := devs } c.topic = true ∧
    endToEnd valid enc dec { group := STATE, node := n, devices := devs } decs st c = (st, []) := by
  have hS : NameOk STATE := by unfold NameOk; decide
  have hb : brokerDelivers { group := STATE, node := n, devices := devs } c.topic = true := by
    rw [hc]
    unfold brokerDelivers nodeFilters mqttMatch
    simp only [List.any_cons, split_nodeTopic _ _ hS.noSlash hn.noSlash, matchLv_cons_cons]
    simp [matchLv]
  have hp : ∀ p, nodeOp { group := STATE, node := n, devices := devs }
      (Topic.parse valid dec c.topic p) = none := by
    intro p
    rw [hc]
    unfold Topic.parse
    rw [split_nodeTopic _ _ hS.noSlash hn.noSlash]
    unfold Topic.parseSegs
    simp only [if_true]
    split <;> rfl
  refine ⟨?_, hb, ?_⟩
  · have := (Topic.validateName_iff n).mpr hn
    have h2 : Topic.validateName STATE = true := by decide
    simp [Topic.eonBuild, this, h2]
  · simp [endToEnd, transport, hb, hp]

/-! ### non-vacuity: the hypotheses are satisfiable by concrete, non-trivial inputs -/

section Examples

/-- node `g`/`n` with devices `d0`, `d1` -/
def exCfg : NodeCfg := { group := [0x67], node := [0x6e], devices := [[0x64, 0x30], [0x64, 0x31]] }

/-- a batch: a named string, an aliased u8 with timestamp, a named metric from birth details -/
def exBatch : List PublishMetric :=
  [PublishMetric.new (.name [0x78]) (.str [0x68, 0x69]),
   (PublishMetric.newTyped (.alias 7) .u8 (.n 200)).timestamp 33,
   PublishMetric.new (getMetricId [0x6d] none) .dataset]

/-- the node after `online` with both devices enabled: birthed, idle -/
def exSt : St :=
  (step [] (St.init 0 1000 [{ name := 0, enabled := true }, { name := 1, enabled := true }]
    (fun _ _ => 0)) (.node (.online true))).1

def exEnc : WirePayload → Bytes := fun _ => []
def exDec (p : WirePayload) : Bytes → Option WirePayload := fun _ => some p

example : Addressable Topic.asciiValid exCfg :=
  ⟨by unfold NameOk; decide +kernel, by unfold NameOk; decide +kernel, by decide, by decide, by decide⟩

example : exSt.Ready ∧ exSt.Inv ∧ exSt.birthed = true := by
  unfold St.Ready St.Inv; decide +kernel

example : (endToEnd Topic.asciiValid exEnc (exDec (metricsToPayload 5000 exBatch)) exCfg [] exSt
    (send true 5000 (.node exCfg.group exCfg.node) exBatch)).2 =
    [.cmd none 5000 [⟨.name [0x78], none, some (.str [0x68, 0x69])⟩, ⟨.alias 7, some 33, some (.int 200)⟩,
      ⟨.name [0x6d], none, some .dataset⟩]] := by decide +kernel

example : (endToEnd Topic.asciiValid exEnc (exDec (metricsToPayload 5000 exBatch)) exCfg [] exSt
    (send false 5000 (.device exCfg.group exCfg.node [0x64, 0x31]) exBatch)).2 =
    [.cmd (some 1) 5000 (exBatch.map PublishMetric.asDelivered)] := by decide +kernel

example : STy.i8.holds (.n 0x80) = true ∧
    (PublishMetric.newTyped (.alias 1) .i8 (.n 0x80)).value = .int 0x80 := by decide +kernel

example : devToken exCfg.devices [0x64, 0x31] = some 1 ∧ devToken exCfg.devices [0x64, 0x39] = none := by
  decide +kernel

example : (endToEnd Topic.asciiValid exEnc (exDec (metricsToPayload 7000 [rebirthMetric])) exCfg [] exSt
    (publishNodeRebirth 7000 exCfg.group exCfg.node)).2 =
    [.cmd none 7000 [⟨.name rebirthName, none, some (.bool true)⟩], .nbirth 0 0, .dbirth 0 1, .dbirth 1 2] := by
  decide +kernel

/-- another node's topic: nothing arrives -/
example : (endToEnd Topic.asciiValid exEnc (exDec (metricsToPayload 5000 exBatch)) exCfg [] exSt
    (send false 5000 (.node exCfg.group [0x6d]) exBatch)).2 = [] := by decide +kernel

/-- group `STATE`: the broker delivers, the node ignores -/
example : brokerDelivers { group := STATE, node := [0x6e] } (nodeTopic STATE .cmd [0x6e]) = true ∧
    (endToEnd Topic.asciiValid exEnc (exDec (metricsToPayload 7000 [rebirthMetric]))
      { group := STATE, node := [0x6e] } [] exSt (publishNodeRebirth 7000 STATE [0x6e])).2 = [] := by
  decide +kernel

end Examples

end Srad.HostCmd
