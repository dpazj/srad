/- Once `Inv` holds, `process` and `drain` depend only on which messages wait (`process_spec`,
`drain_spec`): looking up `seq - off` finds the entry that arrived as `seq` (`Inv.key_iff`). -/
import SradModel.Model.ReseqSpec

namespace Srad.Reseq

theorem init_inv {α} : Inv (init : St (Nat × α)) := ⟨Nat.zero_lt_succ _, rfl⟩

section Basic
variable {β : Type}

theorem hasKey_iff (k : Nat) (l : List (Nat × β)) :
    hasKey k l = true ↔ ∃ x ∈ l, x.1 = k := by
  induction l with
  | nil => simp [hasKey]
  | cons a t ih => simp [hasKey, ih]

theorem hasKey_false_iff (k : Nat) (l : List (Nat × β)) :
    hasKey k l = false ↔ ∀ x ∈ l, x.1 ≠ k := by
  rw [← Bool.not_eq_true, hasKey_iff]
  exact ⟨fun h x hx hk => h ⟨x, hx, hk⟩, fun h ⟨x, hx, hk⟩ => h x hx hk⟩

theorem insertSorted_perm (k : Nat) (v : β) (l : List (Nat × β)) :
    (insertSorted k v l).Perm ((k, v) :: l) := by
  induction l with
  | nil => exact .refl _
  | cons a t ih =>
    simp only [insertSorted]
    split
    · exact .refl _
    · exact (ih.cons _).trans (.swap _ _ _)

theorem mem_insertSorted (k : Nat) (v : β) (l : List (Nat × β)) (x : Nat × β) :
    x ∈ insertSorted k v l ↔ x = (k, v) ∨ x ∈ l :=
  (insertSorted_perm k v l).mem_iff.trans List.mem_cons

theorem insertSorted_ne_nil (k : Nat) (v : β) (l : List (Nat × β)) :
    insertSorted k v l ≠ [] :=
  List.ne_nil_of_mem ((mem_insertSorted k v l _).mpr (Or.inl rfl))

theorem insertSorted_pairwise (k : Nat) (v : β) (l : List (Nat × β))
    (hp : l.Pairwise (fun a b => a.1 < b.1)) (hk : ∀ x ∈ l, x.1 ≠ k) :
    (insertSorted k v l).Pairwise (fun a b => a.1 < b.1) := by
  induction l with
  | nil => simp [insertSorted]
  | cons a t ih =>
    obtain ⟨hhd, htl⟩ := List.pairwise_cons.mp hp
    simp only [insertSorted]
    split
    · rename_i hlt
      refine List.pairwise_cons.mpr ⟨fun x hx => ?_, hp⟩
      rcases List.mem_cons.mp hx with rfl | hx
      · exact hlt
      · exact Nat.lt_trans hlt (hhd x hx)
    · refine List.pairwise_cons.mpr
        ⟨fun x hx => ?_, ih htl (fun x hx => hk x (List.mem_cons_of_mem _ hx))⟩
      rcases (mem_insertSorted k v t x).mp hx with rfl | hx
      · have := hk a (List.mem_cons_self ..)
        show a.1 < k
        omega
      · exact hhd x hx

theorem insertSorted_last {β : Type} (k : Nat) (v : β) : ∀ l : List (Nat × β), (∀ x ∈ l, x.1 < k) →
    insertSorted k v l = l ++ [(k, v)]
  | [], _ => rfl
  | (k', v') :: t, h => by
    have hk : ¬ k < k' := by have := h (k', v') (List.mem_cons_self ..); omega
    simp only [insertSorted, hk, if_false, List.cons_append]
    rw [insertSorted_last k v t (fun x hx => h x (List.mem_cons_of_mem _ hx))]

theorem removeKey_some (k : Nat) (l : List (Nat × β)) (m : β) (t : List (Nat × β))
    (h : removeKey k l = some (m, t)) :
    l.Perm ((k, m) :: t) ∧ t.Sublist l := by
  induction l generalizing t with
  | nil => cases h
  | cons a l ih =>
    simp only [removeKey] at h
    split at h
    · rename_i hk
      cases h
      exact hk ▸ ⟨.refl _, List.sublist_cons_self _ _⟩
    · split at h <;> cases h
      obtain ⟨hp, hs⟩ := ih _ ‹_›
      exact ⟨(hp.cons _).trans (.swap _ _ _), hs.cons_cons _⟩

theorem removeKey_none_iff (k : Nat) (l : List (Nat × β)) :
    removeKey k l = none ↔ ∀ x ∈ l, x.1 ≠ k := by
  induction l with
  | nil => simp [removeKey]
  | cons a l ih =>
    rw [List.forall_mem_cons, ← ih]
    simp only [removeKey]
    by_cases hk : a.1 = k
    · simp [hk]
    · cases removeKey k l <;> simp [hk]

theorem mem_of_removeKey (k : Nat) (l : List (Nat × β)) (m : β) (t : List (Nat × β))
    (h : removeKey k l = some (m, t)) (x : Nat × β) :
    x ∈ l ↔ x = (k, m) ∨ x ∈ t := by
  rw [(removeKey_some k l m t h).1.mem_iff, List.mem_cons]

theorem removeKey_nokey (k : Nat) (l : List (Nat × β)) (m : β) (t : List (Nat × β))
    (h : removeKey k l = some (m, t)) (hp : l.Pairwise (fun a b => a.1 < b.1)) :
    ∀ x ∈ t, x.1 ≠ k := by
  have hp' := ((removeKey_some k l m t h).1.pairwise_iff
    (R := fun a b : Nat × β => a.1 ≠ b.1) Ne.symm).mp (hp.imp Nat.ne_of_lt)
  exact fun x hx => Ne.symm ((List.pairwise_cons.mp hp').1 x hx)

end Basic

section Equations
variable {β : Type}

theorem mode_cases (s : St β) : s.mode = .good ∨ ∃ off, s.mode = .reseq off := by
  cases s.mode
  · exact Or.inl rfl
  · exact Or.inr ⟨_, rfl⟩

theorem process_good (s : St β) (seq : Nat) (m : β) (hm : s.mode = .good) :
    process s seq m =
      if s.next = seq then ({ s with next := wadd s.next 1 }, .next m)
      else if hasKey (wsub seq s.next) s.buf then ({ s with mode := .reseq s.next }, .dup)
      else ({ s with mode := .reseq s.next,
                     buf := insertSorted (wsub seq s.next) m s.buf }, .inserted) := by
  simp only [process, hm]

theorem process_reseq (s : St β) (seq off : Nat) (m : β) (hm : s.mode = .reseq off) :
    process s seq m =
      if hasKey (wsub seq off) s.buf then (s, .dup)
      else if s.next = seq then ({ s with next := wadd s.next 1 }, .next m)
      else ({ s with buf := insertSorted (wsub seq off) m s.buf }, .inserted) := by
  simp only [process, hm]
  split <;> split <;> rfl

theorem drain_good (s : St β) (hm : s.mode = .good) :
    drain s = (s, if s.buf.isEmpty then .empty else .panic) := by
  simp only [drain, hm]
  split <;> rfl

theorem drain_nil (s : St β) (h : s.buf = []) : drain s = (s, .empty) := by
  unfold drain
  split <;> simp [h]

theorem drain_reseq_none (s : St β) (off : Nat) (hm : s.mode = .reseq off)
    (hr : removeKey (wsub s.next off) s.buf = none) :
    drain s = (s, if s.buf.isEmpty then .empty else .missing) := by
  simp only [drain, hm, hr]
  split <;> rfl

theorem drain_reseq_some (s : St β) (off : Nat) (m : β) (t : List (Nat × β))
    (hm : s.mode = .reseq off) (hr : removeKey (wsub s.next off) s.buf = some (m, t)) :
    drain s = ({ buf := t, next := wadd s.next 1,
                 mode := if t.isEmpty then .good else .reseq off }, .msg m) := by
  have hne : s.buf.isEmpty = false := by
    cases hb : s.buf with
    | nil => rw [hb] at hr; cases hr
    | cons a b => rfl
  simp only [drain, hm, hr, hne]
  cases t <;> rfl

theorem process_cases (s : St β) (seq : Nat) (m : β) :
    (s.next = seq ∧ process s seq m = ({ s with next := wadd s.next 1 }, .next m)) ∨
    (∃ s', process s seq m = (s', .inserted) ∧ s'.next = s.next ∧
        ∃ k, s'.buf = insertSorted k m s.buf) ∨
    (∃ s', process s seq m = (s', .dup) ∧ s'.next = s.next ∧ s'.buf = s.buf) := by
  rcases mode_cases s with hm | ⟨off, hm⟩
  · rw [process_good s seq m hm]
    split
    · exact Or.inl ⟨‹_›, rfl⟩
    · split
      · exact Or.inr (Or.inr ⟨_, rfl, rfl, rfl⟩)
      · exact Or.inr (Or.inl ⟨_, rfl, rfl, _, rfl⟩)
  · rw [process_reseq s seq off m hm]
    split
    · exact Or.inr (Or.inr ⟨_, rfl, rfl, rfl⟩)
    · split
      · exact Or.inl ⟨‹_›, rfl⟩
      · exact Or.inr (Or.inl ⟨_, rfl, rfl, _, rfl⟩)

theorem drain_cases (s : St β) :
    (∃ off m t, s.mode = .reseq off ∧ removeKey (wsub s.next off) s.buf = some (m, t) ∧
        drain s = ({ buf := t, next := wadd s.next 1,
                     mode := if t.isEmpty then .good else .reseq off }, .msg m)) ∨
    (∃ r, drain s = (s, r) ∧ ∀ m, r ≠ .msg m) := by
  rcases mode_cases s with hm | ⟨off, hm⟩
  · exact Or.inr ⟨_, drain_good s hm, by split <;> simp⟩
  · cases hr : removeKey (wsub s.next off) s.buf with
    | none => exact Or.inr ⟨_, drain_reseq_none s off hm hr, by split <;> simp⟩
    | some mt => exact Or.inl ⟨off, mt.1, mt.2, hm, hr, drain_reseq_some s off _ _ hm hr⟩

end Equations

section Steps
variable {α : Type}

theorem wadd_wsub (a off : Nat) (ha : a < 256) : wadd (wsub a off) off = a := by
  unfold wadd wsub; omega

theorem wadd_lt (a b : Nat) : wadd a b < 256 := Nat.mod_lt _ (by decide)

theorem Inv.key_iff {s : St (Nat × α)} {off : Nat} (h : Inv s) (hm : s.mode = .reseq off)
    {seq : Nat} (hs : seq < 256) {x : Nat × Nat × α} (hx : x ∈ s.buf) :
    x.1 = wsub seq off ↔ x.2.1 = seq := by
  have h2 := h.2
  rw [hm] at h2
  obtain ⟨ho, _, _, hall⟩ := h2
  obtain ⟨h1, h2⟩ := hall x hx
  rw [h2]
  unfold wsub
  omega

theorem Inv.hasKey_iff {s : St (Nat × α)} {off : Nat} (h : Inv s) (hm : s.mode = .reseq off)
    {seq : Nat} (hs : seq < 256) :
    hasKey (wsub seq off) s.buf = true ↔ ∃ x ∈ s.buf, x.2.1 = seq := by
  rw [Reseq.hasKey_iff]
  constructor <;> rintro ⟨x, hx, hk⟩
  · exact ⟨x, hx, (h.key_iff hm hs hx).mp hk⟩
  · exact ⟨x, hx, (h.key_iff hm hs hx).mpr hk⟩

theorem Inv.mode_good_iff {s : St (Nat × α)} (h : Inv s) : s.mode = .good ↔ s.buf = [] := by
  have h2 := h.2
  rcases mode_cases s with hm | ⟨off, hm⟩ <;> rw [hm] at h2 ⊢
  · exact ⟨fun _ => h2, fun _ => rfl⟩
  · exact ⟨fun h => Mode.noConfusion h, fun hb => absurd hb h2.2.1⟩

theorem Inv.num_lt {s : St (Nat × α)} (h : Inv s) {x : Nat × Nat × α} (hx : x ∈ s.buf) :
    x.2.1 < 256 := by
  have h2 := h.2
  rcases mode_cases s with hm | ⟨off, hm⟩ <;> rw [hm] at h2
  · rw [h2] at hx; cases hx
  · exact (h2.2.2.2 x hx).1

theorem process_spec (s : St (Nat × α)) (seq : Nat) (p : α) (h : Inv s) (hs : seq < 256) :
    ((∃ x ∈ s.buf, x.2.1 = seq) ∧ process s seq (seq, p) = (s, .dup)) ∨
    ((∀ x ∈ s.buf, x.2.1 ≠ seq) ∧ s.next = seq ∧
      process s seq (seq, p) = ({ s with next := wadd s.next 1 }, .next (seq, p))) ∨
    ((∀ x ∈ s.buf, x.2.1 ≠ seq) ∧ s.next ≠ seq ∧
      ∃ s', process s seq (seq, p) = (s', .inserted) ∧ Inv s' ∧ s'.next = s.next ∧
        ∃ k, s'.buf = insertSorted k (seq, p) s.buf) := by
  rcases mode_cases s with hm | ⟨off, hm⟩
  · have hb := h.mode_good_iff.mp hm
    have hno : ∀ x ∈ s.buf, x.2.1 ≠ seq := by simp [hb]
    have hk : hasKey (wsub seq s.next) s.buf = false := by rw [hb]; rfl
    rw [process_good s _ _ hm]
    by_cases hn : s.next = seq
    · exact Or.inr (Or.inl ⟨hno, hn, by rw [if_pos hn]⟩)
    · refine Or.inr (Or.inr ⟨hno, hn, { s with mode := .reseq s.next, buf := insertSorted _ _ s.buf },
        by rw [if_neg hn, hk, if_neg Bool.false_ne_true], ?_, rfl, _, rfl⟩)
      refine ⟨h.1, h.1, insertSorted_ne_nil _ _ _, ?_, fun x hx => ?_⟩
      · simp only [hb]; exact List.pairwise_singleton _ _
      · simp only [hb] at hx
        rw [List.mem_singleton.mp hx]
        exact ⟨hs, rfl⟩
  · rw [process_reseq s _ off _ hm]
    by_cases hk : hasKey (wsub seq off) s.buf = true
    · exact Or.inl ⟨(h.hasKey_iff hm hs).mp hk, by rw [if_pos hk]⟩
    · have hno : ∀ x ∈ s.buf, x.2.1 ≠ seq := fun x hx hx' =>
        hk ((h.hasKey_iff hm hs).mpr ⟨x, hx, hx'⟩)
      rw [if_neg hk]
      by_cases hn : s.next = seq
      · exact Or.inr (Or.inl ⟨hno, hn, by rw [if_pos hn]⟩)
      · refine Or.inr (Or.inr ⟨hno, hn, { s with buf := insertSorted _ _ s.buf },
          by rw [if_neg hn], ⟨h.1, ?_⟩, rfl, _, rfl⟩)
        have h2 := h.2
        simp only [hm] at h2 ⊢
        refine ⟨h2.1, insertSorted_ne_nil _ _ _, insertSorted_pairwise _ _ _ h2.2.2.1
          ((hasKey_false_iff _ _).mp (Bool.not_eq_true _ ▸ hk)), fun x hx => ?_⟩
        rcases (mem_insertSorted _ _ _ _).mp hx with rfl | hx
        · exact ⟨hs, rfl⟩
        · exact h2.2.2.2 x hx

theorem process_eq_dup {α : Type} (r : St (Nat × α)) (seq : Nat) (p : α) (hinv : Inv r)
    (hseq : seq < 256) (hdup : ∃ x ∈ r.buf, x.2.1 = seq) :
    process r seq (seq, p) = (r, .dup) := by
  obtain ⟨x, hx, hk⟩ := hdup
  rcases process_spec r seq p hinv hseq with ⟨_, h⟩ | ⟨hn, _⟩ | ⟨hn, _⟩
  · exact h
  · exact absurd hk (hn x hx)
  · exact absurd hk (hn x hx)

theorem process_eq_next {α : Type} (r : St (Nat × α)) (seq : Nat) (p : α) (hinv : Inv r)
    (hseq : seq < 256) (hn : seq = r.next) (hnew : ∀ x ∈ r.buf, x.2.1 ≠ seq) :
    process r seq (seq, p) = ({ r with next := wadd r.next 1 }, .next (seq, p)) := by
  rcases process_spec r seq p hinv hseq with ⟨⟨x, hx, hk⟩, _⟩ | ⟨_, _, h⟩ | ⟨_, hne, _⟩
  · exact absurd hk (hnew x hx)
  · exact h
  · exact absurd hn.symm hne

theorem process_eq_inserted {α : Type} (r : St (Nat × α)) (seq : Nat) (p : α)
    (hinv : Inv r) (hseq : seq < 256) (hn : seq ≠ r.next) (hnew : ∀ x ∈ r.buf, x.2.1 ≠ seq) :
    ∃ r', process r seq (seq, p) = (r', .inserted) := by
  rcases process_spec r seq p hinv hseq with ⟨⟨x, hx, hk⟩, _⟩ | ⟨_, he, _⟩ | ⟨_, _, r', h, _⟩
  · exact absurd hk (hnew x hx)
  · exact absurd he.symm hn
  · exact ⟨r', h⟩

theorem process_inv (s : St (Nat × α)) (seq : Nat) (p : α) (h : Inv s) (hs : seq < 256) :
    Inv (process s seq (seq, p)).1 := by
  rcases process_spec s seq p h hs with ⟨_, hp⟩ | ⟨_, _, hp⟩ | ⟨_, _, s', hp, hi, _⟩ <;> rw [hp]
  · exact h
  · exact ⟨wadd_lt _ _, h.2⟩
  · exact hi

theorem drain_spec (s : St (Nat × α)) (h : Inv s) :
    (∃ x s', x ∈ s.buf ∧ x.2.1 = s.next ∧ drain s = (s', .msg x.2) ∧ Inv s' ∧
        s'.next = wadd s.next 1 ∧ s.buf.Perm (x :: s'.buf) ∧ ∀ y ∈ s'.buf, y.2.1 ≠ s.next) ∨
    ((∀ x ∈ s.buf, x.2.1 ≠ s.next) ∧
      drain s = (s, if s.buf = [] then .empty else .missing)) := by
  rcases mode_cases s with hm | ⟨off, hm⟩
  · have hb := h.mode_good_iff.mp hm
    exact Or.inr ⟨by simp [hb], by rw [drain_nil s hb, if_pos hb]⟩
  · have h2 := h.2
    rw [hm] at h2
    obtain ⟨ho, hne, hpw, hall⟩ := h2
    cases hr : removeKey (wsub s.next off) s.buf with
    | none =>
      refine Or.inr ⟨fun x hx hx' => (removeKey_none_iff _ _).mp hr x hx ?_, ?_⟩
      · exact (h.key_iff hm h.1 hx).mpr hx'
      · rw [drain_reseq_none s off hm hr, if_neg hne]
        cases hb : s.buf with
        | nil => exact absurd hb hne
        | cons a t => rfl
    | some mt =>
      obtain ⟨m, t⟩ := mt
      obtain ⟨hperm, hsub⟩ := removeKey_some _ _ _ _ hr
      have hx : (wsub s.next off, m) ∈ s.buf := hperm.mem_iff.mpr (List.mem_cons_self ..)
      refine Or.inl ⟨_, _, hx, (h.key_iff hm h.1 hx).mp rfl, drain_reseq_some s off m t hm hr, ?_,
        rfl, hperm, fun y hy hy' => removeKey_nokey _ _ _ _ hr hpw y hy ?_⟩
      · cases t with
        | nil => exact ⟨wadd_lt _ _, rfl⟩
        | cons b t' =>
          exact ⟨wadd_lt _ _, ho, by simp, hpw.sublist hsub, fun x hx => hall x (hsub.subset hx)⟩
      · exact (h.key_iff hm h.1 (hsub.subset hy)).mpr hy'

theorem drain_inv (s : St (Nat × α)) (h : Inv s) : Inv (drain s).1 := by
  rcases drain_spec s h with ⟨_, _, _, _, hd, hi, _⟩ | ⟨_, hd⟩ <;> rw [hd]
  · exact hi
  · exact h

theorem stepOp_proc (s : St (Nat × α)) (seq : Nat) (p : α) :
    stepOp s (.proc seq p) =
      ((process s seq (seq, p)).1,
        match (process s seq (seq, p)).2 with
        | .next m => .released m
        | .inserted => .inserted (seq, p)
        | .dup => .dup (seq, p)) := by
  simp only [stepOp]
  split <;> simp_all

theorem stepOp_drain (s : St (Nat × α)) :
    stepOp s (.drain : Op α) =
      ((drain s).1,
        match (drain s).2 with
        | .msg m => .released m
        | .panic => .panicked
        | _ => .nothing) := by
  simp only [stepOp]
  split <;> simp_all

theorem runOps_cons (s : St (Nat × α)) (o : Op α) (os : List (Op α)) :
    runOps s (o :: os) =
      ((runOps (stepOp s o).1 os).1, (stepOp s o).2 :: (runOps (stepOp s o).1 os).2) := rfl

theorem runOps_inv (s : St (Nat × α)) (ops : List (Op α)) (h : Inv s)
    (hwf : ∀ o ∈ ops, o.WF) : Inv (runOps s ops).1 := by
  induction ops generalizing s with
  | nil => exact h
  | cons o os ih =>
    rw [runOps_cons]
    refine ih _ ?_ (fun o' ho' => hwf o' (List.mem_cons_of_mem _ ho'))
    have ho := hwf o (List.mem_cons_self ..)
    cases o with
    | proc seq p => rw [stepOp_proc]; exact process_inv s seq p h ho
    | drain => rw [stepOp_drain]; exact drain_inv s h
    | reset => exact init_inv
    | setNext n => exact ⟨ho, h.2⟩

theorem step_release_in_order (s : St (Nat × α)) (o : Op α) (h : Inv s) (ho : o.WF) :
    (∀ m, (stepOp s o).2 = Ev.released m →
        m.1 = s.next ∧ (stepOp s o).1.next = (s.next + 1) % 256) ∧
    ((∀ m, (stepOp s o).2 ≠ Ev.released m) → (∀ n, o ≠ Op.setNext n) → o ≠ Op.reset →
        (stepOp s o).1.next = s.next) := by
  cases o with
  | proc seq p =>
    rw [stepOp_proc]
    rcases process_cases s seq (seq, p) with ⟨hn, hp⟩ | ⟨s', hp, hn, _⟩ | ⟨s', hp, hn, _⟩ <;> rw [hp]
    · exact ⟨fun m hm => (by cases hm; exact ⟨hn.symm, rfl⟩), fun hno => absurd rfl (hno _)⟩
    · exact ⟨nofun, fun _ _ _ => hn⟩
    · exact ⟨nofun, fun _ _ _ => hn⟩
  | drain =>
    rw [stepOp_drain]
    rcases drain_spec s h with ⟨x, s', _, hx, hd, _, hn, _⟩ | ⟨_, hd⟩ <;> rw [hd]
    · exact ⟨fun m hm => (by cases hm; exact ⟨hx, hn⟩), fun hno => absurd rfl (hno _)⟩
    · split <;> exact ⟨nofun, fun _ _ _ => rfl⟩
  | reset => exact ⟨nofun, fun _ _ h => absurd rfl h⟩
  | setNext n => exact ⟨nofun, fun _ h _ => absurd rfl (h n)⟩

theorem inputsOf_cons (o : Op α) (os : List (Op α)) :
    inputsOf (o :: os) = inputsOf [o] ++ inputsOf os := by
  cases o <;> rfl

theorem releasedOf_cons (e : Ev α) (es : List (Ev α)) :
    releasedOf (e :: es) = releasedOf [e] ++ releasedOf es := by
  cases e <;> rfl

theorem dupsOf_cons (e : Ev α) (es : List (Ev α)) :
    dupsOf (e :: es) = dupsOf [e] ++ dupsOf es := by
  cases e <;> rfl

theorem clearedOf_cons (e : Ev α) (es : List (Ev α)) :
    clearedOf (e :: es) = clearedOf [e] ++ clearedOf es := by
  cases e <;> simp [clearedOf]

theorem stepOp_count [DecidableEq α] (s : St (Nat × α)) (o : Op α) (a : Nat × α) :
    (s.buf.map Prod.snd).count a + (inputsOf [o]).count a =
      (releasedOf [(stepOp s o).2]).count a + (dupsOf [(stepOp s o).2]).count a +
      (clearedOf [(stepOp s o).2]).count a + ((stepOp s o).1.buf.map Prod.snd).count a := by
  cases o with
  | proc seq p =>
    rw [stepOp_proc]
    rcases process_cases s seq (seq, p) with ⟨_, hp⟩ | ⟨s', hp, _, k, hb⟩ | ⟨s', hp, _, hb⟩ <;>
      simp only [hp, inputsOf, releasedOf, dupsOf, clearedOf, List.count_nil]
    · omega
    · rw [hb]
      rw [((insertSorted_perm k (seq, p) s.buf).map Prod.snd).count_eq a]
      simp only [List.map_cons, List.count_cons, List.count_nil]
      omega
    · rw [hb]; omega
  | drain =>
    rw [stepOp_drain]
    rcases drain_cases s with ⟨off, m, t, _, hr, hd⟩ | ⟨r, hd, hr⟩ <;> rw [hd]
    · have := (((removeKey_some _ _ _ _ hr).1).map Prod.snd).count_eq a
      simp only [List.map_cons, List.count_cons] at this
      simp only [inputsOf, releasedOf, dupsOf, clearedOf, List.count_nil, List.count_cons]
      omega
    · cases r with
      | msg m => exact absurd rfl (hr m)
      | _ => simp [inputsOf, releasedOf, dupsOf, clearedOf]
  | reset => simp [stepOp, reset, init, inputsOf, releasedOf, dupsOf, clearedOf]
  | setNext n => simp [stepOp, setNext, inputsOf, releasedOf, dupsOf, clearedOf]

theorem runOps_conservation_gen (s : St (Nat × α)) (ops : List (Op α)) :
    (s.buf.map Prod.snd ++ inputsOf ops).Perm
      (releasedOf (runOps s ops).2 ++ dupsOf (runOps s ops).2 ++
       clearedOf (runOps s ops).2 ++ (runOps s ops).1.buf.map Prod.snd) := by
  classical
  rw [List.perm_iff_count]
  intro a
  simp only [List.count_append]
  induction ops generalizing s with
  | nil => simp [runOps, inputsOf, releasedOf, dupsOf, clearedOf]
  | cons o os ih =>
    rw [runOps_cons]
    simp only
    rw [inputsOf_cons, releasedOf_cons, dupsOf_cons, clearedOf_cons]
    simp only [List.count_append]
    have h1 := stepOp_count s o a
    have h2 := ih (stepOp s o).1
    omega

end Steps

/-! ### chains of drains

What the host's drain loop, its ghost and `drainLoop` all iterate: `drain` while it answers with a
message. -/

/-- consecutive `drain`s from `r` release `ms`, in this order, and lead to `r'` -/
inductive Chain {β : Type} : St β → List β → St β → Prop
  | nil (r : St β) : Chain r [] r
  | cons {r r1 r' : St β} {m : β} {ms : List β} :
      drain r = (r1, .msg m) → Chain r1 ms r' → Chain r (m :: ms) r'

section Chain
variable {β : Type}

/-- what `drain` leaves in the buffer was there, and so was (under some key) what it releases -/
theorem drain_mem (r : St β) :
    (∀ x ∈ (drain r).1.buf, x ∈ r.buf) ∧ ∀ m, (drain r).2 = .msg m → ∃ k, (k, m) ∈ r.buf := by
  rcases drain_cases r with ⟨off, m, t, _, hr, hd⟩ | ⟨res, hd, hne⟩ <;> rw [hd]
  · refine ⟨fun x hx => (mem_of_removeKey _ _ _ _ hr x).mpr (Or.inr hx), fun m' hm' => ?_⟩
    cases hm'
    exact ⟨_, (mem_of_removeKey _ _ _ _ hr _).mpr (Or.inl rfl)⟩
  · exact ⟨fun x hx => hx, fun m hm => absurd hm (hne m)⟩

/-- what `process` leaves in the buffer was there or is the input -/
theorem process_mem (r : St β) (seq : Nat) (m : β) :
    ∀ x ∈ (process r seq m).1.buf, x ∈ r.buf ∨ x.2 = m := by
  intro x hx
  rcases process_cases r seq m with ⟨_, h⟩ | ⟨s', h, _, k, hk⟩ | ⟨s', h, _, hk⟩ <;> rw [h] at hx
  · exact .inl hx
  · rw [hk] at hx
    rcases (mem_insertSorted _ _ _ _).mp hx with rfl | hx
    · exact .inr rfl
    · exact .inl hx
  · exact .inl (hk ▸ hx)

/-- unless `process` answers `.next`, the expected number stays -/
theorem process_keeps_next {r r' : St β} {seq : Nat} {m : β} {pr : ProcRes β}
    (h : process r seq m = (r', pr)) (hne : ∀ m', pr ≠ .next m') : r'.next = r.next := by
  rcases process_cases r seq m with ⟨_, hp⟩ | ⟨s', hp, hn, _⟩ | ⟨s', hp, hn, _⟩ <;> rw [hp] at h <;> cases h
  · exact absurd rfl (hne _)
  · exact hn
  · exact hn

/-- the `.next` answer of `process` hands back its input -/
theorem process_next_eq {r r' : St β} {seq : Nat} {m m' : β} (h : process r seq m = (r', .next m')) :
    m' = m ∧ r.next = seq ∧ r' = { r with next := wadd r.next 1 } := by
  rcases process_cases r seq m with ⟨hn, hp⟩ | ⟨s', hp, _⟩ | ⟨s', hp, _⟩ <;> rw [hp] at h <;> cases h
  exact ⟨rfl, hn, rfl⟩

/-- every release takes one entry out of the buffer: `buf.length + 1` calls of `drain` end any chain -/
theorem Chain.length {r r' : St β} {ms : List β} (h : Chain r ms r') :
    r'.buf.length + ms.length = r.buf.length := by
  induction h with
  | nil r => rfl
  | @cons r r1 r' m ms hd _ ih =>
    rcases drain_cases r with ⟨off, m', t, _, hr, hd'⟩ | ⟨res, hd', hne⟩ <;> rw [hd] at hd' <;> cases hd'
    · have := (removeKey_some _ _ _ _ hr).1.length_eq
      simp only [List.length_cons] at this ih ⊢
      omega
    · exact absurd rfl (hne m)

/-- what a chain released was waiting (under some key); what still waits was waiting -/
theorem Chain.mem {r r' : St β} {ms : List β} (h : Chain r ms r') :
    (∀ m ∈ ms, ∃ k, (k, m) ∈ r.buf) ∧ ∀ x ∈ r'.buf, x ∈ r.buf := by
  induction h with
  | nil r => exact ⟨nofun, fun _ h => h⟩
  | @cons r r1 r' m ms hd _ ih =>
    have hm := drain_mem r
    rw [hd] at hm
    refine ⟨fun x hx => ?_, fun x hx => hm.1 x (ih.2 x hx)⟩
    rcases List.mem_cons.mp hx with rfl | hx
    · exact hm.2 x rfl
    · obtain ⟨k, hk⟩ := ih.1 x hx
      exact ⟨k, hm.1 _ hk⟩

theorem Chain.nil_eq {r r' : St β} (h : Chain r [] r') : r' = r := by cases h; rfl

end Chain

section ChainInv
variable {α : Type}

/-- under the invariant the released numbers are consecutive from the expected one
(`step_release_in_order` along a chain) -/
theorem Chain.inv {r r' : St (Nat × α)} {ms : List (Nat × α)} (h : Chain r ms r') (hi : Inv r) :
    Inv r' ∧ r'.next = (r.next + ms.length) % 256 ∧
      ∀ k (hk : k < ms.length), ms[k].1 = (r.next + k) % 256 := by
  induction h with
  | nil r => exact ⟨hi, by simp [Nat.mod_eq_of_lt hi.1], nofun⟩
  | @cons r r1 r' m ms hd _ ih =>
    rcases drain_spec r hi with ⟨x, s', _, hx, hd', hi', hn, _⟩ | ⟨_, hd'⟩ <;> rw [hd] at hd'
    · cases hd'
      obtain ⟨i1, i2, i3⟩ := ih hi'
      refine ⟨i1, ?_, fun k hk => ?_⟩
      · rw [i2, hn]; simp only [wadd, List.length_cons]; omega
      · cases k with
        | zero => simp [hx, Nat.mod_eq_of_lt hi.1]
        | succ k =>
          have := i3 k (by simpa using hk)
          simp only [List.getElem_cons_succ, this, hn, wadd]; omega
    · split at hd' <;> cases hd'

/-- under the invariant a `drain` that releases nothing changes nothing and answers `Empty` on an empty
buffer, `SequenceMissing` otherwise: never the `assert!` -/
theorem drain_stop {s : St (Nat × α)} (h : Inv s) (hr : ∀ m, (drain s).2 ≠ .msg m) :
    drain s = (s, if s.buf = [] then .empty else .missing) := by
  rcases drain_spec s h with ⟨x, _, _, _, hd, _⟩ | ⟨_, hd⟩
  · exact absurd (by rw [hd]) (hr x.2)
  · exact hd

end ChainInv

section Mex

theorem mexFrom_spec (A : List Nat) (fuel : Nat) :
    ∀ k, k ≤ mexFrom A fuel k ∧ mexFrom A fuel k ≤ k + fuel ∧
      (∀ i, k ≤ i → i < mexFrom A fuel k → i ∈ A) ∧
      (mexFrom A fuel k < k + fuel → mexFrom A fuel k ∉ A) := by
  induction fuel with
  | zero => intro k; simp [mexFrom]; intro i h1 h2; omega
  | succ fuel ih =>
    intro k
    obtain ⟨h1, h2, h3, h4⟩ := ih (k + 1)
    simp only [mexFrom, List.contains_iff_mem]
    split
    · rename_i hk
      refine ⟨by omega, by omega, fun i hki hi => ?_, fun h => h4 (by omega)⟩
      rcases Nat.eq_or_lt_of_le hki with rfl | hlt
      · exact hk
      · exact h3 i hlt hi
    · exact ⟨Nat.le_refl _, by omega, fun i h1 h2 => by omega, fun _ => ‹_›⟩

theorem mexOf_spec (A : List Nat) : (∀ i, i < mexOf A → i ∈ A) ∧ mexOf A ∉ A := by
  obtain ⟨_, h2, h3, h4⟩ := mexFrom_spec A (A.length + 1) 0
  have h3' : ∀ i, i < mexOf A → i ∈ A := fun i hi => h3 i (Nat.zero_le _) hi
  refine ⟨h3', h4 ?_⟩
  have := List.nodup_range.length_le_of_subset fun i hi => h3' i (List.mem_range.mp hi)
  rw [List.length_range] at this
  show mexOf A < 0 + (A.length + 1)
  omega

theorem mexOf_eq (A : List Nat) (k : Nat) (h1 : ∀ i, i < k → i ∈ A) (h2 : k ∉ A) :
    mexOf A = k := by
  obtain ⟨h3, h4⟩ := mexOf_spec A
  rcases Nat.lt_trichotomy (mexOf A) k with h | h | h
  · exact absurd (h1 _ h) h4
  · exact h
  · exact absurd (h3 _ h) h2

theorem mexOf_mono (A B : List Nat) (h : ∀ i ∈ A, i ∈ B) : mexOf A ≤ mexOf B := by
  rcases Nat.lt_or_ge (mexOf B) (mexOf A) with hlt | hge
  · exact absurd (h _ ((mexOf_spec A).1 _ hlt)) (mexOf_spec B).2
  · exact hge

/-- Induction along a delivery `arr` (no duplicates, window below 256): `Q` of every prefix, from `Q []`
and a step for one more arrival `i`, which may use that `i` is new and inside the window and that the
first missing index only grows, up to that of the whole delivery. -/
theorem delivery_induct (arr : List Nat) (hnodup : arr.Nodup) (hwin : WindowOk arr)
    (Q : List Nat → Prop) (h0 : Q [])
    (hstep : ∀ pre i, Q pre → i ∈ arr → i ∉ pre → i < mexOf pre + 256 →
      mexOf pre ≤ mexOf (pre ++ [i]) → mexOf (pre ++ [i]) ≤ mexOf arr → Q (pre ++ [i])) :
    ∀ n, n ≤ arr.length → Q (arr.take n) := by
  intro n
  induction n with
  | zero => intro _; rw [List.take_zero]; exact h0
  | succ n ih =>
    intro hn
    have hn' : n < arr.length := by omega
    have htake : arr.take (n + 1) = arr.take n ++ [arr[n]] := List.take_succ_eq_append_getElem hn'
    have hi : arr[n] ∉ arr.take n := by
      have hnd : (arr.take n ++ [arr[n]]).Nodup := htake ▸ hnodup.sublist (List.take_sublist _ _)
      exact fun hmem => (List.nodup_append.mp hnd).2.2 _ hmem _ (List.mem_singleton.mpr rfl) rfl
    rw [htake]
    refine hstep _ _ (ih (by omega)) (List.getElem_mem hn') hi (hwin n hn')
      (mexOf_mono _ _ fun i hi => List.mem_append_left _ hi) ?_
    rw [← htake]
    exact mexOf_mono _ _ fun i hi => List.mem_of_mem_take hi

end Mex

theorem range_split (k k1 : Nat) (h : k ≤ k1) :
    List.range k1 = List.range k ++ List.range' k (k1 - k) := by
  have h1 : k1 = k + (k1 - k) := by omega
  conv => lhs; rw [h1, List.range_eq_range', ← List.range'_append_1]
  simp [List.range_eq_range']

theorem range'_split (k k1 : Nat) (h : k < k1) :
    List.range' k (k1 - k) = k :: List.range' (k + 1) (k1 - (k + 1)) := by
  have : k1 - k = (k1 - (k + 1)) + 1 := by omega
  rw [this, List.range'_succ]

section Prompt
variable {α : Type}

/-- `A` = the indices of the run `i ↦ runMsg e p i` that have arrived, `k` = how many have been
released -/
def PInv (e : Nat) (p : Nat → α) (A : List Nat) (k : Nat) (s : St (Nat × α)) : Prop :=
  (∀ i, i < k → i ∈ A) ∧ (∀ i ∈ A, i < k + 256) ∧ s.next = (e + k) % 256 ∧ Inv s ∧
  ∀ m, m ∈ s.buf.map Prod.snd ↔ ∃ i ∈ A, k ≤ i ∧ m = runMsg e p i

theorem PInv_nil (e : Nat) (p : Nat → α) (s : St (Nat × α)) (h : Inv s) (hn : s.next = e % 256)
    (hb : s.buf = []) : PInv e p [] 0 s :=
  ⟨fun _ hi => absurd hi (Nat.not_lt_zero _), nofun, hn, h, fun m => by simp [hb]⟩

theorem PInv_congr (e : Nat) (p : Nat → α) (A B : List Nat) (k : Nat) (s : St (Nat × α))
    (hAB : ∀ i, i ∈ A ↔ i ∈ B) (h : PInv e p A k s) : PInv e p B k s := by
  obtain ⟨h1, h2, h3, h4, h5⟩ := h
  refine ⟨fun i hi => (hAB i).mp (h1 i hi), fun i hi => h2 i ((hAB i).mpr hi), h3, h4,
    fun m => (h5 m).trans ⟨?_, ?_⟩⟩
  · rintro ⟨i, hi, h⟩; exact ⟨i, (hAB i).mp hi, h⟩
  · rintro ⟨i, hi, h⟩; exact ⟨i, (hAB i).mpr hi, h⟩

/-- the outstanding window is shorter than 256, so a waiting message is identified by its number -/
theorem PInv.num_iff {e : Nat} {p : Nat → α} {A : List Nat} {k : Nat} {s : St (Nat × α)}
    (h : PInv e p A k s) {x : Nat × Nat × α} (hx : x ∈ s.buf) {i : Nat} (hki : k ≤ i)
    (hiw : i < k + 256) : x.2.1 = (e + i) % 256 ↔ i ∈ A ∧ x.2 = runMsg e p i := by
  obtain ⟨j, hjA, hkj, hxj⟩ := (h.2.2.2.2 x.2).mp (List.mem_map_of_mem hx)
  have hjw := h.2.1 j hjA
  have hj1 : x.2.1 = (e + j) % 256 := congrArg Prod.fst hxj
  constructor
  · intro hn
    have : j = i := by omega
    exact this ▸ ⟨hjA, hxj⟩
  · exact fun hi => congrArg Prod.fst hi.2

theorem drain_step_mem (e : Nat) (p : Nat → α) (A : List Nat) (k : Nat) (s : St (Nat × α))
    (h : PInv e p A k s) (hk : k ∈ A) :
    ∃ s', drain s = (s', .msg (runMsg e p k)) ∧ PInv e p A (k + 1) s' ∧
      s'.buf.length + 1 = s.buf.length := by
  obtain ⟨hlt, hwin, hnext, hinv, hmem⟩ := h
  rcases drain_spec s hinv with ⟨x, s', hx, hxn, hd, hinv', hn', hperm, hgone⟩ | ⟨hno, _⟩
  · have hxk : x.2 = runMsg e p k :=
      ((PInv.num_iff ⟨hlt, hwin, hnext, hinv, hmem⟩ hx (Nat.le_refl k) (by omega)).mp
        (hxn.trans hnext)).2
    have hsplit : ∀ m, m ∈ s.buf.map Prod.snd ↔ m = x.2 ∨ m ∈ s'.buf.map Prod.snd :=
      fun m => (hperm.map Prod.snd).mem_iff.trans List.mem_cons
    refine ⟨s', hxk ▸ hd, ⟨?_, ?_, ?_, ?_, fun m => ⟨?_, ?_⟩⟩, by simpa using hperm.length_eq.symm⟩
    · intro i hi
      rcases Nat.lt_succ_iff_lt_or_eq.mp hi with h | rfl
      · exact hlt i h
      · exact hk
    · intro i hi; have := hwin i hi; omega
    · rw [hn', hnext]; unfold wadd; omega
    · exact hinv'
    · intro hm
      obtain ⟨i, hiA, hki, hmi⟩ := (hmem m).mp ((hsplit m).mpr (Or.inr hm))
      obtain ⟨y, hy, rfl⟩ := List.mem_map.mp hm
      have hne : y.2.1 ≠ (e + k) % 256 := hnext ▸ hgone y hy
      have : i ≠ k := fun h => hne (by rw [hmi, h]; rfl)
      exact ⟨i, hiA, by omega, hmi⟩
    · rintro ⟨i, hiA, hki, rfl⟩
      rcases (hsplit _).mp ((hmem _).mpr ⟨i, hiA, by omega, rfl⟩) with h | h
      · have h1 : (e + i) % 256 = (e + k) % 256 := congrArg Prod.fst (h.trans hxk)
        have := hwin i hiA
        omega
      · exact h
  · obtain ⟨x, hx, hxk⟩ := List.mem_map.mp ((hmem _).mpr ⟨k, hk, Nat.le_refl k, rfl⟩)
    exact absurd ((congrArg Prod.fst hxk).trans hnext.symm) (hno x hx)

theorem drain_step_nmem (e : Nat) (p : Nat → α) (A : List Nat) (k : Nat) (s : St (Nat × α))
    (h : PInv e p A k s) (hk : k ∉ A) :
    ∃ r, drain s = (s, r) ∧ ∀ m, r ≠ .msg m := by
  rcases drain_spec s h.2.2.2.1 with ⟨x, s', hx, hxn, _⟩ | ⟨_, hd⟩
  · exact absurd ((h.num_iff hx (Nat.le_refl k) (by omega)).mp (hxn.trans h.2.2.1)).1 hk
  · exact ⟨_, hd, by split <;> nofun⟩

theorem process_next (e : Nat) (p : Nat → α) (A : List Nat) (k : Nat) (s : St (Nat × α))
    (h : PInv e p A k s) (hk : k ∉ A) :
    ∃ s1, process s ((e + k) % 256) (runMsg e p k) = (s1, .next (runMsg e p k)) ∧
      PInv e p (k :: A) (k + 1) s1 := by
  have hlt256 : (e + k) % 256 < 256 := Nat.mod_lt _ (by decide)
  rcases process_spec s _ (p k) h.2.2.2.1 hlt256 with
    ⟨⟨x, hx, hxk⟩, _⟩ | ⟨_, _, hp⟩ | ⟨_, hne, _⟩
  · exact absurd ((h.num_iff hx (Nat.le_refl k) (by omega)).mp hxk).1 hk
  · obtain ⟨hlt, hwin, hnext, hinv, hmem⟩ := h
    refine ⟨_, hp, ?_, ?_, ?_, ⟨wadd_lt _ _, hinv.2⟩, fun m => (hmem m).trans ⟨?_, ?_⟩⟩
    · intro i hi
      rcases Nat.lt_succ_iff_lt_or_eq.mp hi with h | rfl
      · exact List.mem_cons_of_mem _ (hlt i h)
      · exact List.mem_cons_self ..
    · intro i hi
      rcases List.mem_cons.mp hi with rfl | h
      · omega
      · have := hwin i h; omega
    · show wadd s.next 1 = _
      rw [hnext]; unfold wadd; omega
    · rintro ⟨i, hiA, hki, hmi⟩
      have : i ≠ k := fun h => hk (h ▸ hiA)
      exact ⟨i, List.mem_cons_of_mem _ hiA, by omega, hmi⟩
    · rintro ⟨i, hiA, hki, hmi⟩
      rcases List.mem_cons.mp hiA with rfl | h
      · omega
      · exact ⟨i, h, by omega, hmi⟩
  · exact absurd h.2.2.1 hne

theorem process_ins (e : Nat) (p : Nat → α) (A : List Nat) (k i : Nat) (s : St (Nat × α))
    (h : PInv e p A k s) (hi : i ∉ A) (hiw : i < k + 256) (hik : i ≠ k) :
    ∃ s1, process s ((e + i) % 256) (runMsg e p i) = (s1, .inserted) ∧
      PInv e p (i :: A) k s1 := by
  have hlt256 : (e + i) % 256 < 256 := Nat.mod_lt _ (by decide)
  have hki : k < i := Nat.lt_of_le_of_ne (Nat.not_lt.mp fun hc => hi (h.1 i hc)) (Ne.symm hik)
  rcases process_spec s _ (p i) h.2.2.2.1 hlt256 with
    ⟨⟨x, hx, hxi⟩, _⟩ | ⟨_, hn, _⟩ | ⟨_, _, s1, hp, hinv1, hn1, key, hb1⟩
  · exact absurd ((h.num_iff hx (Nat.le_of_lt hki) hiw).mp hxi).1 hi
  · have := h.2.2.1
    omega
  · obtain ⟨hlt, hwin, hnext, _, hmem⟩ := h
    refine ⟨s1, hp, fun a ha => List.mem_cons_of_mem _ (hlt a ha), ?_, hn1.trans hnext, hinv1,
      fun m => ?_⟩
    · intro a ha
      rcases List.mem_cons.mp ha with rfl | h
      · exact hiw
      · exact hwin a h
    · rw [hb1, ((insertSorted_perm key _ s.buf).map Prod.snd).mem_iff, List.map_cons,
        List.mem_cons, hmem m]
      constructor
      · rintro (rfl | ⟨a, haA, hka, hma⟩)
        · exact ⟨i, List.mem_cons_self .., Nat.le_of_lt hki, rfl⟩
        · exact ⟨a, List.mem_cons_of_mem _ haA, hka, hma⟩
      · rintro ⟨a, haA, hka, hma⟩
        rcases List.mem_cons.mp haA with rfl | h
        · exact Or.inl hma
        · exact Or.inr ⟨a, h, hka, hma⟩

/-- a chain from a state that holds the arrivals `A` from index `k` on releases the run from `k`, as far
as it goes, and everything it released had arrived -/
theorem PInv.chain {e : Nat} {p : Nat → α} {A : List Nat} {r r1 : St (Nat × α)} {ms : List (Nat × α)}
    (hc : Chain r ms r1) : ∀ {k : Nat}, PInv e p A k r →
      ms = (List.range' k ms.length).map (runMsg e p) ∧ PInv e p A (k + ms.length) r1 ∧
      ∀ j, k ≤ j → j < k + ms.length → j ∈ A := by
  induction hc with
  | nil r => exact fun h => ⟨rfl, h, fun j h1 h2 => absurd h2 (by simpa using h1)⟩
  | @cons r r' r1 m ms hd _ ih =>
    intro k h
    by_cases hk : k ∈ A
    · obtain ⟨s', hd', hP, _⟩ := drain_step_mem e p A k r h hk
      rw [hd] at hd'; cases hd'
      obtain ⟨i1, i2, i3⟩ := ih hP
      refine ⟨?_, by rw [List.length_cons, ← Nat.add_assoc, Nat.add_right_comm]; exact i2, fun j h1 h2 => ?_⟩
      · rw [List.length_cons, List.range'_succ, List.map_cons, ← i1]
      · rcases Nat.eq_or_lt_of_le h1 with rfl | h1
        · exact hk
        · exact i3 j h1 (by rw [List.length_cons] at h2; omega)
    · obtain ⟨res, hd', hne⟩ := drain_step_nmem e p A k r h hk
      rw [hd] at hd'; cases hd'; exact absurd rfl (hne m)

/-- `drain` stops answering with messages exactly at the first index that has not arrived -/
theorem PInv.stop_iff {e : Nat} {p : Nat → α} {A : List Nat} {k : Nat} {r : St (Nat × α)}
    (h : PInv e p A k r) : (∀ x, (drain r).2 ≠ .msg x) ↔ k ∉ A := by
  constructor
  · intro hs hk
    obtain ⟨s', hd, _⟩ := drain_step_mem e p A k r h hk
    exact hs _ (by rw [hd])
  · intro hk x
    obtain ⟨res, hd, hne⟩ := drain_step_nmem e p A k r h hk
    rw [hd]; exact hne x

/-- … so a chain goes no further than the first index `k1` that has not arrived, and as far if it is
followed until `drain` stops -/
theorem PInv.chain_end {e : Nat} {p : Nat → α} {A : List Nat} {r r1 : St (Nat × α)} {ms : List (Nat × α)}
    {k k1 : Nat} (hc : Chain r ms r1) (h : PInv e p A k r) (hkk1 : k ≤ k1)
    (hmem : ∀ j, k ≤ j → j < k1 → j ∈ A) (hk1 : k1 ∉ A) :
    k + ms.length ≤ k1 ∧ ((∀ x, (drain r1).2 ≠ .msg x) → k + ms.length = k1) := by
  obtain ⟨_, h2, h3⟩ := PInv.chain hc h
  have hle : k + ms.length ≤ k1 := Nat.le_of_not_lt fun hlt => hk1 (h3 k1 hkk1 hlt)
  refine ⟨hle, fun hs => Nat.le_antisymm hle (Nat.le_of_not_lt fun hlt => ?_)⟩
  exact h2.stop_iff.mp hs (hmem _ (Nat.le_add_right _ _) hlt)

/-- `drainLoop` follows a chain to its end -/
theorem drainLoop_chain {β : Type} : ∀ (fuel : Nat) (s : St β) (acc : List β), s.buf.length < fuel →
    ∃ ms r1, Chain s ms r1 ∧ (∀ x, (drain r1).2 ≠ .msg x) ∧
      drainLoop fuel s acc = ((drain r1).1, acc.reverse ++ ms, (drain r1).2, false) := by
  intro fuel
  induction fuel with
  | zero => intro s _ hf; omega
  | succ fuel ih =>
    intro s acc hf
    cases hd : drain s with
    | mk s' res =>
    by_cases hm : ∃ m, res = .msg m
    · obtain ⟨m, rfl⟩ := hm
      have hlen := (Chain.cons hd (.nil s')).length
      obtain ⟨ms, r1, hc, hs, he⟩ := ih s' (m :: acc)
        (by simp only [List.length_cons, List.length_nil] at hlen; omega)
      exact ⟨m :: ms, r1, .cons hd hc, hs, by
        simp only [drainLoop, hd, he, List.reverse_cons, List.append_assoc, List.singleton_append]⟩
    · refine ⟨[], s, .nil s, fun x hx => hm ⟨x, by rw [hd] at hx; exact hx⟩, ?_⟩
      cases res <;> first | exact absurd ⟨_, rfl⟩ hm | simp [drainLoop, hd]

theorem drainLoop_spec (e : Nat) (p : Nat → α) (A : List Nat) (fuel : Nat) (k : Nat)
    (s : St (Nat × α)) (acc : List (Nat × α)) (h : PInv e p A k s) (hf : s.buf.length < fuel) :
    ∃ k1 s1 r, drainLoop fuel s acc =
        (s1, acc.reverse ++ (List.range' k (k1 - k)).map (runMsg e p), r, false) ∧
      k ≤ k1 ∧ PInv e p A k1 s1 ∧ k1 ∉ A := by
  obtain ⟨ms, r1, hc, hs, he⟩ := drainLoop_chain fuel s acc hf
  obtain ⟨h1, h2, _⟩ := PInv.chain hc h
  have hd : (drain r1).1 = r1 := by rw [drain_stop h2.2.2.2.1 hs]
  refine ⟨k + ms.length, r1, (drain r1).2, ?_, Nat.le_add_right _ _, h2, h2.stop_iff.mp hs⟩
  rw [he, hd, Nat.add_sub_cancel_left, ← h1]

theorem arrive_spec (e : Nat) (p : Nat → α) (A : List Nat) (k i : Nat) (s : St (Nat × α))
    (h : PInv e p A k s) (hk : k ∉ A) (hi : i ∉ A) (hiw : i < k + 256) :
    ∃ k1 s1, arrive s (runMsg e p i) =
        (s1, (List.range' k (k1 - k)).map (runMsg e p), false) ∧
      k ≤ k1 ∧ PInv e p (i :: A) k1 s1 ∧ k1 ∉ i :: A := by
  by_cases hik : i = k
  · subst hik
    obtain ⟨s1, hp, hc⟩ := process_next e p A i s h hk
    obtain ⟨k1, s2, r, hdl, hk1, hc1, hk1A⟩ :=
      drainLoop_spec e p (i :: A) (s1.buf.length + 1) (i + 1) s1 [] hc (by omega)
    refine ⟨k1, s2, ?_, by omega, hc1, hk1A⟩
    have hp' : process s (runMsg e p i).1 (runMsg e p i) = (s1, .next (runMsg e p i)) := hp
    simp [arrive, hp', drainAll, hdl, range'_split i k1 hk1]
  · obtain ⟨s1, hp, hc⟩ := process_ins e p A k i s h hi hiw hik
    obtain ⟨k1, s2, r, hdl, hk1, hc1, hk1A⟩ :=
      drainLoop_spec e p (i :: A) (s1.buf.length + 1) k s1 [] hc (by omega)
    have hp' : process s (runMsg e p i).1 (runMsg e p i) = (s1, .inserted) := hp
    exact ⟨k1, s2, by simp [arrive, hp', drainAll, hdl], hk1, hc1, hk1A⟩

theorem feed_cons (s : St (Nat × α)) (m : Nat × α) (ms : List (Nat × α)) :
    feed s (m :: ms) =
      ((feed (arrive s m).1 ms).1, (arrive s m).2.1 ++ (feed (arrive s m).1 ms).2.1,
        ((arrive s m).2.2 || (feed (arrive s m).1 ms).2.2)) := rfl

theorem feed_append (s : St (Nat × α)) (l1 l2 : List (Nat × α)) :
    feed s (l1 ++ l2) =
      ((feed (feed s l1).1 l2).1, (feed s l1).2.1 ++ (feed (feed s l1).1 l2).2.1,
        ((feed s l1).2.2 || (feed (feed s l1).1 l2).2.2)) := by
  induction l1 generalizing s with
  | nil => simp [feed]
  | cons m ms ih =>
    rw [List.cons_append, feed_cons, ih, feed_cons]
    simp [Bool.or_assoc]

theorem feed_take (e : Nat) (p : Nat → α) (arr : List Nat)
    (hnodup : arr.Nodup) (hwin : WindowOk arr) :
    ∀ n, n ≤ arr.length →
      ∃ s, feed ({ buf := [], next := e % 256, mode := .good } : St (Nat × α))
            ((arr.take n).map (runMsg e p)) =
          (s, (List.range (mexOf (arr.take n))).map (runMsg e p), false) ∧
        PInv e p (arr.take n) (mexOf (arr.take n)) s := by
  refine delivery_induct arr hnodup hwin (fun pre => ∃ s, feed _ (pre.map (runMsg e p)) =
      (s, (List.range (mexOf pre)).map (runMsg e p), false) ∧ PInv e p pre (mexOf pre) s) ?_ ?_
  · have h0 : mexOf ([] : List Nat) = 0 := by decide
    rw [h0]
    exact ⟨_, rfl, PInv_nil e p _ ⟨Nat.mod_lt _ (by decide), rfl⟩ rfl rfl⟩
  · rintro pre i ⟨s, hfeed, hinv⟩ _ hi hw _ _
    obtain ⟨k1, s1, harr, hk1, hc1, hk1A⟩ :=
      arrive_spec e p pre (mexOf pre) i s hinv (mexOf_spec _).2 hi hw
    have hAB : ∀ j, j ∈ i :: pre ↔ j ∈ pre ++ [i] := fun j => by
      rw [List.mem_cons, List.mem_append, List.mem_singleton, or_comm]
    have hc2 := PInv_congr e p _ _ k1 s1 hAB hc1
    have hmex : mexOf (pre ++ [i]) = k1 := mexOf_eq _ _ hc2.1 (fun h => hk1A ((hAB _).mpr h))
    refine ⟨s1, ?_, hmex ▸ hc2⟩
    rw [hmex, List.map_append, feed_append, hfeed, List.map_singleton, feed_cons, harr,
      range_split _ k1 hk1, List.map_append]
    simp [feed]

end Prompt

end Srad.Reseq
