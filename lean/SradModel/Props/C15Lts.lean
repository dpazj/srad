/-
C15 over the task-level LTS — **the edge node honours rebirth commands, under every scheduler**.

`Props/C15.lean` proves C15 about the sequential model `Model/Cmd` ("interleavings are C01–C04's").
Here the rebirth clauses are stated and proved directly over the labelled transition system
`Model/Eon` (tasks: run loop, loop timeout, node task, device tasks, user calls; any interleaving).

How the model (and `Node::on_sparkplug_message`) treats an NCMD, step by step of the node task:
1. *dequeue*: the node task is idle, no `client_state` message and no `NodeHandle::rebirth` request
   is waiting (biased `select!`), it takes `(rb, ts)` off the NCMD queue. `rb` is the rebirth flag
   computed by the recognition rule of `Props/C15.lean`. If the payload has no timestamp
   (`ts = false`, `MessageMetrics::try_from` fails) the command is dropped: no callback, no birth
   (`C15L_ncmd_without_timestamp_ignored`). Otherwise `on_ncmd` is called (`node = inCb rb`).
2. *decide* (`node = inCb rb`, callback returned): `C15L_ncmd_decision`.
3. *birth* (`node = birthStart rebirth (some now)`): `C15L_rebirth_nbirth_shape`, then the NBIRTH is
   answered and `birth_devices` runs; the cooldown reference is stamped **after** the birth with the
   clock reading taken before it (`C15L_rebirth_stamped_after_birth`).
4. every device task takes the birth message and hands its DBIRTH over: `C15L_rebirth_completes`
   (every maximal schedule under an accepting client).
-/
import SradModel.Proofs.EonC15
import SradModel.Props.C04

namespace Srad.Eon
open Srad.Eon.P15 Srad.Eon.P20 Srad.Eon.Term

/-! ### 1. the decision -/

/-- **The rebirth decision.** `s` is ANY state (reachable or not) whose node task is inside
`on_sparkplug_message` after `on_ncmd` has returned (`node = inCb rb`, callback not parked); `rb`
is the command's rebirth flag. Whatever the client would decide, the node task has exactly one
step, it emits nothing and hands nothing over, and
* it starts a node rebirth — `node = birthStart rebirth (some s.wall)`, the clock reading of the
  command is carried along — **iff** `rb = true`, the cooldown has elapsed
  (`¬ s.wall - s.lastRebirthReq < s.cooldown`) and the node is birthed;
* in every other case the node task is idle again;
* the cooldown reference `lastRebirthReq` is stamped with the clock reading of the command exactly
  when `rb ∧ cooldown elapsed`: **immediately** (in this very step) if the node is not birthed
  (`Node::rebirth` returns early, nothing is published), and **after the birth** if it is birthed
  (not in this step: see `C15L_rebirth_stamped_after_birth`). Otherwise it is left alone. -/
theorem C15L_ncmd_decision (s : St) (rb : Bool) (dec : Dec) (hn : s.node = .inCb rb) (hp : s.nodeCbPark = false) :
    ∃ s', step s .node dec = [(s', [])] ∧ s'.calls = s.calls ∧
      (s'.node = .birthStart .rebirth (some s.wall) ↔ (rb = true ∧ cooldownElapsed s ∧ s.birthed = true)) ∧
      (¬ rebirthGranted s rb → s'.node = .idle) ∧
      (s'.lastRebirthReq =
        if rb = true ∧ cooldownElapsed s ∧ s.birthed = false then s.wall else s.lastRebirthReq) := by
  refine ⟨_, inCb_step s dec rb hn hp, ?_⟩
  cases rb
  · simp [rebirthGranted]
  · by_cases hc : cooldownElapsed s
    · cases hb : s.birthed <;> simp [rebirthGranted, hc, hb]
    · simp [rebirthGranted, hc]

/-- **The stamp after the birth.** Once a rebirth has been granted for a command read at clock
value `w`, the node task carries `some w` through `node_birth` — start (`birthStart`), waiting for
the client's answer to the NBIRTH (`waitNb`, only if the client parks the call), answer received
(`nbDone ok`) — and the step that ends the birth sets `lastRebirthReq := w`, **whether the NBIRTH
was accepted or not** (`self.rebirth().await; self.last_node_rebirth_request = now`). Only an
accepted NBIRTH sets `birthed` and sends the birth message to the devices. -/
theorem C15L_rebirth_stamped_after_birth (s : St) (dec : Dec) (w : Nat) :
    (s.node = .birthStart .rebirth (some w) → ∃ s', step s .node dec = [(s',
        [.bNode, .call s.calls.length .nbirth none (some 0) (some s.bdseq) false dec])] ∧
      s'.lastRebirthReq = s.lastRebirthReq ∧
      s'.node = (match dec with
                 | .acc => .nbDone true .rebirth (some w) | .rej => .nbDone false .rebirth (some w)
                 | .park => .waitNb s.calls.length .rebirth (some w))) ∧
    (∀ id ok, s.node = .waitNb id .rebirth (some w) → callRes s id = some ok →
      step s .node dec = [({ s with node := .nbDone ok .rebirth (some w) }, [])]) ∧
    (∀ ok, s.node = .nbDone ok .rebirth (some w) → ∃ s', step s .node dec = [(s', [])] ∧
      s'.node = .idle ∧ s'.lastRebirthReq = w ∧ s'.calls = s.calls ∧ s'.epoch = s.epoch ∧
      s'.birthed = (if ok then true else s.birthed) ∧
      s'.devs = (if ok then pushAll (.birth .rebirth s.epoch) s.devs else s.devs)) := by
  refine ⟨fun hn => ?_, fun id ok hn hr => ?_, fun ok hn => ?_⟩
  · obtain ⟨c, -, -, -, hst⟩ := birthStart_step s dec .rebirth (some w) hn
    exact ⟨_, hst, rfl, rfl⟩
  · exact (NodeStep.nbResolved id .rebirth (some w) ok hn hr).eq
  · exact ⟨_, nbDone_step s dec ok .rebirth (some w) hn, rfl, rfl, rfl, rfl, by cases ok <;> rfl, rfl⟩

/-! ### 2. a command without timestamp -/

/-- **An NCMD whose payload has no timestamp is ignored.** The node task is idle and it is the
command's turn (no `client_state` message, no `NodeHandle::rebirth` request: the `select!` is
biased towards those); the head of the NCMD queue is `(rb, false)` — any rebirth flag, no payload
timestamp. Then the node task's step just drops the command: the manager's `on_ncmd` is not called
(no `cbNcmd` observation), nothing is handed over, the task stays idle, nothing else changes —
even if the payload asked for a rebirth (`MessageMetrics::try_from` fails before the rebirth flag
is looked at). -/
theorem C15L_ncmd_without_timestamp_ignored (s : St) (dec : Dec) (rb : Bool) (rest : List (Bool × Bool))
    (hn : s.node = .idle) (hcs : s.cs = none) (hrq : s.rebirthQ = false) (hq : s.msgQ = (rb, false) :: rest) :
    step s .node dec = [({ s with msgQ := rest }, [])] :=
  (NodeStep.ncmdBad rb rest hn hcs hrq hq).eq

/-- conversely, **`on_ncmd` is only ever called for a command with a payload timestamp**: a step
of ANY task in ANY state whose observations contain `cbNcmd` is a step of the node task that takes
some `(rb, true)` off the NCMD queue, and the node task continues inside the callback for that `rb` -/
theorem C15L_callback_only_with_timestamp (s : St) (t : Task) (dec : Dec) (s' : St) (o : List Obs)
    (h : (s', o) ∈ step s t dec) (hc : Obs.cbNcmd ∈ o) :
    t = .node ∧ ∃ rb rest, s.msgQ = (rb, true) :: rest ∧ s'.node = .inCb rb ∧ s'.msgQ = rest := by
  have ht := cb_is_node (r := (s', o)) h hc
  subst ht
  exact ⟨rfl, cb_only_with_timestamp (r := (s', o)) h hc⟩

/-- the step that calls `on_ncmd`, for the record: same situation as in
`C15L_ncmd_without_timestamp_ignored` but with a timestamp -/
theorem C15L_ncmd_with_timestamp_delivered (s : St) (dec : Dec) (rb : Bool) (rest : List (Bool × Bool))
    (hn : s.node = .idle) (hcs : s.cs = none) (hrq : s.rebirthQ = false) (hq : s.msgQ = (rb, true) :: rest) :
    step s .node dec = [({ s with msgQ := rest, node := .inCb rb }, [.cbNcmd])] :=
  (NodeStep.ncmd rb rest hn hcs hrq hq).eq

/-! ### 3. the NBIRTH of a rebirth -/

/-- **Shape of the rebirth's NBIRTH.** In ANY state whose node task is about to run `node_birth`
for a rebirth (`fc = some now` for an NCMD, `none` for `NodeHandle::rebirth`), the node task's one
step hands over an NBIRTH with **sequence number 0** and the **current bdSeq**, which the rebirth
does not change (by `C03_nbirth_carries_will` it is the bdSeq of the registered will); the node's
sequence counter is reset to 0, the node is unbirthed until the client has accepted the NBIRTH,
the device list is untouched, and the **birth epoch is bumped** — so whatever was requested for the
previous node birth can no longer be published: see `C15L_stale_birth_dropped` and
`C15L_stale_births_cannot_complete`. -/
theorem C15L_rebirth_nbirth_shape (s : St) (dec : Dec) (fc : Option Nat) (hn : s.node = .birthStart .rebirth fc) :
    ∃ s', step s .node dec = [(s', [.bNode, .call s.calls.length .nbirth none (some 0) (some s.bdseq) false dec])] ∧
      s'.epoch = s.epoch + 1 ∧ s'.bdseq = s.bdseq ∧ s'.seq = 0 ∧ s'.birthed = false ∧ s'.online = s.online ∧
      s'.devs = s.devs ∧
      (∃ c : Call, s'.calls = s.calls ++ [c] ∧ c.kind = .nbirth ∧ c.seq = some 0 ∧ c.bd = some s.bdseq) := by
  obtain ⟨c, h1, h2, h3, hst⟩ := birthStart_step s dec .rebirth fc hn
  exact ⟨_, hst, rfl, rfl, rfl, rfl, rfl, rfl, c, rfl, h1, h2, h3⟩

/-- **A birth message of another node birth is dropped.** A device task that takes a queued birth
message whose epoch is not the current birth epoch (it was sent by `birth_devices` of a node birth
that a rebirth has superseded) hands nothing over and emits nothing; the message is consumed. -/
theorem C15L_stale_birth_dropped (s : St) (u : Nat) (dec : Dec) (x : Dev) (bt : BT) (ep : Nat) (rest : List NS)
    (hx : findUid u s.devs = some x) (hpc : x.pc = .idle) (hq : x.nsq = .birth bt ep :: rest) (hne : ep ≠ s.epoch) :
    step s (.dev u) dec = [({ s with devs := setDev { x with nsq := rest } s.devs }, [])] :=
  stale_birth_dropped s u dec x bt ep rest hx hpc hq hne

/-- **Stale device births cannot complete** — `C04_ddata_ordered` instantiated at a rebirth.
Take any execution that reaches a state `s` whose node task starts a rebirth, let the node task
take that step (NBIRTH handed over, whatever the client decides), and continue with ANY actions
`more` (stimuli, task steps, any client decisions). Then in the continuation's trace `tr2` device
`d` is treated as not birthed (`ddataOk d .none tr2`, the C04 scanner started afresh): a DDATA of `d`
is only handed over once a DBIRTH of `d` that was itself handed over *after* the rebirth's NBIRTH
has been accepted by the client. A DBIRTH of the previous node birth — still parked at the client,
or accepted before the rebirth — does not count.
Hypothesis (C04's own): at most one live incarnation of the name `d` at any time. -/
theorem C15L_stale_births_cannot_complete (cd : Nat) (acts : List Act) (s : St) (tr : List Obs) (fc : Option Nat)
    (dec : Dec) (s1 : St) (o1 : List Obs) (more : List Act) (s2 : St) (tr2 : List Obs) (d : Nat)
    (h : runActs (init cd) acts = some (s, tr)) (hn : s.node = .birthStart .rebirth fc)
    (h1 : (step s .node dec)[0]? = some (s1, o1)) (h2 : runActs s1 more = some (s2, tr2))
    (hone : ∀ pre, pre <+: acts ++ (.task .node dec 0 :: more) → ∀ sx tx, runActs (init cd) pre = some (sx, tx) →
        ((sx.devs.filter fun x => x.name == d && x.pc != .done).length ≤ 1)) :
    ddataOk d .none tr2 = true := by
  obtain ⟨s', hst, -⟩ := C15L_rebirth_nbirth_shape s dec fc hn
  rw [hst] at h1
  simp only [List.getElem?_cons_zero, Option.some.injEq, Prod.mk.injEq] at h1
  obtain ⟨rfl, rfl⟩ := h1
  have hstep : runActs s (.task .node dec 0 :: more) =
      some (s2, [.bNode, .call s.calls.length .nbirth none (some 0) (some s.bdseq) false dec] ++ tr2) := by
    simp [runActs, runAct, hst, h2]
  have hall := runActs_append h hstep
  have := C04_ddata_ordered cd _ s2 _ d hall hone
  rw [P04.ddataOk_append, Bool.and_eq_true] at this
  have h3 := this.2
  simpa [ddataOk] using h3

/-! ### 4. liveness: the rebirth completes under every scheduler -/

/-- what `C15L_rebirth_completes` promises about the end of a schedule: `s` is the state in which
the rebirth started, `s'` the end, `tr'` the trace in between -/
structure RebirthDone (s : St) (fc : Option Nat) (s' : St) (tr' : List Obs) : Prop where
  /-- the node is online and birthed, the node task is idle again -/
  online : s'.online = true
  birthed : s'.birthed = true
  idle : s'.node = .idle
  /-- it is the next node birth, with the same bdSeq -/
  epoch : s'.epoch = s.epoch + 1
  bdseq : s'.bdseq = s.bdseq
  /-- an NCMD-triggered rebirth has stamped the cooldown reference with the command's clock reading -/
  stamped : ∀ w, fc = some w → s'.lastRebirthReq = w
  /-- the devices are the same ones (name, enabled, registered, finished — position by position) -/
  same_devices : s'.devs.map Dev.static = s.devs.map Dev.static
  /-- every enabled registered device is birthed **for the current node birth**, its task idle with empty queues -/
  devices_birthed : ∀ x ∈ s'.devs, x.birthable = true →
    x.flag = true ∧ x.epoch = s'.epoch ∧ x.pc = .idle ∧ x.nsq = [] ∧ x.hq = [] ∧ x.mq = []
  /-- the hand-overs of the whole schedule: the NBIRTH (seq 0, unchanged bdSeq), then one DBIRTH per
  enabled registered device — `names` lists their names in hand-over order, a permutation of the
  birthable devices of `s` — with sequence numbers 1, 2, … (mod 256). Nothing else: no DDEATH, no
  data, no second birth. -/
  trace : ∃ names : List Nat, names.Perm ((s.devs.filter Dev.birthable).map (·.name)) ∧
    handovers tr' = nbirthHO s.bdseq :: dbirthsFrom 0 names ∧ s'.seq = names.length % 256

/-- **The rebirth completes, whatever the scheduler does.**
`s` is a reachable state in which a node rebirth has just started and is the only pending work
(`RebirthStart s fc`: `node = birthStart rebirth fc`; no `client_state` message, rebirth request,
NCMD, undelivered event or stop signal; every user call returned; no `on_dcmd` gate; every device
task finished, or registered, idle or in `on_dcmd`, **without pending node-state message and
without pending enable / disable / rebirth request** — queued DCMDs are allowed).
`sched` is ANY schedule from `s` under an accepting client: task steps of any task in any order
with every hand-over accepted (`dec = acc`: no reject, no park), time advances, late answers to
calls parked earlier; no further stimulus. Then
1. `sched` has at most `termMeasure s` task steps (`C20_step_decreases`: schedules are finite);
2. if it is maximal (`Exhausted s'`: no task has an enabled step) the rebirth is complete —
   `RebirthDone`: online, birthed, next epoch, same bdSeq, cooldown reference stamped, every enabled
   registered device birthed for the CURRENT node birth, and the trace of `sched` consists of
   exactly one NBIRTH (seq 0) followed by exactly one DBIRTH per enabled registered device in
   hand-over order with sequence numbers 1..k, and nothing else (no DDEATH);
3. if it is not maximal it can be extended to a maximal one (so 2. is not vacuous for any prefix). -/
theorem C15L_rebirth_completes (cd : Nat) (acts : List Act) (s : St) (tr : List Obs)
    (h : runActs (init cd) acts = some (s, tr)) (fc : Option Nat) (hs : RebirthStart s fc)
    (sched : List Act) (hall : ∀ a ∈ sched, a.isAcc = true) (s' : St) (tr' : List Obs)
    (hr : runActs s sched = some (s', tr')) :
    taskCount sched + termMeasure s' ≤ termMeasure s ∧
    (Exhausted s' → RebirthDone s fc s' tr') ∧
    (∃ more s'' tr'', (∀ a ∈ more, a.isAcc = true) ∧ runActs s' more = some (s'', tr'') ∧ Exhausted s'') := by
  obtain ⟨hf, hrb⟩ := RB_init h hs
  obtain ⟨hf', hS', hrb'⟩ := RB_runActs (S := s.devs.map Dev.static) sched s s' [] tr' hf rfl hrb hall hr
  have hu := uidOk_reach h
  refine ⟨runActs_bound sched s s' tr' hu (fun a ha => isInternal_of_isAcc (hall a ha)) hr, fun hx => ?_,
    extend_to_exhausted (uidOk_runActs hu hr)⟩
  obtain ⟨names, h1, h2, h3, h4, h5, h6, h7, h8, h9⟩ := RB_exhausted hf' hrb' hx
  simp only [List.nil_append] at h1
  refine ⟨hf'.online, h6, h3, h4, h5, h8, hS', fun x hxm hb => ?_, names, ?_, h1, h7⟩
  · obtain ⟨a, b, c⟩ := h9 x hxm hb
    exact ⟨a, by rw [h4]; exact b, c⟩
  · apply perm_of_counts
    intro d
    rw [h2 d]
    exact countP_birthable_stat hS' d

/-- **Reading the trace of a completed rebirth.** If the hand-overs of a trace are the NBIRTH
followed by `dbirthsFrom 0 names` with `names` a permutation of the names of the enabled registered
devices (the `trace` field of `RebirthDone`), then
* the first hand-over is the NBIRTH and it is the only NBIRTH;
* every other hand-over is a DBIRTH — in particular there is **no DDEATH** and no data;
* the `i`-th DBIRTH (from 0) is the one of device `names[i]` and carries sequence number `i + 1` (mod 256);
* for every name `d` the number of DBIRTHs of `d` is the number of enabled registered devices
  called `d` — **exactly one** when, as C04 assumes, there is one live incarnation of that name. -/
theorem C15L_rebirth_trace_shape (bd : Nat) (names : List Nat) (l : List Dev) (tr : List Obs)
    (hp : names.Perm ((l.filter Dev.birthable).map (·.name)))
    (ht : handovers tr = nbirthHO bd :: dbirthsFrom 0 names) :
    (handovers tr).head? = some (nbirthHO bd) ∧
    (handovers tr).filter (·.kind == .nbirth) = [nbirthHO bd] ∧
    (∀ h ∈ handovers tr, h.kind = .nbirth ∨ h.kind = .dbirth) ∧
    (∀ h ∈ handovers tr, h.kind ≠ .ddeath) ∧
    (∀ i (hi : i < names.length),
      (handovers tr)[i + 1]? = some { kind := .dbirth, dev := some names[i], seq := some ((i + 1) % 256) }) ∧
    (∀ d, ((handovers tr).filter fun h => h.kind == .dbirth && h.dev == some d).length =
      (l.filter fun x => x.birthable && x.name == d).length) := by
  have hk := dbirthsFrom_kind 0 names
  rw [ht]
  refine ⟨rfl, ?_, ?_, ?_, ?_, ?_⟩
  · simp [nbirthHO, dbirthsFrom_no_nbirth]
  · intro h hh
    simp only [List.mem_cons] at hh
    rcases hh with rfl | hh
    · exact .inl rfl
    · exact .inr (hk h hh)
  · intro h hh
    simp only [List.mem_cons] at hh
    rcases hh with rfl | hh
    · simp [nbirthHO]
    · simp [hk h hh]
  · intro i hi
    rw [List.getElem?_cons_succ, dbirthsFrom_getElem 0 names i hi]
    simp
  · intro d
    simp only [List.filter_cons, nbirthHO]
    simp only [show ((CK.nbirth == CK.dbirth) = false) from rfl, Bool.false_and, Bool.false_eq_true, if_false]
    rw [dbirthsFrom_count d names 0, hp.count_eq, List.count_eq_countP, List.countP_map, List.countP_filter,
      List.countP_eq_length_filter]
    congr 1
    apply List.filter_congr
    intro x _
    simp [Function.comp, Bool.and_comm]

/-! ### 5. no birth otherwise -/

/-- **A command that is not granted causes no birth.** `s` is ANY state whose node task is inside
`on_sparkplug_message` after `on_ncmd` (`node = inCb rb`, callback not parked) and the decision of
`C15L_ncmd_decision` is negative (no rebirth asked, or inside the cooldown, or node not birthed).
Then the step that brings the node task back to idle — its only step — hands nothing over and
emits no observation at all; the call log, the sequence counter, `birthed`, `online`, bdSeq, the
birth epoch, the rebirth-request slot and **every device's queues** are unchanged: no NBIRTH, and
no birth message that could make a device task hand a DBIRTH over. (The step before it, which
called `on_ncmd`, only emitted `cbNcmd`: `C15L_ncmd_with_timestamp_delivered`.) -/
theorem C15L_no_birth_otherwise (s : St) (rb : Bool) (dec : Dec) (hn : s.node = .inCb rb) (hp : s.nodeCbPark = false)
    (hneg : ¬ (rb = true ∧ cooldownElapsed s ∧ s.birthed = true)) :
    ∃ s', step s .node dec = [(s', [])] ∧ s'.node = .idle ∧ s'.calls = s.calls ∧ s'.devs = s.devs ∧
      s'.seq = s.seq ∧ s'.epoch = s.epoch ∧ s'.birthed = s.birthed ∧ s'.online = s.online ∧ s'.bdseq = s.bdseq ∧
      s'.rebirthQ = s.rebirthQ ∧ s'.msgQ = s.msgQ := by
  refine ⟨_, inCb_step s dec rb hn hp, ?_⟩
  have hg : ¬ rebirthGranted s rb := hneg
  simp only [hg, if_false]
  split <;> exact ⟨rfl, rfl, rfl, rfl, rfl, rfl, rfl, rfl, rfl, rfl⟩

/-- and nobody else decides for the node task: every action other than a step of the node task —
any stimulus, any step of the loop, a device task or a user call, whatever the client answers —
leaves the node task where it is and does not touch the inputs of the decision other than the
clock (`lastRebirthReq`, `cooldown`, `birthed`), nor the birth epoch, bdSeq and `online`. So "the
steps until the node task is idle again" are exactly the node-task steps described above, in
every interleaving. -/
theorem C15L_decision_is_the_node_tasks (s s' : St) (a : Act) (o : List Obs) (h : runAct s a = some (s', o))
    (ha : ∀ dec k, a ≠ .task .node dec k) :
    s'.node = s.node ∧ s'.lastRebirthReq = s.lastRebirthReq ∧ s'.cooldown = s.cooldown ∧ s'.birthed = s.birthed ∧
    s'.epoch = s.epoch ∧ s'.bdseq = s.bdseq ∧ s'.online = s.online := by
  obtain ⟨h1, h2, h3, h4, h5, h6, h7, -⟩ := other_keeps h ha
  exact ⟨h1, h2, h3, h4, h5, h6, h7⟩

/-- hence from every such start state some accepting schedule completes the rebirth (and by
`C15L_rebirth_completes` every maximal one does) -/
theorem C15L_rebirth_can_complete (cd : Nat) (acts : List Act) (s : St) (tr : List Obs)
    (h : runActs (init cd) acts = some (s, tr)) (fc : Option Nat) (hs : RebirthStart s fc) :
    ∃ sched s' tr', (∀ a ∈ sched, a.isAcc = true) ∧ runActs s sched = some (s', tr') ∧ Exhausted s' ∧
      RebirthDone s fc s' tr' := by
  obtain ⟨-, -, sched, s', tr', hall, hr, hx⟩ := C15L_rebirth_completes cd acts s tr h fc hs [] (by simp) s [] rfl
  exact ⟨sched, s', tr', hall, hr, hx, (C15L_rebirth_completes cd acts s tr h fc hs sched hall s' tr' hr).2.1 hx⟩

/-- a quiescent state in the sense of C20 (`Quiescent`) is exhausted -/
theorem C15L_exhausted_of_quiescent (s : St) (hq : Quiescent s) : Exhausted s :=
  fun t k => hq.1 t .acc k (by decide)

/-! ### non-vacuity: concrete executions -/

/-- `run` starts; device 7 is registered and enabled (request processed while offline); the broker
connection comes up: SUB, NBIRTH (seq 0, bdSeq 0), `birth_devices`, DBIRTH of device 7 (seq 1) -/
def exUp : List Act :=
  [.task .loop .acc 0, .stim (.reg 7), .stim (.enable 7), .task (.dev 0) .acc 0,
   .stim (.ev .online), .task .loop .acc 0, .task .loop .acc 0,
   .task .node .acc 0, .task .node .acc 0, .task .node .acc 0, .task .node .acc 0,
   .task (.dev 0) .acc 0, .task (.dev 0) .acc 0]

/-- an NCMD with `Node Control/Rebirth = true` and a payload timestamp arrives: `poll` returns it,
the node task takes it (`on_ncmd` called) and decides -/
def exCmd : List Act :=
  [.stim (.ev (.ncmd true true)), .task .loop .acc 0, .task .loop .acc 0, .task .node .acc 0, .task .node .acc 0]

/-- one maximal accepting schedule of the rebirth: NBIRTH, `birth_devices`, the device births, the
loop goes back into `poll` -/
def exRun : List Act :=
  [.task .node .acc 0, .task .node .acc 0, .task (.dev 0) .acc 0, .task (.dev 0) .acc 0, .task .loop .acc 0]

/-- the state in which the rebirth starts (cooldown 0) -/
def exStart : St := ((runActs (init 0) (exUp ++ exCmd)).getD (init 0, [])).1

theorem exStart_reached : ∃ tr, runActs (init 0) (exUp ++ exCmd) = some (exStart, tr) :=
  ⟨((runActs (init 0) (exUp ++ exCmd)).getD (init 0, [])).2, by decide⟩

/-- before the command: online, birthed, device 7 enabled and birthed in epoch 1; hand-overs so
far: SUB, NBIRTH seq 0, DBIRTH seq 1 -/
example :
    (runActs (init 0) exUp).map (fun r => (r.1.online, r.1.birthed, r.1.epoch, r.1.node)) = some (true, true, 1, .idle) ∧
    (runActs (init 0) exUp).map (fun r => r.1.devs.map (fun x => (x.name, x.enabled, x.flag, x.epoch))) =
      some [(7, true, true, 1)] ∧
    (runActs (init 0) exUp).map (fun r => handovers r.2) =
      some [{ kind := .sub }, nbirthHO 0, { kind := .dbirth, dev := some 7, seq := some 1 }] := by decide

/-- **the hypotheses of `C15L_rebirth_completes` are satisfiable**: the command is granted
(`C15L_ncmd_decision`: rebirth flag, cooldown 0 elapsed, birthed), the node task is at
`birthStart rebirth (some 0)` and `RebirthStart` holds — in particular device 7 has no pending
node-state message and no pending enable / disable / rebirth request -/
example : exStart.node = .birthStart .rebirth (some 0) ∧ RebirthStart exStart (some 0) :=
  ⟨by decide, ⟨by decide, by decide, by decide, by decide, by decide, by decide, by decide, by decide, by decide,
    by decide⟩⟩

/-- **NCMD rebirth → NBIRTH seq 0 (bdSeq unchanged) + DBIRTH seq 1**: `exRun` is an accepting
schedule from `exStart`; its hand-overs are exactly the NBIRTH and the DBIRTH of device 7; at its
end every task is out of steps, the node is online and birthed in epoch 2 with bdSeq 0, the
cooldown reference is stamped, device 7 is birthed for epoch 2 -/
example : exRun.all Act.isAcc = true ∧
    (runActs exStart exRun).map (fun r => handovers r.2) =
      some [nbirthHO 0, { kind := .dbirth, dev := some 7, seq := some 1 }] ∧
    (runActs exStart exRun).map (fun r => (r.1.online, r.1.birthed, r.1.epoch, r.1.bdseq)) = some (true, true, 2, 0) ∧
    (runActs exStart exRun).map (fun r => (r.1.node, r.1.lastRebirthReq)) = some (.idle, 0) ∧
    (runActs exStart exRun).map (fun r => r.1.devs.map (fun x => (x.name, x.flag, x.epoch, x.pc))) =
      some [(7, true, 2, .idle)] ∧
    (runActs exStart exRun).map (fun r => (tasks r.1).all fun t => step r.1 t .acc == []) = some true := by decide

/-- the general theorem applied to the concrete start state -/
example : ∃ sched s' tr', (∀ a ∈ sched, a.isAcc = true) ∧ runActs exStart sched = some (s', tr') ∧ Exhausted s' ∧
    RebirthDone exStart (some 0) s' tr' := by
  obtain ⟨tr, h⟩ := exStart_reached
  exact C15L_rebirth_can_complete 0 _ exStart tr h (some 0)
    ⟨by decide, by decide, by decide, by decide, by decide, by decide, by decide, by decide, by decide, by decide⟩

/-- **inside the cooldown → nothing.** Cooldown 5000 ms. The clock is at 10000 when a first rebirth
command is granted (stamp 10000) and runs to completion; 100 ms later a second one arrives: the
node task calls `on_ncmd`, decides, and is idle again — no hand-over at all, epoch, sequence
counter and cooldown reference untouched -/
example :
    (runActs (init 5000) (exUp ++ [.stim (.advance 10000)] ++ exCmd ++ exRun ++ [.stim (.advance 100)])).bind
      (fun r => (runActs r.1 exCmd).map fun q => ((r.1.lastRebirthReq, r.1.epoch, r.1.seq), handovers q.2)) =
      some ((10000, 2, 1), []) ∧
    (runActs (init 5000) (exUp ++ [.stim (.advance 10000)] ++ exCmd ++ exRun ++ [.stim (.advance 100)] ++ exCmd)).map
      (fun r => (r.1.node, (r.1.lastRebirthReq, r.1.epoch, r.1.seq))) = some (.idle, (10000, 2, 1)) ∧
    (runActs (init 5000) (exUp ++ [.stim (.advance 10000)] ++ exCmd ++ exRun ++ [.stim (.advance 100)] ++ exCmd)).map
      (fun r => r.1.devs.map (·.nsq)) = some [[]] := by decide

/-- and the decision inputs in that second round: flag set, birthed, but `10100 - 10000 < 5000` -/
example :
    (runActs (init 5000) (exUp ++ [.stim (.advance 10000)] ++ exCmd ++ exRun ++ [.stim (.advance 100)] ++ exCmd.take 4)).map
      (fun r => (r.1.node, r.1.birthed, (r.1.wall, r.1.lastRebirthReq, r.1.cooldown),
        decide (rebirthGranted r.1 true))) =
      some (.inCb true, true, (10100, 10000, 5000), false) := by decide

/-- a command **without payload timestamp** that asks for a rebirth: dropped, `on_ncmd` not called,
nothing handed over -/
example :
    (runActs (init 0) exUp).bind (fun r =>
      (runActs r.1 [.stim (.ev (.ncmd true false)), .task .loop .acc 0, .task .loop .acc 0, .task .node .acc 0]).map
        fun q => (q.2, q.1.node, q.1.msgQ, q.1.epoch)) =
      some ([.poll, .polled .node], .idle, [], 1) := by decide

/-- **the "no pending request" hypothesis cannot be dropped.** Same start, but a
`DeviceHandle::rebirth` request for device 7 is pending when the node rebirth starts. If the device
task runs first, the trace of the rebirth is DBIRTH (seq 2, still in the old node birth), NBIRTH,
DBIRTH (seq 1): two DBIRTHs of device 7, and the NBIRTH is not the first hand-over. (Every single
hand-over is still legal: C01–C04 hold.) -/
example :
    (runActs exStart [.stim (.drebirth 7)]).map (fun r => (r.1.node, r.1.devs.map (·.hq))) =
      some (.birthStart .rebirth (some 0), [[.rebirth]]) ∧
    (runActs exStart [.stim (.drebirth 7), .task (.dev 0) .acc 0, .task (.dev 0) .acc 0, .task .node .acc 0,
        .task .node .acc 0, .task (.dev 0) .acc 0, .task (.dev 0) .acc 0, .task .loop .acc 0]).map
      (fun q => (handovers q.2, (tasks q.1).all fun t => step q.1 t .acc == [])) =
      some ([{ kind := .dbirth, dev := some 7, seq := some 2 }, nbirthHO 0,
             { kind := .dbirth, dev := some 7, seq := some 1 }], true) := by decide

/-- **the "no undelivered event" hypothesis cannot be dropped either**: with an `Offline` event
already waiting in the MQTT event loop when the rebirth starts, an accepting schedule runs the
rebirth (NBIRTH, DBIRTH) and then processes the connection loss: it ends exhausted but offline and
unbirthed, with a new will (bdSeq 1) -/
example :
    (runActs exStart ([.stim (.ev .offline)] ++ exRun ++ [.task .loop .acc 0, .task .node .acc 0, .task .loop .acc 0,
        .task .loop .acc 0, .task (.dev 0) .acc 0])).map
      (fun q => (handovers q.2, (q.1.online, q.1.birthed, q.1.bdseq), (tasks q.1).all fun t => step q.1 t .acc == [])) =
      some ([nbirthHO 0, { kind := .dbirth, dev := some 7, seq := some 1 }], (false, false, 1), true) := by decide

/-- the C04 scanner on the rebirth trace of `exRun` (what `C15L_stale_births_cannot_complete` is
about): after the rebirth's NBIRTH device 7 counts as unbirthed until its new DBIRTH is accepted -/
example : (runActs exStart exRun).map (fun r => ddataOk 7 .none (r.2.drop 2)) = some true ∧
    (runActs exStart exRun).map (fun r => r.2.take 2) =
      some [.bNode, .call 3 .nbirth none (some 0) (some 0) false .acc] := by decide

end Srad.Eon
