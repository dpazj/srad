import SradModel.Model.StateJson

/-!
Helper lemmas for the STATE certificate: the decimal printer and serde_json's integer reader
are inverse on every `u64`; the reader accepts both written forms of the certificate.
-/
namespace Srad.StateJson

theorem isDigit_ofNat (d : Nat) (h : d < 10) : isDigit (UInt8.ofNat (48 + d)) = true := by
  simp [isDigit, UInt8.toNat_ofNat']
  omega

theorem digitVal_ofNat (d : Nat) (h : d < 10) : (UInt8.ofNat (48 + d)).toNat - 48 = d := by
  simp [UInt8.toNat_ofNat']
  omega

theorem isWs_of_isDigit (c : UInt8) (h : isDigit c = true) : isWs c = false := by
  simp only [isDigit, isWs, Bool.and_eq_true, decide_eq_true_eq] at *
  have h1 : c ≠ 0x20 := by intro e; subst e; revert h; decide
  have h2 : c ≠ 0x0a := by intro e; subst e; revert h; decide
  have h3 : c ≠ 0x09 := by intro e; subst e; revert h; decide
  have h4 : c ≠ 0x0d := by intro e; subst e; revert h; decide
  simp [h1, h2, h3, h4]

theorem ofNat48_eq_zero_iff (d : Nat) (h : d < 10) : UInt8.ofNat (48 + d) = 0x30 ↔ d = 0 := by
  rw [← UInt8.toNat_inj]
  simp [UInt8.toNat_ofNat']
  omega

theorem decDigits_lt10 (n : Nat) (h : n < 10) : decDigits n = [UInt8.ofNat (48 + n)] := by
  rw [decDigits]; simp [h]

theorem decDigits_ge10 (n : Nat) (h : ¬ n < 10) :
    decDigits n = decDigits (n / 10) ++ [UInt8.ofNat (48 + n % 10)] := by
  rw [decDigits]; simp [h]

theorem decDigits_head (n : Nat) :
    ∃ c t, decDigits n = c :: t ∧ isDigit c = true ∧ (c = 0x30 ↔ n = 0) := by
  induction n using Nat.strongRecOn with
  | _ n ih =>
    by_cases h : n < 10
    · exact ⟨_, [], decDigits_lt10 n h, isDigit_ofNat n h, ofNat48_eq_zero_iff n h⟩
    · obtain ⟨c, t, hc, hd, hz⟩ := ih (n / 10) (by omega)
      refine ⟨c, t ++ [UInt8.ofNat (48 + n % 10)], ?_, hd, ?_⟩
      · rw [decDigits_ge10 n h, hc]; rfl
      · rw [hz]; omega

theorem overflows_false (q d : Nat) (hd : d < 10) (h : q * 10 + d ≤ U64MAX) : overflows q d = false := by
  rw [Bool.eq_false_iff]
  intro hb
  simp only [overflows, U64MAX, Bool.and_eq_true, Bool.or_eq_true] at hb h
  simp at hb
  omega

/-- serde_json's digit loop reads back what Rust's `Display` printed, for every `u64` -/
theorem accDigits_decDigits (n : Nat) (hn : n ≤ U64MAX) (rest : Bytes) :
    accDigits 0 (decDigits n ++ rest) = accDigits n rest := by
  induction n using Nat.strongRecOn generalizing rest with
  | _ n ih =>
    by_cases h : n < 10
    · rw [decDigits_lt10 n h]
      show accDigits 0 (UInt8.ofNat (48 + n) :: rest) = _
      rw [accDigits, isDigit_ofNat n h, digitVal_ofNat n h]
      have : overflows 0 n = false := overflows_false 0 n h (by omega)
      simp [this]
    · rw [decDigits_ge10 n h, List.append_assoc]
      show accDigits 0 (decDigits (n / 10) ++ (UInt8.ofNat (48 + n % 10) :: rest)) = _
      rw [ih (n / 10) (by omega) (by omega)]
      have hd : n % 10 < 10 := Nat.mod_lt _ (by decide)
      rw [accDigits, isDigit_ofNat _ hd, digitVal_ofNat _ hd]
      have : overflows (n / 10) (n % 10) = false := overflows_false _ _ hd (by omega)
      simp only [this, if_true, Bool.false_eq_true, if_false]
      congr 1
      omega

theorem accDigits_stop (n : Nat) (c : UInt8) (r : Bytes) (hc : isDigit c = false) :
    accDigits n (c :: r) = some (n, c :: r) := by
  rw [accDigits]; simp [hc]

/-- `deserialize_number` into a `u64` reads back the printed number when something that
cannot continue a number follows -/
theorem parseU64_decDigits (n : Nat) (hn : n ≤ U64MAX) (c : UInt8) (r : Bytes)
    (hc : isDigit c = false) (h1 : c ≠ 0x2e) (h2 : c ≠ 0x65) (h3 : c ≠ 0x45) :
    parseU64 (decDigits n ++ c :: r) = some (n, c :: r) := by
  obtain ⟨c0, t0, hdec, hdig, hz⟩ := decDigits_head n
  have htail : parseNumberTail n (c :: r) = some (n, c :: r) := by
    simp [parseNumberTail, h1, h2, h3]
  by_cases hn0 : n = 0
  · subst hn0
    rw [decDigits_lt10 0 (by decide)]
    show parseU64 (0x30 :: c :: r) = _
    have : parseU64 (0x30 :: c :: r) = if isDigit c then none else parseNumberTail 0 (c :: r) := rfl
    rw [this, hc]; simpa using htail
  · have hne : c0 ≠ 0x30 := fun e => hn0 (hz.mp e)
    have hacc : accDigits (c0.toNat - 48) (t0 ++ c :: r) = some (n, c :: r) := by
      have h0 : accDigits 0 (c0 :: (t0 ++ c :: r)) = accDigits (c0.toNat - 48) (t0 ++ c :: r) := by
        rw [accDigits, hdig]
        have : overflows 0 (c0.toNat - 48) = false := by
          simp only [isDigit, Bool.and_eq_true, decide_eq_true_eq] at hdig
          exact overflows_false 0 _ (by omega) (by simp [U64MAX]; omega)
        simp [this]
      rw [← h0, ← List.cons_append, ← hdec, accDigits_decDigits n hn, accDigits_stop n c r hc]
    rw [hdec]
    show parseU64 (c0 :: (t0 ++ c :: r)) = _
    unfold parseU64
    have hws : skipWs (c0 :: (t0 ++ c :: r)) = c0 :: (t0 ++ c :: r) := by
      rw [skipWs, isWs_of_isDigit c0 hdig]; simp
    rw [hws]
    simp only [hne, if_false, hdig, if_true, hacc, htail]

theorem parseU64_space (bs : Bytes) : parseU64 (0x20 :: bs) = parseU64 bs := rfl

theorem key_online (valid : Bytes → Bool) (hv : valid ONLINE = true) (r : Bytes) :
    parseStrLoop valid ((0x6f :: 0x6e :: 0x6c :: 0x69 :: 0x6e :: 0x65 :: 0x22 :: r).length + 1) []
      (0x6f :: 0x6e :: 0x6c :: 0x69 :: 0x6e :: 0x65 :: 0x22 :: r) = some (ONLINE, r) := by
  have : parseStrLoop valid ((0x6f :: 0x6e :: 0x6c :: 0x69 :: 0x6e :: 0x65 :: 0x22 :: r).length + 1) []
      (0x6f :: 0x6e :: 0x6c :: 0x69 :: 0x6e :: 0x65 :: 0x22 :: r)
        = if valid ONLINE then some (ONLINE, r) else none := rfl
  rw [this, hv]; rfl

theorem key_timestamp (valid : Bytes → Bool) (hv : valid TIMESTAMP = true) (r : Bytes) :
    parseStrLoop valid
      ((0x74 :: 0x69 :: 0x6d :: 0x65 :: 0x73 :: 0x74 :: 0x61 :: 0x6d :: 0x70 :: 0x22 :: r).length + 1) []
      (0x74 :: 0x69 :: 0x6d :: 0x65 :: 0x73 :: 0x74 :: 0x61 :: 0x6d :: 0x70 :: 0x22 :: r)
        = some (TIMESTAMP, r) := by
  have : parseStrLoop valid
      ((0x74 :: 0x69 :: 0x6d :: 0x65 :: 0x73 :: 0x74 :: 0x61 :: 0x6d :: 0x70 :: 0x22 :: r).length + 1) []
      (0x74 :: 0x69 :: 0x6d :: 0x65 :: 0x73 :: 0x74 :: 0x61 :: 0x6d :: 0x70 :: 0x22 :: r)
        = if valid TIMESTAMP then some (TIMESTAMP, r) else none := rfl
  rw [this, hv]; rfl

theorem parseBool_boolBytes (o : Bool) (r : Bytes) : parseBool (boolBytes o ++ r) = some (o, r) := by
  cases o <;> rfl

theorem parseBool_space (bs : Bytes) : parseBool (0x20 :: bs) = parseBool bs := rfl

/-- validity of the two field names (they are ASCII) is all the reader needs of `valid` -/
structure FieldNamesValid (valid : Bytes → Bool) : Prop where
  online : valid ONLINE = true
  timestamp : valid TIMESTAMP = true

/-- hand-written form, object body: `"online" : <o>, "timestamp" : <n>}` -/
theorem mapLoop_printCert (valid : Bytes → Bool) (hv : FieldNamesValid valid) (o : Bool) (n : Nat)
    (hn : n ≤ U64MAX) (fuel : Nat) :
    mapLoop valid (fuel + 3) true none none
      ([0x22, 0x6f, 0x6e, 0x6c, 0x69, 0x6e, 0x65, 0x22, 0x20, 0x3a, 0x20] ++ boolBytes o ++
        [0x2c, 0x20, 0x22, 0x74, 0x69, 0x6d, 0x65, 0x73, 0x74, 0x61, 0x6d, 0x70, 0x22, 0x20, 0x3a, 0x20] ++
        decDigits n ++ [0x7d]) = some ((n, o), [0x7d]) := by
  have hnum : parseU64 (0x20 :: (decDigits n ++ [0x7d])) = some (n, [0x7d]) := by
    rw [parseU64_space]
    exact parseU64_decDigits n hn 0x7d [] (by decide) (by decide) (by decide) (by decide)
  simp only [List.cons_append, List.nil_append, List.append_assoc]
  rw [mapLoop]
  show (match parseStrLoop valid _ [] _ with | none => none | some (key, r) => _) = _
  rw [key_online valid hv.online]
  show (match parseBool (0x20 :: (boolBytes o ++ _)) with | none => none | some (v, r3) => _) = _
  rw [parseBool_space, parseBool_boolBytes]
  show mapLoop valid (fuel + 1 + 1) false none (some o) _ = _
  rw [mapLoop]
  show (match parseStrLoop valid _ [] _ with | none => none | some (key, r) => _) = _
  rw [key_timestamp valid hv.timestamp]
  show (match parseU64 _ with | none => none | some (v, r3) => _) = _
  rw [hnum]
  show mapLoop valid (fuel + 1) false (some n) (some o) [0x7d] = _
  rfl

/-- serde form, object body: `"timestamp":<n>,"online":<o>}` -/
theorem mapLoop_printCertSerde (valid : Bytes → Bool) (hv : FieldNamesValid valid) (o : Bool)
    (n : Nat) (hn : n ≤ U64MAX) (fuel : Nat) :
    mapLoop valid (fuel + 3) true none none
      ([0x22, 0x74, 0x69, 0x6d, 0x65, 0x73, 0x74, 0x61, 0x6d, 0x70, 0x22, 0x3a] ++ decDigits n ++
        [0x2c, 0x22, 0x6f, 0x6e, 0x6c, 0x69, 0x6e, 0x65, 0x22, 0x3a] ++ boolBytes o ++ [0x7d])
      = some ((n, o), [0x7d]) := by
  have hnum : ∀ r : Bytes, parseU64 (decDigits n ++ 0x2c :: r) = some (n, 0x2c :: r) := fun r =>
    parseU64_decDigits n hn 0x2c r (by decide) (by decide) (by decide) (by decide)
  simp only [List.cons_append, List.nil_append, List.append_assoc]
  rw [mapLoop]
  show (match parseStrLoop valid _ [] _ with | none => none | some (key, r) => _) = _
  rw [key_timestamp valid hv.timestamp]
  show (match parseU64 _ with | none => none | some (v, r3) => _) = _
  rw [hnum]
  show mapLoop valid (fuel + 1 + 1) false (some n) none _ = _
  rw [mapLoop]
  show (match parseStrLoop valid _ [] _ with | none => none | some (key, r) => _) = _
  rw [key_online valid hv.online]
  show (match parseBool (boolBytes o ++ _) with | none => none | some (v, r3) => _) = _
  rw [parseBool_boolBytes]
  show mapLoop valid (fuel + 1) false (some n) (some o) [0x7d] = _
  rfl

theorem parseCert_obj (valid : Bytes → Bool) (t : Bytes) (ts : Nat) (on : Bool)
    (h : mapLoop valid (t.length + 1) true none none t = some ((ts, on), [0x7d])) :
    parseCert valid (0x7b :: t) = some (on, ts) := by
  have : parseCert valid (0x7b :: t) =
      match (mapLoop valid (t.length + 1) true none none t).map (fun x => (x.1, x.2, (0x7d : UInt8))) with
      | none => none
      | some ((ts, on), r, close) =>
        match skipWs r with
        | [] => none
        | e :: r2 => if e = close then (if (skipWs r2).isEmpty then some (on, ts) else none) else none := rfl
  rw [this, h]
  rfl

theorem parseCert_printCert (valid : Bytes → Bool) (hv : FieldNamesValid valid) (o : Bool) (n : Nat)
    (hn : n ≤ U64MAX) : parseCert valid (printCert o n) = some (o, n) := by
  have hlen : ∀ l : Bytes, ∃ f, (0x22 :: 0x6f :: 0x6e :: l).length + 1 = f + 3 := fun l => ⟨l.length + 1, by simp⟩
  have := mapLoop_printCert valid hv o n hn
  unfold printCert
  simp only [List.cons_append, List.nil_append, List.append_assoc] at this ⊢
  apply parseCert_obj
  obtain ⟨f, hf⟩ := hlen _
  rw [hf]
  exact this f

theorem parseCert_printCertSerde (valid : Bytes → Bool) (hv : FieldNamesValid valid) (o : Bool)
    (n : Nat) (hn : n ≤ U64MAX) : parseCert valid (printCertSerde o n) = some (o, n) := by
  have hlen : ∀ l : Bytes, ∃ f, (0x22 :: 0x74 :: 0x69 :: l).length + 1 = f + 3 := fun l => ⟨l.length + 1, by simp⟩
  have := mapLoop_printCertSerde valid hv o n hn
  unfold printCertSerde
  simp only [List.cons_append, List.nil_append, List.append_assoc] at this ⊢
  apply parseCert_obj
  obtain ⟨f, hf⟩ := hlen _
  rw [hf]
  exact this f

end Srad.StateJson
