/-
C14 — Host admits only well-formed, current births, deaths and data.
Property theorems (and, before the `poll` theorems, what a verdict is in the property's terms);
helper lemmas are in `SradModel/Proofs/Admit.lean`, the model of
srad-app's validation (events.rs, metrics.rs, the message arms of eventloop.rs) in
`SradModel/Model/Admit.lean`, the declarative conditions (`Wf…`, `…Of`) in `Model/AdmitSpec.lean`.

Scope: the per-type payload validation and how `AppEventLoop::poll` surfaces its verdict. The
replay rule ("an NBIRTH that is not strictly newer never replaces the applied one") and the frame
theorem over the host's node state are statements about generic_app.rs and live with the
host-actor model.

All theorems quantify over every payload, every node/device id and every property-set decoder
`decodePS` (srad-types' `PropertySet::try_from`; its concrete model is `decodePSet`, characterised
by `C14_property_set_decodable`). `LongsAreU64` says that a `LongValue(u64)` holds a `u64`.
-/
import SradModel.Proofs.Admit
import SradModel.Generated.AdmitTable

namespace Srad.Admit
open Srad.Codec

section
variable {π : Type} (decodePS : PSet → Option π)

/-- An NBIRTH payload is admitted as `x` exactly when it is well-formed (seq 0, a timestamp, a
bdSeq metric found by name holding a 64-bit integer in 0..=255, every metric a valid birth
metric) and `x` carries exactly its fields: the timestamp, that bdSeq, and per metric the name,
alias, datatype, value, metadata, timestamp, flags and decoded property set, in order. -/
theorem C14_nbirth (p : Payload) (hty : LongsAreU64 p.metrics) (x : NBirth π) :
    nbirthTryFrom decodePS p = .ok x ↔
      WfNBirth decodePS p ∧ p.timestamp = some x.timestamp ∧ HasBdSeq p.metrics x.bdseq ∧
      Pointwise (BirthOf decodePS) p.metrics x.metrics := by
  have hb := bdseq_iff _ hty
  have hm := birthMetrics_ok_iff decodePS p.metrics
  rw [WfNBirth, nbirthTryFrom]
  constructor
  · intro h
    rcases h1 : p.seq with _ | s <;> simp only [h1, reduceCtorEq] at h
    by_cases h0 : s = 0 <;>
      simp only [h0, ne_eq, not_true_eq_false, not_false_eq_true, ↓reduceIte, reduceCtorEq] at h
    rcases h2 : p.timestamp with _ | ts <;> simp only [h2, reduceCtorEq] at h
    rcases h3 : bdseqFromMetrics p.metrics with _ | b <;> simp only [h3, reduceCtorEq] at h
    rcases h4 : birthMetrics decodePS p.metrics with e | md <;> simp only [h4, reduceCtorEq] at h
    obtain rfl := Except.ok.inj h
    have h3 := (hb b).1 h3
    have h4 := (hm md).1 h4
    exact ⟨⟨by rw [h0], by simp, ⟨b, h3⟩, h4.1⟩, rfl, h3, h4.2⟩
  · rintro ⟨⟨h1, _, _, ha⟩, h2, h3, h4⟩
    simp only [h1, h2, (hb _).2 h3, (hm _).2 ⟨ha, h4⟩, ne_eq, not_true_eq_false, ↓reduceIte]

/-- every well-formed NBIRTH is admitted, and only those -/
theorem C14_nbirth_admitted_iff_wellformed (p : Payload) (hty : LongsAreU64 p.metrics) :
    (∃ x, nbirthTryFrom decodePS p = .ok x) ↔ WfNBirth decodePS p :=
  ok_exists_iff (C14_nbirth decodePS p hty) (nbirth_exists decodePS)

/-- anything else is an invalid payload -/
theorem C14_nbirth_invalid_iff_malformed (p : Payload) (hty : LongsAreU64 p.metrics) :
    (∃ e, nbirthTryFrom decodePS p = .error e) ↔ ¬ WfNBirth decodePS p :=
  error_exists_iff (C14_nbirth decodePS p hty) (nbirth_exists decodePS)

/-- An NDEATH is admitted exactly when it has such a bdSeq metric, and carries that bdSeq. -/
theorem C14_ndeath (p : Payload) (hty : LongsAreU64 p.metrics) (x : NDeath) :
    ndeathTryFrom p = .ok x ↔ WfNDeath p ∧ HasBdSeq p.metrics x.bdseq := by
  rw [WfNDeath, ← bdseq_iff _ hty, ndeathTryFrom]
  constructor
  · intro h
    rcases h1 : bdseqFromMetrics p.metrics with _ | b <;> simp only [h1, reduceCtorEq] at h
    obtain rfl := Except.ok.inj h
    exact ⟨⟨b, (bdseq_iff _ hty b).1 h1⟩, rfl⟩
  · rintro ⟨_, h1⟩
    simp only [h1]

theorem C14_ndeath_admitted_iff_wellformed (p : Payload) (hty : LongsAreU64 p.metrics) :
    (∃ x, ndeathTryFrom p = .ok x) ↔ WfNDeath p :=
  ok_exists_iff (C14_ndeath p hty) ndeath_exists

theorem C14_ndeath_invalid_iff_malformed (p : Payload) (hty : LongsAreU64 p.metrics) :
    (∃ e, ndeathTryFrom p = .error e) ↔ ¬ WfNDeath p :=
  error_exists_iff (C14_ndeath p hty) ndeath_exists

/-- An NDATA is admitted exactly when it has seq and timestamp and every metric is a valid data
metric; the admitted object carries seq (as `u8`), timestamp and, per metric, the id (alias if
present, else name) and the details. -/
theorem C14_ndata (p : Payload) (x : NData π) :
    ndataTryFrom decodePS p = .ok x ↔
      WfData decodePS p ∧ (∃ s, p.seq = some s ∧ x.seq = s % 256) ∧
      p.timestamp = some x.timestamp ∧ Pointwise (DataOf decodePS) p.metrics x.metrics :=
  ndataTryFrom_eq decodePS p ▸
    seqTsMetrics_ok_iff (mk := NData.mk) (fun h => by cases h; exact ⟨rfl, rfl, rfl⟩)
      (dataMetrics_ok_iff decodePS p.metrics) x.seq x.timestamp x.metrics

theorem C14_ndata_admitted_iff_wellformed (p : Payload) :
    (∃ x, ndataTryFrom decodePS p = .ok x) ↔ WfData decodePS p :=
  ok_exists_iff (C14_ndata decodePS p) (ndata_exists decodePS)

theorem C14_ndata_invalid_iff_malformed (p : Payload) :
    (∃ e, ndataTryFrom decodePS p = .error e) ↔ ¬ WfData decodePS p :=
  error_exists_iff (C14_ndata decodePS p) (ndata_exists decodePS)

theorem C14_ddata (p : Payload) (x : DData π) :
    ddataTryFrom decodePS p = .ok x ↔
      WfData decodePS p ∧ (∃ s, p.seq = some s ∧ x.seq = s % 256) ∧
      p.timestamp = some x.timestamp ∧ Pointwise (DataOf decodePS) p.metrics x.metrics :=
  ddataTryFrom_eq decodePS p ▸
    seqTsMetrics_ok_iff (mk := DData.mk) (fun h => by cases h; exact ⟨rfl, rfl, rfl⟩)
      (dataMetrics_ok_iff decodePS p.metrics) x.seq x.timestamp x.metrics

theorem C14_ddata_admitted_iff_wellformed (p : Payload) :
    (∃ x, ddataTryFrom decodePS p = .ok x) ↔ WfData decodePS p :=
  ok_exists_iff (C14_ddata decodePS p) (ddata_exists decodePS)

theorem C14_ddata_invalid_iff_malformed (p : Payload) :
    (∃ e, ddataTryFrom decodePS p = .error e) ↔ ¬ WfData decodePS p :=
  error_exists_iff (C14_ddata decodePS p) (ddata_exists decodePS)

theorem C14_dbirth (p : Payload) (x : DBirth π) :
    dbirthTryFrom decodePS p = .ok x ↔
      WfDBirth decodePS p ∧ (∃ s, p.seq = some s ∧ x.seq = s % 256) ∧
      p.timestamp = some x.timestamp ∧ Pointwise (BirthOf decodePS) p.metrics x.metrics :=
  dbirthTryFrom_eq decodePS p ▸
    seqTsMetrics_ok_iff (mk := DBirth.mk) (fun h => by cases h; exact ⟨rfl, rfl, rfl⟩)
      (birthMetrics_ok_iff decodePS p.metrics) x.seq x.timestamp x.metrics

theorem C14_dbirth_admitted_iff_wellformed (p : Payload) :
    (∃ x, dbirthTryFrom decodePS p = .ok x) ↔ WfDBirth decodePS p :=
  ok_exists_iff (C14_dbirth decodePS p) (dbirth_exists decodePS)

theorem C14_dbirth_invalid_iff_malformed (p : Payload) :
    (∃ e, dbirthTryFrom decodePS p = .error e) ↔ ¬ WfDBirth decodePS p :=
  error_exists_iff (C14_dbirth decodePS p) (dbirth_exists decodePS)

theorem C14_ddeath (p : Payload) (x : DDeath) :
    ddeathTryFrom p = .ok x ↔
      WfDDeath p ∧ (∃ s, p.seq = some s ∧ x.seq = s % 256) ∧ p.timestamp = some x.timestamp := by
  rw [WfDDeath, ddeathTryFrom]
  constructor
  · intro h
    rcases h1 : p.seq with _ | s <;> simp only [h1, reduceCtorEq] at h
    rcases h2 : p.timestamp with _ | ts <;> simp only [h2, reduceCtorEq] at h
    obtain rfl := Except.ok.inj h
    exact ⟨⟨by simp, by simp⟩, ⟨s, rfl, rfl⟩, rfl⟩
  · rintro ⟨_, ⟨s, h1, h⟩, h2⟩
    simp only [h1, h2, ← h]

theorem C14_ddeath_admitted_iff_wellformed (p : Payload) :
    (∃ x, ddeathTryFrom p = .ok x) ↔ WfDDeath p :=
  ok_exists_iff (C14_ddeath p) ddeath_exists

theorem C14_ddeath_invalid_iff_malformed (p : Payload) :
    (∃ e, ddeathTryFrom p = .error e) ↔ ¬ WfDDeath p :=
  error_exists_iff (C14_ddeath p) ddeath_exists

/-! ### what `AppEventLoop::poll` returns for a node / device message -/

theorem nodeVerdict_ok_iff (k : Kind) (p : Payload) (hty : LongsAreU64 p.metrics) (ev : NodeEvent π) :
    nodeVerdict decodePS k p = some (.ok ev) ↔ WfNode decodePS k p ∧ NodeEventOf decodePS k p ev := by
  cases k <;> simp only [nodeVerdict, WfNode, Option.some.injEq, map_eq_ok, reduceCtorEq, false_and]
  · exact verb_ok_iff (C14_nbirth decodePS p hty) (by cases ev <;> simp [NodeEventOf])
  · exact verb_ok_iff (C14_ndeath p hty) (by cases ev <;> simp [NodeEventOf])
  · exact verb_ok_iff (C14_ndata decodePS p) (by cases ev <;> simp [NodeEventOf])

theorem deviceVerdict_ok_iff (k : Kind) (p : Payload) (ev : DeviceEvent π) :
    deviceVerdict decodePS k p = some (.ok ev) ↔
      WfDevice decodePS k p ∧ DeviceEventOf decodePS k p ev := by
  cases k <;> simp only [deviceVerdict, WfDevice, Option.some.injEq, map_eq_ok, reduceCtorEq, false_and]
  · exact verb_ok_iff (C14_dbirth decodePS p) (by cases ev <;> simp [DeviceEventOf])
  · exact verb_ok_iff (C14_ddeath p) (by cases ev <;> simp [DeviceEventOf])
  · exact verb_ok_iff (C14_ddata decodePS p) (by cases ev <;> simp [DeviceEventOf])

/-- `poll` yields a node event for a node-level message exactly when the message is well-formed
for its type; the event names the sender, is the event of that verb and carries exactly the
payload's fields. -/
theorem C14_poll_node_admitted (id id' : NodeId) (k : Kind) (p : Payload)
    (hty : LongsAreU64 p.metrics) (ev : NodeEvent π) :
    handleNode decodePS id k p = some (.node id' ev) ↔
      id' = id ∧ WfNode decodePS k p ∧ NodeEventOf decodePS k p ev := by
  rw [handleNode_eq, poll_eq_some, ← nodeVerdict_ok_iff decodePS k p hty]
  constructor
  · rintro (⟨x, hx, hc⟩ | ⟨_, _, hc⟩) <;> cases hc
    exact ⟨rfl, hx⟩
  · rintro ⟨rfl, hx⟩; exact .inl ⟨ev, hx, rfl⟩

/-- `poll` yields `InvalidPayload` exactly for BIRTH/DEATH/DATA messages that are not well-formed
for their type; the event names the sender (no device) and holds the validator's error. -/
theorem C14_poll_node_invalid (id : NodeId) (k : Kind) (p : Payload)
    (hty : LongsAreU64 p.metrics) (d : ErrDetails) :
    handleNode decodePS id k p = some (.invalidPayload d) ↔
      Supported k ∧ ¬ WfNode decodePS k p ∧ d.nodeId = id ∧ d.device = none ∧
      ((k = .birth ∧ nbirthTryFrom decodePS p = .error d.error) ∨
       (k = .death ∧ ndeathTryFrom p = .error d.error) ∨
       (k = .data ∧ ndataTryFrom decodePS p = .error d.error)) := by
  rw [handleNode_eq, ← nodeVerdict_error, ← nodeVerdict_ne_none decodePS k p]
  exact poll_invalid_iff (nodeVerdict_ok_iff decodePS k p hty) (nodeEventOf_exists decodePS)
    (fun _ _ hc => by cases hc) d

/-- the three outcomes are exhaustive: unsupported verbs produce no event, a well-formed message
is always admitted, anything else always surfaces as an invalid payload of the sender -/
theorem C14_poll_node_total (id : NodeId) (k : Kind) (p : Payload) (hty : LongsAreU64 p.metrics) :
    (¬ Supported k → handleNode decodePS id k p = none) ∧
    (Supported k → WfNode decodePS k p → ∃ ev, handleNode decodePS id k p = some (.node id ev)) ∧
    (Supported k → ¬ WfNode decodePS k p →
      ∃ e, handleNode decodePS id k p = some (.invalidPayload ⟨id, none, e⟩)) := by
  rw [handleNode_eq, ← nodeVerdict_ne_none decodePS k p]
  exact poll_total (nodeVerdict_ok_iff decodePS k p hty) (nodeEventOf_exists decodePS) id none _

theorem C14_poll_device_admitted (id id' : NodeId) (name name' : Bytes) (k : Kind) (p : Payload)
    (ev : DeviceEvent π) :
    handleDevice decodePS id name k p = some (.device id' name' ev) ↔
      id' = id ∧ name' = name ∧ WfDevice decodePS k p ∧ DeviceEventOf decodePS k p ev := by
  rw [handleDevice_eq, poll_eq_some, ← deviceVerdict_ok_iff decodePS k p]
  constructor
  · rintro (⟨x, hx, hc⟩ | ⟨_, _, hc⟩) <;> cases hc
    exact ⟨rfl, rfl, hx⟩
  · rintro ⟨rfl, rfl, hx⟩; exact .inl ⟨ev, hx, rfl⟩

theorem C14_poll_device_invalid (id : NodeId) (name : Bytes) (k : Kind) (p : Payload)
    (d : ErrDetails) :
    handleDevice decodePS id name k p = some (.invalidPayload d) ↔
      Supported k ∧ ¬ WfDevice decodePS k p ∧ d.nodeId = id ∧ d.device = some name ∧
      ((k = .birth ∧ dbirthTryFrom decodePS p = .error d.error) ∨
       (k = .death ∧ ddeathTryFrom p = .error d.error) ∨
       (k = .data ∧ ddataTryFrom decodePS p = .error d.error)) := by
  rw [handleDevice_eq, ← deviceVerdict_error, ← deviceVerdict_ne_none decodePS k p]
  exact poll_invalid_iff (deviceVerdict_ok_iff decodePS k p) (deviceEventOf_exists decodePS)
    (fun _ _ hc => by cases hc) d

theorem C14_poll_device_total (id : NodeId) (name : Bytes) (k : Kind) (p : Payload) :
    (¬ Supported k → handleDevice decodePS id name k p = none) ∧
    (Supported k → WfDevice decodePS k p →
      ∃ ev, handleDevice decodePS id name k p = some (.device id name ev)) ∧
    (Supported k → ¬ WfDevice decodePS k p →
      ∃ e, handleDevice decodePS id name k p = some (.invalidPayload ⟨id, some name, e⟩)) := by
  rw [handleDevice_eq, ← deviceVerdict_ne_none decodePS k p]
  exact poll_total (deviceVerdict_ok_iff decodePS k p) (deviceEventOf_exists decodePS) id
    (some name) _

end

/-- a property set attached to a metric is decodable exactly when it has as many values as keys
and every value has a value or is_null = true and, if it names a datatype, a valid one -/
theorem C14_property_set_decodable (ps : PSet) : decodePSet ps ≠ none ↔ PSetOk ps := by
  unfold decodePSet PSetOk
  by_cases h : ps.keys.length = ps.values.length
  · simpa [h] using decodePairs_ne_none_iff _ _ _ h
  · simp [h]

/-! ### T-table: verb × (valid message, every single deviation, every pair of deviations),
regenerated on every run by pushing the messages through the freshly compiled
`AppEventLoop::poll` (`SradModel/Generated/AdmitTable.lean`). A change to any validation rule
makes one of these obligations fail at `lake build`. -/

/-- the compiled code and the model agree on every row: same outcome, same error variant -/
theorem C14_table_matches_model :
    ∀ row ∈ Srad.Generated.admitTable, handleRow row.1 row.2.1 row.2.2.1 = row.2.2.2 := by
  decide +kernel

/-- in the compiled code itself: a row is admitted iff its payload is well-formed for its type
(the declarative condition, evaluated by its decision procedure), silent iff the verb is not
BIRTH/DEATH/DATA, and therefore an invalid payload in all remaining cases -/
theorem C14_table_property :
    ∀ row ∈ Srad.Generated.admitTable,
      (row.2.2.2 = .admitted ↔ WfRow row.1 row.2.1 row.2.2.1) ∧
      (row.2.2.2 = .silent ↔ ¬ Supported row.2.1) := by
  decide +kernel

/-- the table exercises all six message types in the admitted case and every error variant -/
theorem C14_table_covers :
    (∀ dk ∈ [(false, Kind.birth), (false, .death), (false, .data), (true, .birth), (true, .death),
        (true, .data)],
      ∃ row ∈ Srad.Generated.admitTable, (row.1, row.2.1) = dk ∧ row.2.2.2 = .admitted) ∧
    (∀ e ∈ [PErr.missingSeq, .invalidSeq, .invalidBdseq, .missingTimestamp,
        .metric .missingTimestamp, .metric .missingDatatype, .metric .invalidDatatype,
        .metric .missingName, .metric .notNullNoValue, .metric .invalidProperties],
      ∃ row ∈ Srad.Generated.admitTable, row.2.2.2 = .invalid e) := by
  decide +kernel

/-! ### non-vacuity (tests, not the claim) -/

private def mBd : Metric :=
  ⟨some BDSEQ, none, some 5, some 4, none, none, none, none, none, some (.long 7)⟩
private def mX : Metric :=
  ⟨some [0x78], some 3, some 6, some 3, some true, none, none, some "meta",
   some ⟨[[0x6b]], [⟨some 3, none, some (.int 5)⟩]⟩, some (.int 9)⟩
private def pBirth : Payload := ⟨some 100, [mBd, mX], some 0, none, none⟩

example : WfNBirth decodePSet pBirth := by decide
example : LongsAreU64 pBirth.metrics := by
  intro m hm n hv
  simp [pBirth, mBd, mX] at hm
  rcases hm with rfl | rfl <;> simp at hv <;> omega
example : nbirthTryFrom decodePSet pBirth = .ok
    ⟨7, 100, [(⟨BDSEQ, none, .int64⟩, ⟨some (.long 7), none, none, 5, false, false⟩),
              (⟨[0x78], some 3, .int32⟩,
               ⟨some (.int 9), some [([0x6b], ⟨some (.int 5), some .int32⟩)], some "meta", 6, true, false⟩)]⟩ := by
  rfl
example : ¬ WfNBirth decodePSet { pBirth with seq := some 1 } := by decide
example : ¬ WfNBirth decodePSet { pBirth with metrics := [{ mBd with value := some (.int 7) }, mX] } := by decide
example : ¬ WfNBirth decodePSet { pBirth with metrics := [{ mBd with value := some (.long 256) }, mX] } := by decide
example : WfData decodePSet ⟨some 1, [{ mX with name := none }], some 300, none, none⟩ := by decide
example : ndataTryFrom decodePSet ⟨some 1, [{ mX with name := none, properties := none }], some 300, none, none⟩
    = .ok ⟨44, 1, [(.alias 3, ⟨some (.int 9), none, some "meta", 6, true, false⟩)]⟩ := by rfl
example : handleNode decodePSet ⟨[0x67], [0x6e]⟩ .death ⟨none, [], none, none, none⟩
    = some (.invalidPayload ⟨⟨[0x67], [0x6e]⟩, none, .invalidBdseq⟩) := by rfl
example : handleDevice decodePSet ⟨[0x67], [0x6e]⟩ [0x64] .cmd pBirth = none := by rfl
example : Srad.Generated.admitTable.length > 900 := by decide +kernel

end Srad.Admit
