/-
What holds in every reachable state of the edge-node LTS, whatever property is being proved: the shutdown
invariant `P20.Inv` (the node is online while birthed or in a birth; ids of oneshots and of calls waited for are
in range; who has asked for the stop; what the event loop's pc promises) and `P04.UidOk` (a device's uid is its
position). `P20.Inv` is preserved rule by rule: `LoopOk` collects the conjuncts that read the event-loop pc, so a
rule of the event loop states what its target pc asks for and touches the remaining conjuncts only where it
changes their fields.
-/
import SradModel.Proofs.EonRules

namespace Srad.Eon.P20
open Srad.Eon

/-! ### the shutdown invariant -/

@[simp] def stopPhase : LoopPc → Bool
  | .stopCheck | .stopPolling | .stopSendCs _ | .stopAwaitWill _ | .forceSendCs _ | .forceAwaitWill _
  | .sendStopped | .done => true
  | _ => false

@[simp] def stopAw : LoopPc → Option Nat
  | .stopSendCs o | .stopAwaitWill o | .forceSendCs o | .forceAwaitWill o => some o
  | _ => none

@[simp] def willAw : LoopPc → Option Nat
  | .awaitWill o | .stopAwaitWill o | .forceAwaitWill o => some o
  | _ => none

@[simp] def timed : LoopPc → Bool
  | .stopCheck | .stopPolling | .stopSendCs _ | .stopAwaitWill _ => true
  | _ => false

@[simp] def nodeBusy : NodePc → Bool
  | .waitSub _ | .subDone _ | .birthStart _ _ | .waitNb _ _ _ | .nbDone _ _ _ => true
  | _ => false

@[simp] def nodeWait : NodePc → Option Nat
  | .waitSub id | .waitNb id _ _ => some id
  | _ => none

@[simp] def pendOff : LoopPc → Option Nat
  | .sendCs (.offline o) | .stopSendCs o | .forceSendCs o => some o
  | _ => none

structure Inv (s : St) : Prop where
  stop_stopping : s.stop = true → s.stopping = true
  uc_stopping : ∀ u ∈ s.ucalls, u.pc = .cancelStop → s.stopping = true
  phase_stopping : stopPhase s.loop = true → s.stopping = true
  fin_offline : (s.loop = .sendStopped ∨ s.loop = .done) → s.online = false
  aw_offline : ∀ o, stopAw s.loop = some o → ∀ p ∈ s.oneshots, p.1 = o → s.online = false
  os_fresh : ∀ p ∈ s.oneshots, p.1 < s.nextOneshot
  busy_online : nodeBusy s.node = true → s.online = true
  birthed_online : s.birthed = true → s.online = true
  done_running : s.loop = .done → s.running = false
  wait_lt : ∀ id, nodeWait s.node = some id → id < s.calls.length
  dl_some : timed s.loop = true → s.stopDeadline.isSome = true
  aw_reply : ∀ o, willAw s.loop = some o → s.cs = some (.offline o) ∨ ∃ p ∈ s.oneshots, p.1 = o
  ndone : s.node = .done → s.loop = .done
  cs_stopped : s.cs = some .stopped → s.loop = .done
  sendcs_ns : s.loop ≠ .sendCs .stopped
  cs_fresh : ∀ o, s.cs = some (.offline o) → o < s.nextOneshot
  pend_fresh : ∀ o, pendOff s.loop = some o → o < s.nextOneshot

theorem Inv_init (cd : Nat) : Inv (init cd) := by
  constructor <;> simp [init]

/-- an offline node is neither birthed nor subscribing or in a birth -/
theorem Inv.offline {s : St} (hi : Inv s) (ho : s.online = false) : s.birthed = false ∧ nodeBusy s.node = false :=
  ⟨Bool.eq_false_iff.2 fun h => (nomatch ho.symm.trans (hi.birthed_online h)),
   Bool.eq_false_iff.2 fun h => (nomatch ho.symm.trans (hi.busy_online h))⟩

/-- the conjuncts of `Inv` that read the event-loop pc, asked of an arbitrary pc `l`: what a state has to provide
for the event loop to be at `l`. For a given `l` most of them ask nothing, which `nofun` sees. -/
structure LoopOk (s : St) (l : LoopPc) : Prop where
  ndone : s.node = .done → l = .done
  cs_stopped : s.cs = some .stopped → l = .done
  phase_stopping : stopPhase l = true → s.stopping = true := by nofun
  fin_offline : (l = .sendStopped ∨ l = .done) → s.online = false := by nofun
  aw_offline : ∀ o, stopAw l = some o → ∀ p ∈ s.oneshots, p.1 = o → s.online = false := by nofun
  done_running : l = .done → s.running = false := by nofun
  dl_some : timed l = true → s.stopDeadline.isSome = true := by nofun
  aw_reply : ∀ o, willAw l = some o → s.cs = some (.offline o) ∨ ∃ p ∈ s.oneshots, p.1 = o := by nofun
  sendcs_ns : l ≠ .sendCs .stopped := by nofun
  pend_fresh : ∀ o, pendOff l = some o → o < s.nextOneshot := by nofun

theorem stopPhase_of_fin {l : LoopPc} (h : l = .sendStopped ∨ l = .done) : stopPhase l = true := by
  rcases h with rfl | rfl <;> rfl

theorem stopPhase_of_polling {l : LoopPc} (h : PollingOffline l) : stopPhase l = true := by
  rcases h with h | h | ⟨_, h⟩ | ⟨_, h⟩ <;> rw [h] <;> rfl

theorem stopPhase_of_stopAw {l : LoopPc} {o : Nat} (h : stopAw l = some o) : stopPhase l = true := by
  cases l <;> first | rfl | cases h

theorem Inv.stopping_of {s : St} (hi : Inv s) {l : LoopPc} (hpc : s.loop = l) (h : stopPhase l = true) :
    s.stopping = true := hi.phase_stopping (hpc ▸ h)

/-! Creating oneshot `s.nextOneshot`: the replies there are and a pending `Offline` stay below the new bound, the
new oneshot is below it, and no reply can be there yet on the new oneshot. -/

theorem Inv.os_succ {s : St} (hi : Inv s) (p) (hp : p ∈ s.oneshots) : p.1 < s.nextOneshot + 1 :=
  Nat.lt_succ_of_lt (hi.os_fresh p hp)

theorem Inv.cs_succ {s : St} (hi : Inv s) (o) (h : s.cs = some (.offline o)) : o < s.nextOneshot + 1 :=
  Nat.lt_succ_of_lt (hi.cs_fresh o h)

theorem new_cs {n : Nat} (o) (h : some (CS.offline n) = some (.offline o)) : o < n + 1 := by
  cases h; exact Nat.lt_succ_self _

theorem new_pend {n : Nat} (o) (h : some n = some o) : o < n + 1 := by
  cases h; exact Nat.lt_succ_self _

theorem Inv.no_reply {s : St} (hi : Inv s) (o) (h : some s.nextOneshot = some o) (p) (hp : p ∈ s.oneshots)
    (he : p.1 = o) : s.online = false := by
  cases h; exact absurd (hi.os_fresh p hp) (he ▸ Nat.lt_irrefl _)

theorem awaits_cs {o : Nat} {os : List (Nat × Option Nat)} (o') (h : some o = some o') :
    some (CS.offline o) = some (.offline o') ∨ ∃ p ∈ os, p.1 = o' := .inl (by cases h; rfl)

theorem loopOk_loop {s s' : St} {o : List Obs} (hi : Inv s) (h : LoopStep s s' o) : LoopOk s' s'.loop := by
  have hn {l} : s.node = .done → l = LoopPc.done := fun e => absurd (hi.ndone e) h.ne_done
  have hc {l} : s.cs = some .stopped → l = LoopPc.done := fun e => absurd (hi.cs_stopped e) h.ne_done
  have st {l} (hpc : s.loop = l) (hl : stopPhase l = true) {p : Prop} (_ : p) := hi.stopping_of hpc hl
  cases h with
  | start | poll | will | willDropped => exact .mk hn hc
  | stopReq _ hst => exact .mk hn hc (phase_stopping := fun _ => hi.stop_stopping hst) (dl_some := fun _ => rfl)
  | polled _ _ _ _ _ hh =>
    cases hh with
    | online => exact .mk hn nofun
    | offline => exact .mk hn nofun (aw_reply := awaits_cs)
    | offlineBusy => exact .mk hn hc (pend_fresh := new_pend)
    | _ => exact .mk hn hc
  | sendCs m hpc => exact .mk hn fun e => absurd (Option.some.inj e ▸ hpc) hi.sendcs_ns
  | sendCsOffline => exact .mk hn nofun (aw_reply := awaits_cs)
  | stopOffline hpc hoff => exact .mk hn hc (phase_stopping := st hpc rfl) (fin_offline := fun _ => hoff)
  | stopPoll hpc | stopPolled _ _ hpc =>
    exact .mk hn hc (phase_stopping := st hpc rfl) (dl_some := fun h => hi.dl_some (hpc ▸ h))
  | stopPolledOffline _ hpc =>
    exact .mk hn nofun (phase_stopping := st hpc rfl) (aw_offline := hi.no_reply)
      (dl_some := fun h => hi.dl_some (hpc ▸ h)) (aw_reply := awaits_cs)
  | stopPolledOfflineBusy _ _ hpc =>
    exact .mk hn hc (phase_stopping := st hpc rfl) (aw_offline := hi.no_reply)
      (dl_some := fun h => hi.dl_some (hpc ▸ h)) (pend_fresh := new_pend)
  | stopSendCs o hpc | forceSendCs o hpc =>
    exact .mk hn nofun (phase_stopping := st hpc rfl)
      (aw_offline := fun _ h => by cases h; exact hi.aw_offline o (hpc ▸ rfl))
      (dl_some := fun h => hi.dl_some (hpc ▸ h)) (aw_reply := awaits_cs)
  | lastWill o _ hpc hr | lastWillDropped o hpc hr =>
    -- the reply is there, and whoever awaits it in the shutdown phase knows the node offline then
    have ha : stopAw s.loop = some o := by rcases hpc with h | h <;> rw [h] <;> rfl
    exact .mk hn hc (phase_stopping := fun _ => hi.phase_stopping (stopPhase_of_stopAw ha))
      (fin_offline := fun _ => hi.aw_offline o ha _ (reply?_mem hr) rfl)
  | sendStopped hpc =>
    exact .mk (fun _ => rfl) (fun _ => rfl) (phase_stopping := st hpc rfl)
      (fin_offline := fun _ => hi.fin_offline (.inl hpc)) (done_running := fun _ => rfl)

theorem inv_loop {s s' : St} {o : List Obs} (hi : Inv s) (h : LoopStep s s' o) : Inv s' := by
  have hl := loopOk_loop hi h
  cases h with
  | stopReq => exact { hl, hi with stop_stopping := nofun }
  | polled e rest _ hpc _ hh =>
    cases hh with
    | online => exact { hl, hi with cs_fresh := nofun }
    | offline => exact { hl, hi with os_fresh := hi.os_succ, cs_fresh := new_cs }
    | offlineBusy => exact { hl, hi with os_fresh := hi.os_succ, cs_fresh := hi.cs_succ }
    | _ => exact { hl, hi with }
  | sendCs m _ _ hm => exact { hl, hi with cs_fresh := fun o h => absurd (Option.some.inj h) (hm o) }
  | sendCsOffline o hpc | stopSendCs o hpc | forceSendCs o hpc =>
    exact { hl, hi with cs_fresh := fun _ h => by cases h; exact hi.pend_fresh o (hpc ▸ rfl) }
  | stopPolledOffline => exact { hl, hi with os_fresh := hi.os_succ, cs_fresh := new_cs }
  | stopPolledOfflineBusy => exact { hl, hi with os_fresh := hi.os_succ, cs_fresh := hi.cs_succ }
  | sendStopped => exact { hl, hi with cs_fresh := nofun }
  | _ => exact { hl, hi with }

theorem inv_timeout {s s' : St} {o : List Obs} (hi : Inv s) (h : TimeoutStep s s' o) : Inv s' := by
  have hn {l} : s.node = .done → l = LoopPc.done := fun e => absurd (hi.ndone e) h.ne_done
  have hc {l} : s.cs = some .stopped → l = LoopPc.done := fun e => absurd (hi.cs_stopped e) h.ne_done
  have st {p : Prop} (_ : p) : s.stopping = true := by
    cases h <;> (rename_i hp _; exact hi.phase_stopping (stopPhase_of_polling hp))
  cases h with
  | force =>
    refine { (?_ : LoopOk _ _), hi with os_fresh := hi.os_succ, cs_fresh := new_cs }
    exact .mk hn nofun (phase_stopping := st) (aw_offline := hi.no_reply) (aw_reply := awaits_cs)
  | forceBusy =>
    refine { (?_ : LoopOk _ _), hi with os_fresh := hi.os_succ, cs_fresh := hi.cs_succ }
    exact .mk hn hc (phase_stopping := st) (aw_offline := hi.no_reply) (pend_fresh := new_pend)

theorem inv_node {s s' : St} {dec : Dec} {o : List Obs} (hi : Inv s) (h : NodeStep s dec s' o) : Inv s' := by
  -- while the node is not stopping, the event loop is in none of the pcs that ask for `online = false`
  have live (hns : s.stopping = false) {l} (h : stopPhase s.loop = true) : l :=
    nomatch hns.symm.trans (hi.phase_stopping h)
  -- a message other than `Offline` is not what an awaited will reply hangs on
  have awr {m} (hcs : s.cs = some m) (hm : ∀ o, m ≠ .offline o) (o) (h : willAw s.loop = some o) :
      none = some (CS.offline o) ∨ ∃ p ∈ s.oneshots, p.1 = o :=
    .inr ((hi.aw_reply o h).resolve_left fun hc => hm o (Option.some.inj (hcs.symm.trans hc)))
  -- the node answers `Offline o` on oneshot `o`
  have osf {o r} (hcs : s.cs = some (.offline o)) : ∀ p ∈ s.oneshots ++ [(o, r)], p.1 < s.nextOneshot := fun p hp =>
    (List.mem_append.1 hp).elim (hi.os_fresh p) fun h => by cases List.mem_singleton.1 h; exact hi.cs_fresh o hcs
  have awo {o r} (hcs : s.cs = some (.offline o)) (o') (h : willAw s.loop = some o') :
      none = some (CS.offline o') ∨ ∃ p ∈ s.oneshots ++ [(o, r)], p.1 = o' :=
    .inr ((hi.aw_reply o' h).elim (fun hc => ⟨(o, r), by simp, by cases hcs.symm.trans hc; rfl⟩)
      fun ⟨p, hp, he⟩ => ⟨p, List.mem_append_left _ hp, he⟩)
  cases h with
  | onlineStopping _ hcs => exact { hi with aw_reply := awr hcs nofun, cs_stopped := nofun, cs_fresh := nofun }
  | onlineDup _ hcs hns =>
    exact { hi with fin_offline := fun h => live hns (stopPhase_of_fin h)
                    aw_offline := fun _ h => live hns (stopPhase_of_stopAw h)
                    busy_online := fun _ => rfl, birthed_online := fun _ => rfl
                    aw_reply := awr hcs nofun, cs_stopped := nofun, cs_fresh := nofun }
  | onlineSub _ hcs hns =>
    generalize outcome false dec = x
    cases x <;>
    exact { hi with fin_offline := fun h => live hns (stopPhase_of_fin h)
                    aw_offline := fun _ h => live hns (stopPhase_of_stopAw h)
                    busy_online := fun _ => rfl, birthed_online := fun _ => rfl
                    wait_lt := by simp, ndone := nofun
                    aw_reply := awr hcs nofun, cs_stopped := nofun, cs_fresh := nofun }
  | offlineDup o _ hcs hoff =>
    exact { hi with aw_offline := fun _ _ _ _ _ => hoff, os_fresh := osf hcs, aw_reply := awo hcs
                    cs_stopped := nofun, cs_fresh := nofun }
  | offline o hpc hcs =>
    exact { hi with fin_offline := fun _ => rfl, aw_offline := fun _ _ _ _ _ => rfl, os_fresh := osf hcs
                    busy_online := fun h => nomatch (hpc ▸ h : nodeBusy .idle = true)
                    birthed_online := nofun
                    aw_reply := awo hcs, cs_stopped := nofun, cs_fresh := nofun }
  | stopped _ hcs =>
    exact { hi with busy_online := nofun, wait_lt := nofun, aw_reply := awr hcs nofun
                    ndone := fun _ => hi.cs_stopped hcs, cs_stopped := nofun, cs_fresh := nofun }
  | rebirthReq _ _ _ hb | cbRebirth _ _ _ hb =>
    exact { hi with busy_online := fun _ => hi.birthed_online hb, wait_lt := nofun, ndone := nofun }
  | rebirthReqDrop | ncmdBad => exact { hi with }
  | ncmd | subFailed | nbFailed | cbNoRebirth | cbCooldown | cbUnbirthed =>
    exact { hi with busy_online := nofun, wait_lt := nofun, ndone := nofun }
  | subResolved _ _ hpc | subOk hpc | nbResolved _ _ _ _ hpc =>
    exact { hi with busy_online := fun _ => hi.busy_online (hpc ▸ rfl), wait_lt := nofun, ndone := nofun }
  | birthStart bt f hpc =>
    generalize outcome false dec = x
    cases x <;>
    exact { hi with busy_online := fun _ => hi.busy_online (hpc ▸ rfl), birthed_online := nofun
                    wait_lt := by simp, ndone := nofun }
  | nbOk _ _ hpc =>
    exact { hi with busy_online := nofun, birthed_online := fun _ => hi.busy_online (hpc ▸ rfl)
                    wait_lt := nofun, ndone := nofun }

/-- a user call only ever sets `stopping`, sets `stop` only from `cancelStop`, and gets to `cancelStop` only by
setting `stopping` -/
theorem user_stop {s s' : St} {j dec o} (h : UserStep s j dec s' o) :
    (s.stopping = true → s'.stopping = true) ∧
    (s'.stop = true → s.stop = true ∨ ∃ u ∈ s.ucalls, u.pc = .cancelStop) ∧
    (∀ v ∈ s'.ucalls, v.pc = .cancelStop → v ∈ s.ucalls ∨ s'.stopping = true) := by
  have old {u : UCall} {pc : UPc} (hne : pc ≠ .cancelStop) {b : Prop} :
      ∀ v ∈ setUCall { u with pc := pc } s.ucalls, v.pc = .cancelStop → v ∈ s.ucalls ∨ b :=
    fun v hv hp => .inl ((mem_setUCall hv).resolve_right fun e => hne ((congrArg UCall.pc e).symm.trans hp))
  cases h with
  | pubNode u isTry | pubDev u _ isTry => exact ⟨id, .inl, old (by cases outcome isTry dec <;> nofun)⟩
  | cancelStart => exact ⟨fun _ => rfl, .inl, fun _ _ _ => .inr rfl⟩
  | cancelStop u hu _ hp => exact ⟨id, fun _ => .inr ⟨u, List.mem_of_find?_eq_some hu, hp⟩, old (by nofun)⟩
  | _ => exact ⟨id, .inl, old (by nofun)⟩

theorem stim_ucalls {s s' : St} {x o} (h : StimStep s x s' o) : ∀ v ∈ s'.ucalls, v.pc = .cancelStop → v ∈ s.ucalls := by
  cases h with
  | pub | cancel =>
    exact fun v hv hp => (List.mem_append.1 hv).resolve_right fun h => by cases List.mem_singleton.1 h; cases hp
  | _ => exact fun _ hv _ => hv

theorem Inv.step {s s' : St} {o : List Obs} (hi : Inv s) (h : Step s s' o) : Inv s' := by
  have wl (id) (hw : nodeWait s.node = some id) := Nat.lt_of_lt_of_le (hi.wait_lt id hw) h.calls_le
  cases h with
  | loop h => exact inv_loop hi h
  | timeout h => exact inv_timeout hi h
  | node _ h => exact inv_node hi h
  | dev _ _ h => rw [h.frame]; exact { hi with wait_lt := wl }
  | stim _ h =>
    rw [h.frame]
    exact { hi with uc_stopping := fun v hv hp => hi.uc_stopping v (stim_ucalls h v hv hp) hp, wait_lt := wl }
  | user _ _ h =>
    obtain ⟨a, b, c⟩ := user_stop h
    rw [h.frame]
    exact { hi with stop_stopping := fun e => a ((b e).elim hi.stop_stopping fun ⟨u, hu, hp⟩ => hi.uc_stopping u hu hp)
                    uc_stopping := fun v hv hp => (c v hv hp).elim (fun e => a (hi.uc_stopping v e hp)) id
                    phase_stopping := fun e => a (hi.phase_stopping e), wait_lt := wl }

theorem Inv_runAct {s : St} {a : Act} {s' : St} {o : List Obs} (hi : Inv s) (h : runAct s a = some (s', o)) :
    Inv s' := hi.step (.of_runAct h)

theorem Inv_reach {cd : Nat} {acts : List Act} {s : St} {tr : List Obs}
    (h : runActs (init cd) acts = some (s, tr)) : Inv s :=
  runActs_induct (P := fun s _ => Inv s) (Inv_init cd) (fun _ _ _ _ hi h => hi.step h) acts h

end Srad.Eon.P20

namespace Srad.Eon

namespace P04

def UidOk (l : List Dev) : Prop := l.map (·.uid) = List.range l.length

theorem UidOk.nodup {l : List Dev} (h : UidOk l) : (l.map (·.uid)).Nodup := by
  rw [h]; exact List.nodup_range

theorem UidOk.setDev {l : List Dev} (h : UidOk l) (x : Dev) : UidOk (setDev x l) := by
  simp [UidOk, setDev_map_uid, Eon.setDev_length]; exact h

theorem UidOk.pushAll {l : List Dev} (h : UidOk l) (m : NS) : UidOk (pushAll m l) := by
  unfold UidOk at *
  simp only [Srad.Eon.pushAll, List.map_map, List.length_map]
  rw [← h]; apply List.map_congr_left; intro a _; simp; split <;> rfl

theorem UidOk.append {l : List Dev} (h : UidOk l) (x : Dev) (hx : x.uid = l.length) : UidOk (l ++ [x]) := by
  unfold UidOk at *
  simp [List.range_succ, h, hx]

theorem UidOk.step {s s' : St} {o : List Obs} (h : Step s s' o) (hu : UidOk s.devs) : UidOk s'.devs := by
  have birth : ∀ {s s' x bt req dec o}, DevBirth s x bt req dec s' o → UidOk s.devs → UidOk s'.devs :=
    fun h hu => by cases h <;> first | exact hu | exact hu.setDev _
  have death : ∀ {s s' x p td dec o}, DevDeath s x p td dec s' o → UidOk s.devs → UidOk s'.devs :=
    fun h hu => by cases h <;> exact hu.setDev _
  cases h with
  | stim x h => cases h <;> first | exact hu | exact hu.setDev _ | exact hu.append _ rfl
  | loop h =>
    cases h with
    | polled _ _ _ _ _ hh => cases hh <;> first | exact hu | exact hu.setDev _
    | _ => exact hu
  | timeout h => cases h <;> exact hu
  | node dec h => cases h <;> first | exact hu | exact hu.pushAll _
  | dev u dec h =>
    induction h using DevStep.split with
    | birth hb => exact birth hb (hu.setDev _)
    | death hd => exact death hd (hu.setDev _)
    | quiet | cb => exact hu.setDev _
  | user j dec h => cases h <;> exact hu

end P04

end Srad.Eon
