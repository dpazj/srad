/- Every transition of `Model/HostQ` leaves the node table alone (`GInv.silent`) or moves one node
and appends one record about it (`GInv.record`), so the invariant is kept record by record. -/
import SradModel.Model.HostQ
import SradModel.Proofs.Host

namespace Srad.HostQ
open Srad.Host

theorem run_nil (c : Cfg) (s : St) : run c s [] = (s, []) := rfl

/-- only an accepted NBIRTH changes the bdSeq, to the `u8` it carries -/
theorem step_bdseq (c : Cfg) (s : St) (i : In) (now wall : Nat) (h : s.bdseq < 256) (hwf : i.WF) :
    (Host.step c s i now wall).1.bdseq < 256 := by
  have hb : (body c s i now).1.bdseq < 256 := by
    cases i with
    | nbirth ts bd id ans =>
      simp only [body]
      split
      · exact h
      · split
        · exact h
        · exact hwf
    | ndeath bd => simp only [body, (setStale_fields _ now).2.1, (cancelTimer_frame s).bdseq]; exact h
    | rmsg seq ts m =>
      simp only [body, (handleRMsg_spec c s seq ts m now).1.frame.bdseq]; exact h
    | offline => simp only [body, (setStale_fields s now).2.1]; exact h
    | rebirthReq r => exact h
    | timerFire => simp only [body]; split <;> exact h
  rw [step_eq]
  split
  · exact hb
  · rw [(issueRebirth_fields c _ _ now wall).2]; exact hb

theorem run_bdseq (c : Cfg) (evs : List Ev) : ∀ s : St, s.bdseq < 256 → (∀ e ∈ evs, e.inp.WF) →
    (run c s evs).1.bdseq < 256 := by
  induction evs with
  | nil => intro s h _; exact h
  | cons e es ih =>
    intro s h hwf
    rw [run_cons]
    exact ih _ (step_bdseq c s e.inp e.now e.wall h (hwf e (List.mem_cons_self ..)))
      (fun e' he' => hwf e' (List.mem_cons_of_mem _ he'))

theorem getNode_setNode_self (n : Nat) (nd : Node) (L : List (Nat × Node)) :
    getNode n (setNode n nd L) = some nd := by
  induction L with
  | nil => simp [setNode, getNode]
  | cons p t ih => by_cases h : p.1 = n <;> simp [setNode, getNode, h, ih]

theorem getNode_setNode_ne (n k : Nat) (nd : Node) (L : List (Nat × Node)) (h : k ≠ n) :
    getNode k (setNode n nd L) = getNode k L := by
  induction L with
  | nil => simp [setNode, getNode, Ne.symm h]
  | cons p t ih =>
    by_cases h' : p.1 = n
    · simp [setNode, getNode, h', Ne.symm h]
    · simp [setNode, getNode, h', ih]

theorem node_withNode_self (σ : State) (n : Nat) (nd : Node) : (σ.withNode n nd).node n = nd := by
  simp [State.node, State.withNode, getNode_setNode_self]

theorem node_withNode_ne (σ : State) (n k : Nat) (nd : Node) (h : k ≠ n) :
    (σ.withNode n nd).node k = σ.node k := by
  simp [State.node, State.withNode, getNode_setNode_ne _ _ _ _ h]

theorem node_of_get {σ : State} {n : Nat} {nd : Node} (h : getNode n σ.nodes = some nd) :
    σ.node n = nd := by
  simp [State.node, h]

theorem node_of_get_none {σ : State} {n : Nat} (h : getNode n σ.nodes = none) :
    σ.node n = {} := by
  simp [State.node, h]

@[simp] theorem withNode_clock (σ : State) (n : Nat) (nd : Node) : (σ.withNode n nd).clock = σ.clock := rfl
@[simp] theorem withNode_inbox (σ : State) (n : Nat) (nd : Node) : (σ.withNode n nd).inbox = σ.inbox := rfl

theorem effsOf_append (n : Nat) (a b : List Out) : effsOf n (a ++ b) = effsOf n a ++ effsOf n b :=
  List.flatMap_append
theorem histOf_append (n : Nat) (a b : List Out) : histOf n (a ++ b) = histOf n a ++ histOf n b :=
  List.flatMap_append
theorem tookMsgsOf_append (n : Nat) (a b : List Out) :
    tookMsgsOf n (a ++ b) = tookMsgsOf n a ++ tookMsgsOf n b := List.flatMap_append
theorem tookReasonsOf_append (n : Nat) (a b : List Out) :
    tookReasonsOf n (a ++ b) = tookReasonsOf n a ++ tookReasonsOf n b := List.flatMap_append
theorem sentOf_append (n : Nat) (a b : List Out) : sentOf n (a ++ b) = sentOf n a ++ sentOf n b :=
  List.flatMap_append
theorem acceptedOf_append (n : Nat) (a b : List Out) :
    acceptedOf n (a ++ b) = acceptedOf n a ++ acceptedOf n b := List.flatMap_append
theorem plainHistOf_append (n : Nat) (a b : List Out) :
    plainHistOf n (a ++ b) = plainHistOf n a ++ plainHistOf n b := List.flatMap_append

/-- the node a transition's record is about (`created` shows in no projection) -/
def Out.about : Out → Option Nat
  | .created _ => none
  | .enq n _ => some n
  | .offered n _ _ => some n
  | .tookMsg n _ _ _ _ => some n
  | .tookReason n _ _ _ => some n

structure ProjNil (n : Nat) (o : List Out) : Prop where
  effs : effsOf n o = []
  hist : histOf n o = []
  tookMsgs : tookMsgsOf n o = []
  tookReasons : tookReasonsOf n o = []
  sent : sentOf n o = []
  accepted : acceptedOf n o = []
  plain : plainHistOf n o = []

theorem projNil_of_about (n : Nat) (x : Out) (h : x.about ≠ some n) : ProjNil n [x] := by
  cases x with
  | created k => exact ⟨rfl, rfl, rfl, rfl, rfl, rfl, rfl⟩
  | offered k r ok =>
    have hk : k ≠ n := fun e => h (e ▸ rfl)
    cases ok <;> exact ⟨rfl, rfl, rfl, rfl, rfl, by simp [acceptedOf, Out.accepted, hk], rfl⟩
  | enq k m =>
    have hk : k ≠ n := fun e => h (e ▸ rfl)
    exact ⟨rfl, rfl, rfl, rfl, by simp [sentOf, Out.sent, hk], rfl, rfl⟩
  | tookMsg k m t evs effs =>
    have hk : k ≠ n := fun e => h (e ▸ rfl)
    exact ⟨by simp [effsOf, Out.effs, hk], by simp [histOf, Out.hist, hk],
      by simp [tookMsgsOf, Out.tookMsgs, hk], rfl, rfl, rfl, by simp [plainHistOf, Out.plainHist, hk]⟩
  | tookReason k r t effs =>
    have hk : k ≠ n := fun e => h (e ▸ rfl)
    exact ⟨by simp [effsOf, Out.effs, hk], by simp [histOf, Out.hist, hk], rfl,
      by simp [tookReasonsOf, Out.tookReasons, hk], rfl, rfl, by simp [plainHistOf, Out.plainHist, hk]⟩

/-- what ties one node's actor state, queue and rebirth channel to what happened so far:
`H` inputs executed, `E` effects produced, `TM` / `S` messages taken / sent, `TR` / `A` reasons
taken / accepted; `t` the clock -/
structure NInv (c : Cfg) (t : Nat) (st : St) (queue : List QMsg) (pending : Option Reason)
    (H : List Ev) (E : List Eff) (TM S : List QMsg) (TR A : List Reason) : Prop where
  st_eq : st = (run c Host.init H).1
  effs_eq : E = (run c Host.init H).2
  fifo : TM ++ queue = S
  chan : TR ++ pending.toList = A
  hist_ok : ∀ e ∈ H, e.inp.WF ∧ e.now ≤ e.wall ∧ e.wall ≤ t
  sorted : H.Pairwise (fun a b => a.wall ≤ b.wall)
  queue_ok : ∀ m ∈ queue, m.inp.WF ∧ m.disp ≤ t ∧ isMsg m.inp = true
  bd : st.bdseq < 256

theorem hist_snoc {t : Nat} {H evs : List Ev}
    (hok : ∀ e ∈ H, e.inp.WF ∧ e.now ≤ e.wall ∧ e.wall ≤ t)
    (hs : H.Pairwise (fun a b => a.wall ≤ b.wall))
    (hevs : ∀ e ∈ evs, e.inp.WF ∧ e.now ≤ e.wall ∧ e.wall = t) :
    (∀ e ∈ H ++ evs, e.inp.WF ∧ e.now ≤ e.wall ∧ e.wall ≤ t) ∧
    (H ++ evs).Pairwise (fun a b => a.wall ≤ b.wall) := by
  refine ⟨fun e he => ?_, List.pairwise_append.mpr ⟨hs, ?_, fun a ha b hb => ?_⟩⟩
  · rcases List.mem_append.mp he with he | he
    · exact hok e he
    · exact ⟨(hevs e he).1, (hevs e he).2.1, Nat.le_of_eq (hevs e he).2.2⟩
  · refine List.pairwise_iff_forall_sublist.mpr fun hab => ?_
    have ha := hab.subset (List.mem_cons_self ..)
    have hb := hab.subset (List.mem_cons_of_mem _ (List.mem_cons_self ..))
    rw [(hevs _ ha).2.2, (hevs _ hb).2.2]
    exact Nat.le_refl _
  · rw [(hevs b hb).2.2]
    exact (hok a ha).2.2

section NInv
variable {c : Cfg} {t : Nat} {st : St} {queue : List QMsg} {pending : Option Reason}
  {H : List Ev} {E : List Eff} {TM S : List QMsg} {TR A : List Reason}

theorem NInv.init (c : Cfg) (t : Nat) : NInv c t Host.init [] none [] [] [] [] [] [] :=
  ⟨rfl, rfl, rfl, rfl, nofun, .nil, nofun, by decide⟩

theorem NInv.mono {t' : Nat} (h : NInv c t st queue pending H E TM S TR A) (ht : t ≤ t') :
    NInv c t' st queue pending H E TM S TR A :=
  ⟨h.st_eq, h.effs_eq, h.fifo, h.chan,
    fun e he => ⟨(h.hist_ok e he).1, (h.hist_ok e he).2.1, Nat.le_trans (h.hist_ok e he).2.2 ht⟩,
    h.sorted,
    fun m hm => ⟨(h.queue_ok m hm).1, Nat.le_trans (h.queue_ok m hm).2.1 ht, (h.queue_ok m hm).2.2⟩,
    h.bd⟩

theorem NInv.enq (h : NInv c t st queue pending H E TM S TR A) (m : QMsg) (hwf : m.inp.WF)
    (hd : m.disp ≤ t) (hk : isMsg m.inp = true) :
    NInv c t st (queue ++ [m]) pending H E TM (S ++ [m]) TR A :=
  ⟨h.st_eq, h.effs_eq, by rw [← List.append_assoc, h.fifo], h.chan, h.hist_ok, h.sorted,
    fun m' hm' => by
      rcases List.mem_append.mp hm' with hm' | hm'
      · exact h.queue_ok m' hm'
      · rw [List.mem_singleton.mp hm']; exact ⟨hwf, hd, hk⟩,
    h.bd⟩

end NInv

theorem NInv.accept {c : Cfg} {t : Nat} {st : St} {queue : List QMsg}
    {H : List Ev} {E : List Eff} {TM S : List QMsg} {TR A : List Reason}
    (h : NInv c t st queue none H E TM S TR A) (r : Reason) :
    NInv c t st queue (some r) H E TM S TR (A ++ [r]) :=
  ⟨h.st_eq, h.effs_eq, h.fifo, by have := h.chan; simp at this; simp [this], h.hist_ok, h.sorted,
    h.queue_ok, h.bd⟩

theorem actEvs_ok (s : St) (m : QMsg) (t : Nat) (hbd : s.bdseq < 256) (hwf : m.inp.WF)
    (hd : m.disp ≤ t) :
    ∀ e ∈ actEvs s m t, e.inp.WF ∧ e.now ≤ e.wall ∧ e.wall = t := by
  intro e he
  unfold actEvs at he
  split at he
  · rcases List.mem_cons.mp he with rfl | he
    · exact ⟨hbd, hd, rfl⟩
    · split at he
      · rw [List.mem_singleton.mp he]; exact ⟨trivial, Nat.le_refl _, rfl⟩
      · cases he
  · rw [List.mem_singleton.mp he]
    exact ⟨hwf, Nat.le_refl _, rfl⟩

theorem NInv.act {c : Cfg} {t : Nat} {st : St} {queue : List QMsg} {pending : Option Reason}
    {H : List Ev} {E : List Eff} {TM S : List QMsg} {TR A : List Reason}
    (h : NInv c t st queue pending H E TM S TR A) (evs : List Ev)
    (hevs : ∀ e ∈ evs, e.inp.WF ∧ e.now ≤ e.wall ∧ e.wall = t)
    (queue' : List QMsg) (pending' : Option Reason) (TM' : List QMsg) (TR' : List Reason)
    (hq : TM' ++ queue' = S) (hp : TR' ++ pending'.toList = A)
    (hqok : ∀ m ∈ queue', m ∈ queue) :
    NInv c t (run c st evs).1 queue' pending' (H ++ evs) (E ++ (run c st evs).2) TM' S TR' A := by
  obtain ⟨hok, hs⟩ := hist_snoc h.hist_ok h.sorted hevs
  refine ⟨?_, ?_, hq, hp, hok, hs, fun m hm => h.queue_ok m (hqok m hm),
    run_bdseq c evs st h.bd (fun e he => (hevs e he).1)⟩
  · rw [run_append, ← h.st_eq]
  · rw [run_append, ← h.st_eq, ← h.effs_eq]

def NodeInv (c : Cfg) (σ : State) (outs : List Out) (n : Nat) : Prop :=
  NInv c σ.clock (σ.node n).st (σ.node n).queue (σ.node n).pending
    (histOf n outs) (effsOf n outs) (tookMsgsOf n outs) (sentOf n outs)
    (tookReasonsOf n outs) (acceptedOf n outs)

/-- the record of an execution is well formed (`t` = the clock): what an actor step is recorded
to have executed is `actEvs` / the reason, run from the state its earlier inputs led to, at a
clock reading that never decreases -/
inductive Wf (c : Cfg) : Nat → List Out → Prop
  | nil (t : Nat) : Wf c t []
  | mono {t t' : Nat} {outs : List Out} : Wf c t outs → t ≤ t' → Wf c t' outs
  | created {t : Nat} {outs : List Out} (k : Nat) : Wf c t outs → Wf c t (outs ++ [.created k])
  | enq {t : Nat} {outs : List Out} (k : Nat) (m : QMsg) : Wf c t outs → isMsg m.inp = true →
      Wf c t (outs ++ [.enq k m])
  | offered {t : Nat} {outs : List Out} (k : Nat) (r : Reason) (b : Bool) : Wf c t outs →
      Wf c t (outs ++ [.offered k r b])
  | tookMsg {t : Nat} {outs : List Out} (k : Nat) (m : QMsg) : Wf c t outs → isMsg m.inp = true →
      m.inp.WF → m.disp ≤ t →
      Wf c t (outs ++ [.tookMsg k m t (actEvs (run c Host.init (histOf k outs)).1 m t)
        (run c (run c Host.init (histOf k outs)).1 (actEvs (run c Host.init (histOf k outs)).1 m t)).2])
  | tookReason {t : Nat} {outs : List Out} (k : Nat) (r : Reason) : Wf c t outs →
      Wf c t (outs ++ [.tookReason k r t
        (Host.step c (run c Host.init (histOf k outs)).1 (.rebirthReq r) t t).2])

structure GInv (c : Cfg) (σ : State) (outs : List Out) : Prop where
  nodes : ∀ n, NodeInv c σ outs n
  inbox : ∀ ev ∈ σ.inbox, ev.wf = true
  wf : Wf c σ.clock outs

section GInv
variable {c : Cfg} {σ σ' : State} {outs : List Out}

theorem GInv.silent (h : GInv c σ outs) (hn : σ'.nodes = σ.nodes) (hc : σ.clock ≤ σ'.clock)
    (hi : ∀ ev ∈ σ'.inbox, ev.wf = true) : GInv c σ' outs := by
  refine ⟨fun k => ?_, hi, h.wf.mono hc⟩
  have e : σ'.node k = σ.node k := by simp [State.node, hn]
  simpa [NodeInv, e] using (h.nodes k).mono hc

/-- a record shows only in the projections to the node it is about -/
theorem NodeInv.other {n : Nat} (h : NodeInv c σ outs n) (x : Out) (hx : x.about ≠ some n) :
    NodeInv c σ (outs ++ [x]) n := by
  have pn := projNil_of_about n x hx
  simpa [NodeInv, histOf_append, effsOf_append, tookMsgsOf_append, sentOf_append,
    tookReasonsOf_append, acceptedOf_append, pn.effs, pn.hist, pn.tookMsgs, pn.tookReasons,
    pn.sent, pn.accepted] using h

theorem GInv.record (h : GInv c σ outs) (n : Nat) (nd' : Node) (x : Out)
    (habout : x.about = some n) (hwf : Wf c σ.clock (outs ++ [x]))
    (hloc : NodeInv c σ outs n → NInv c σ.clock nd'.st nd'.queue nd'.pending
      (histOf n outs ++ x.hist n) (effsOf n outs ++ x.effs n) (tookMsgsOf n outs ++ x.tookMsgs n)
      (sentOf n outs ++ x.sent n) (tookReasonsOf n outs ++ x.tookReasons n)
      (acceptedOf n outs ++ x.accepted n)) :
    GInv c (σ.withNode n nd') (outs ++ [x]) := by
  refine ⟨fun k => ?_, h.inbox, hwf⟩
  by_cases hk : k = n
  · subst hk
    simpa [NodeInv, node_withNode_self, histOf, effsOf, tookMsgsOf, sentOf, tookReasonsOf,
      acceptedOf] using hloc (h.nodes k)
  · simpa [NodeInv, node_withNode_ne _ _ _ _ hk] using
      (h.nodes k).other x (fun e => hk (Option.some.inj (habout.symm.trans e)).symm)

theorem GInv.created (h : GInv c σ outs) (k : Nat) : GInv c σ (outs ++ [.created k]) :=
  ⟨fun n => (h.nodes n).other _ nofun, h.inbox, h.wf.created k⟩

/-- `get_or_create_node` -/
theorem GInv.pre (h : GInv c σ outs) (n : Nat) :
    GInv c σ (outs ++ if (getNode n σ.nodes).isSome then [] else [.created n]) := by
  split
  · rw [List.append_nil]; exact h
  · exact h.created n

/-- `send().await` completes -/
theorem GInv.enq (h : GInv c σ outs) {q : Nat} (n : Nat) (i : In) (hwf : i.WF) (hk : isMsg i = true)
    {nd' : Node} {o' : List Out} (he : Node.enq q n (σ.node n) ⟨i, σ.clock⟩ = some (nd', o')) :
    GInv c (σ.withNode n nd') (outs ++ o') := by
  unfold Node.enq at he
  split at he
  · cases he
    refine h.record n _ _ rfl (h.wf.enq n _ hk) fun hn => ?_
    simpa [Out.hist, Out.effs, Out.tookMsgs, Out.sent, Out.tookReasons, Out.accepted]
      using hn.enq ⟨i, σ.clock⟩ hwf (Nat.le_refl _) hk
  · cases he

/-- `try_send`; `nd` may differ from node `n` in its timeout task only -/
theorem GInv.offered (h : GInv c σ outs) (n : Nat) (nd : Node) (hst : nd.st = (σ.node n).st)
    (hq : nd.queue = (σ.node n).queue) (hp : nd.pending = (σ.node n).pending) (r : Reason) :
    GInv c (σ.withNode n (offer nd r).1) (outs ++ [.offered n r (offer nd r).2]) := by
  refine h.record n _ _ rfl (h.wf.offered n _ _) fun hn => ?_
  unfold NodeInv at hn
  rw [← hst, ← hq, ← hp] at hn
  unfold offer
  split <;> rename_i h0 <;> rw [h0] at hn
  · simpa [Out.hist, Out.effs, Out.tookMsgs, Out.sent, Out.tookReasons, Out.accepted]
      using hn.accept r
  · simpa [Out.hist, Out.effs, Out.tookMsgs, Out.sent, Out.tookReasons, Out.accepted, h0] using hn

end GInv

theorem actMsg_some {c : Cfg} {t n : Nat} {nd nd' : Node} {o : List Out}
    (h : Node.actMsg c t n nd = some (nd', o)) :
    ∃ m rest, nd.queue = m :: rest ∧
      nd' = { nd with st := (run c nd.st (actEvs nd.st m t)).1, queue := rest,
                      task := taskAfter c t nd.task (run c nd.st (actEvs nd.st m t)).2 } ∧
      o = [.tookMsg n m t (actEvs nd.st m t) (run c nd.st (actEvs nd.st m t)).2] := by
  unfold Node.actMsg at h
  split at h
  · cases h
  · cases h
    exact ⟨_, _, ‹_›, rfl, rfl⟩

theorem actReason_some {c : Cfg} {t n : Nat} {nd nd' : Node} {o : List Out}
    (h : Node.actReason c t n nd = some (nd', o)) :
    ∃ r, nd.pending = some r ∧
      nd' = { nd with st := (Host.step c nd.st (.rebirthReq r) t t).1, pending := none,
                      task := taskAfter c t nd.task (Host.step c nd.st (.rebirthReq r) t t).2 } ∧
      o = [.tookReason n r t (Host.step c nd.st (.rebirthReq r) t t).2] := by
  unfold Node.actReason at h
  split at h
  · cases h
  · cases h
    exact ⟨_, ‹_›, rfl, rfl⟩

theorem onNode_some {σ σ' : State} {n : Nat} {f : Node → Option (Node × List Out)} {o : List Out}
    (h : onNode σ n f = some (σ', o)) :
    ∃ nd', f (σ.node n) = some (nd', o) ∧ σ' = σ.withNode n nd' ∧
      getNode n σ.nodes = some (σ.node n) := by
  unfold onNode at h
  split at h
  · cases h
  · rename_i nd hg
    rw [← node_of_get hg] at h hg
    split at h
    · rename_i nd' o' hf
      cases h
      exact ⟨nd', hf, rfl, hg⟩
    · cases h

section Step
variable {c : Cfg} {q : Nat} {σ σ' : State} {outs o : List Out}

/-- the `rx.recv()` arm, seen from node `n`: its actor runs `actEvs` of the message at the head of its queue -/
theorem actMsg_step {n : Nat} (hs : HostQ.step c q σ (.actMsg n) = some (σ', o)) :
    ∃ m rest, (σ.node n).queue = m :: rest ∧
      (σ'.node n).st = (run c (σ.node n).st (actEvs (σ.node n).st m σ.clock)).1 ∧
      effsOf n o = (run c (σ.node n).st (actEvs (σ.node n).st m σ.clock)).2 := by
  obtain ⟨nd', hf, rfl, _⟩ := onNode_some hs
  obtain ⟨m, rest, hq, rfl, rfl⟩ := actMsg_some hf
  exact ⟨m, rest, hq, by rw [node_withNode_self], by simp [effsOf, Out.effs]⟩

/-- the `rebirth_rx.recv()` arm, seen from node `n` -/
theorem actReason_step {n : Nat} (hs : HostQ.step c q σ (.actReason n) = some (σ', o)) :
    ∃ r, (σ.node n).pending = some r ∧
      (σ'.node n).st = (Host.step c (σ.node n).st (.rebirthReq r) σ.clock σ.clock).1 ∧
      effsOf n o = (Host.step c (σ.node n).st (.rebirthReq r) σ.clock σ.clock).2 := by
  obtain ⟨nd', hf, rfl, _⟩ := onNode_some hs
  obtain ⟨r, hp, rfl, rfl⟩ := actReason_some hf
  exact ⟨r, hp, by rw [node_withNode_self], by simp [effsOf, Out.effs]⟩

theorem dispatchEv_ginv {ev : AppEv}
    (h : GInv c σ outs) (hev : ev.wf = true) (hs : dispatchEv c q σ ev = some (σ', o)) :
    GInv c σ' (outs ++ o) := by
  have hsilent : GInv c σ (outs ++ []) := (List.append_nil outs).symm ▸ h
  cases ev with
  | online => cases hs; rw [List.append_nil]; exact h.silent rfl (Nat.le_refl _) h.inbox
  | offline =>
    simp only [dispatchEv] at hs
    split at hs <;> cases hs
    · rw [List.append_nil]; exact h.silent rfl (Nat.le_refl _) h.inbox
    · exact hsilent
  | invalid n =>
    simp only [dispatchEv] at hs
    split at hs <;> cases hs
    · rw [← List.append_assoc]
      exact (h.pre n).offered n _ rfl rfl rfl _
    · exact hsilent
  | node n i =>
    cases i with
    | nbirth ts bd id ans =>
      simp only [dispatchEv] at hs
      split at hs <;> cases hs
      rw [← List.append_assoc]
      exact (h.pre n).enq n (.nbirth ts bd id ans) (by simpa [AppEv.wf, In.WF] using hev) rfl ‹_›
    | ndeath bd =>
      simp only [dispatchEv] at hs
      split at hs
      · cases hs; exact hsilent
      · rename_i nd hg
        rw [← node_of_get hg] at hs
        split at hs <;> cases hs
        exact h.enq n (.ndeath bd) (by simpa [AppEv.wf, In.WF] using hev) rfl ‹_›
    | rmsg seq ts m =>
      simp only [dispatchEv] at hs
      split at hs
      · rename_i hg
        cases hs
        have hnode : σ.node n = {} := node_of_get_none hg
        rw [List.append_cons]
        exact (h.created n).offered n {} (by rw [hnode]) (by rw [hnode]) (by rw [hnode]) _
      · rename_i nd hg
        rw [← node_of_get hg] at hs
        split at hs <;> cases hs
        exact h.enq n (.rmsg seq ts m) (by simpa [AppEv.wf, In.WF] using hev) rfl ‹_›
    | offline => simp [AppEv.wf] at hev
    | rebirthReq r => simp [AppEv.wf] at hev
    | timerFire => simp [AppEv.wf] at hev

theorem step_ginv (l : Label) (h : GInv c σ outs) (hs : HostQ.step c q σ l = some (σ', o)) :
    GInv c σ' (outs ++ o) := by
  cases l with
  | push ev =>
    simp only [HostQ.step] at hs
    split at hs <;> cases hs
    rw [List.append_nil]
    refine h.silent rfl (Nat.le_refl _) fun e he => ?_
    rcases List.mem_append.mp he with he | he
    · exact h.inbox e he
    · rw [List.mem_singleton.mp he]; assumption
  | tick => cases hs; rw [List.append_nil]; exact h.silent rfl (Nat.le_succ _) h.inbox
  | fire n =>
    obtain ⟨nd', hf, rfl, _⟩ := onNode_some hs
    unfold Node.fire at hf
    split at hf
    · cases hf
    · split at hf <;> cases hf
      exact h.offered n { σ.node n with task := none } rfl rfl rfl .reorderTimeout
  | actReason n =>
    obtain ⟨nd', hf, rfl, _⟩ := onNode_some hs
    obtain ⟨r, hp, rfl, rfl⟩ := actReason_some hf
    have hinv := h.nodes n
    have hchan := hinv.chan
    rw [hp] at hchan
    have := hinv.act [⟨.rebirthReq r, σ.clock, σ.clock⟩]
      (fun e he => by rw [List.mem_singleton.mp he]; exact ⟨trivial, Nat.le_refl _, rfl⟩)
      (σ.node n).queue none (tookMsgsOf n outs) (tookReasonsOf n outs ++ [r]) hinv.fifo
      (by simpa using hchan) (fun m hm => hm)
    rw [run_single] at this
    have hw := Wf.tookReason n r h.wf
    rw [← hinv.st_eq] at hw
    refine h.record n _ _ rfl hw fun _ => ?_
    simpa [Out.hist, Out.effs, Out.tookMsgs, Out.sent, Out.tookReasons, Out.accepted] using this
  | actMsg n =>
    obtain ⟨nd', hf, rfl, _⟩ := onNode_some hs
    obtain ⟨m, rest, hq, rfl, rfl⟩ := actMsg_some hf
    have hinv := h.nodes n
    have hfifo := hinv.fifo
    rw [hq] at hfifo
    have hm := hinv.queue_ok m (by rw [hq]; exact List.mem_cons_self ..)
    have := hinv.act (actEvs (σ.node n).st m σ.clock)
      (actEvs_ok (σ.node n).st m σ.clock hinv.bd hm.1 hm.2.1)
      rest (σ.node n).pending (tookMsgsOf n outs ++ [m]) (tookReasonsOf n outs)
      (by simpa using hfifo) hinv.chan (fun m' hm' => by rw [hq]; exact List.mem_cons_of_mem _ hm')
    have hw := Wf.tookMsg n m h.wf hm.2.2 hm.1 hm.2.1
    rw [← hinv.st_eq] at hw
    refine h.record n _ _ rfl hw fun _ => ?_
    simpa [Out.hist, Out.effs, Out.tookMsgs, Out.sent, Out.tookReasons, Out.accepted] using this
  | offl n =>
    simp only [HostQ.step] at hs
    split at hs
    · split at hs <;> cases hs
      rename_i σ1 o1 hon
      obtain ⟨nd', hf, rfl, _⟩ := onNode_some hon
      have h2 := h.enq n .offline trivial rfl hf
      exact ⟨h2.nodes, h2.inbox, h2.wf⟩
    · cases hs
  | dispatch =>
    simp only [HostQ.step] at hs
    split at hs
    · split at hs
      · cases hs
      · rename_i ev rest hin
        have hmem : ∀ e ∈ rest, e ∈ σ.inbox := fun e he => hin ▸ List.mem_cons_of_mem _ he
        have h0 : GInv c { σ with inbox := rest } outs :=
          ⟨h.nodes, fun e he => h.inbox e (hmem e he), h.wf⟩
        exact dispatchEv_ginv h0 (h.inbox ev (hin ▸ List.mem_cons_self ..)) hs
    · cases hs

theorem reach_ginv {t0 : Nat} (h : Reach c q t0 σ outs) : GInv c σ outs := by
  induction h with
  | init => exact ⟨fun _ => NInv.init c t0, nofun, Wf.nil t0⟩
  | step l _ hs ih => exact step_ginv l ih hs

theorem actor_of_run {t0 : Nat} (h : Reach c q t0 σ outs) (n : Nat) (P : St → List Eff → Prop)
    (hP : ∀ evs, (∀ e ∈ evs, e.inp.WF) → P (run c Host.init evs).1 (run c Host.init evs).2) :
    P (σ.node n).st (effsOf n outs) := by
  have g := (reach_ginv h).nodes n
  rw [g.st_eq, g.effs_eq]
  exact hP _ fun e he => (g.hist_ok e he).1

end Step

theorem issueRebirth_stale_now (c : Cfg) (s : St) (r : Reason) (now now' wall : Nat)
    (h : s.life = .stale) : issueRebirth c s r now wall = issueRebirth c s r now' wall := by
  unfold issueRebirth
  rw [setStale_noop { s with lastRebirth := wall } now (Or.inl h),
    setStale_noop { s with lastRebirth := wall } now' (Or.inl h)]

theorem setStale_life (s : St) (t : Nat) (h : s.birthTs ≤ t ∨ s.life = .stale) :
    (setStale s t).1.life = .stale := by
  rcases h with h | h
  · exact (setStale_marks s t h).1
  · rw [setStale_noop s t (Or.inl h)]; exact h

theorem ndeath_is_one_step (c : Cfg) (s : St) (bd d t : Nat)
    (h : d = t ∨ s.birthTs ≤ d ∨ s.life = .stale) :
    run c s (actEvs s ⟨.ndeath bd, d⟩ t) = Host.step c s (.ndeath bd) d t := by
  by_cases hm : bd = s.bdseq
  · subst hm
    simp only [actEvs, ne_eq, not_true_eq_false, if_false, run_single]
  · -- The first input, the NDEATH with the actor's own bdSeq, is the body of the step on the
    -- NDEATH; the second is that step's rebirth request, made with the reading `t` instead of `d`.
    -- Unless `d = t`, the first input has left the node stale, and a stale node ignores the reading.
    have hiss : issueRebirth c (setStale (cancelTimer s).1 d).1 .outOfSyncBdSeq t t
        = issueRebirth c (setStale (cancelTimer s).1 d).1 .outOfSyncBdSeq d t := by
      rcases h with h | h
      · rw [h]
      · exact issueRebirth_stale_now c _ _ t d t (setStale_life _ d (by rw [cancelTimer_fst]; exact h))
    simp only [actEvs, ne_eq, hm, not_false_eq_true, if_true]
    rw [run_cons, run_single, step_eq c s (.ndeath bd), step_eq c s (.ndeath s.bdseq), step_eq]
    simp [raised, body, hm, hiss]

theorem actEvs_plain (c : Cfg) (s : St) (m : QMsg) (t : Nat)
    (h : ∀ bd, m.inp = .ndeath bd → m.disp = t ∨ s.birthTs ≤ m.disp ∨ s.life = .stale) :
    run c s (actEvs s m t)
      = run c s [⟨m.inp, m.now t, t⟩] := by
  obtain ⟨i, d⟩ := m
  cases i with
  | ndeath bd =>
    rw [run_single]
    exact ndeath_is_one_step c s bd d t (h bd rfl)
  | _ => rfl

theorem DeathsPrompt.left {a b : List Out} (h : DeathsPrompt (a ++ b)) : DeathsPrompt a :=
  fun n bd d t evs effs hx => h n bd d t evs effs (List.mem_append_left _ hx)

theorem snoc_tookMsg (n : Nat) (outs : List Out) (m : QMsg) (t : Nat) (evs : List Ev)
    (effs : List Eff) :
    histOf n (outs ++ [.tookMsg n m t evs effs]) = histOf n outs ++ evs ∧
    plainHistOf n (outs ++ [.tookMsg n m t evs effs]) = plainHistOf n outs ++ [⟨m.inp, m.now t, t⟩] ∧
    tookMsgsOf n (outs ++ [.tookMsg n m t evs effs]) = tookMsgsOf n outs ++ [m] ∧
    tookReasonsOf n (outs ++ [.tookMsg n m t evs effs]) = tookReasonsOf n outs := by
  simp [histOf, plainHistOf, tookMsgsOf, tookReasonsOf, Out.hist, Out.plainHist, Out.tookMsgs,
    Out.tookReasons]

theorem snoc_tookReason (n : Nat) (outs : List Out) (r : Reason) (t : Nat) (effs : List Eff) :
    histOf n (outs ++ [.tookReason n r t effs]) = histOf n outs ++ [⟨.rebirthReq r, t, t⟩] ∧
    plainHistOf n (outs ++ [.tookReason n r t effs]) = plainHistOf n outs ++ [⟨.rebirthReq r, t, t⟩] ∧
    tookMsgsOf n (outs ++ [.tookReason n r t effs]) = tookMsgsOf n outs ∧
    tookReasonsOf n (outs ++ [.tookReason n r t effs]) = tookReasonsOf n outs ++ [r] := by
  simp [histOf, plainHistOf, tookMsgsOf, tookReasonsOf, Out.hist, Out.plainHist, Out.tookMsgs,
    Out.tookReasons]

/-- only the steps of `n`'s own actor show in `n`'s histories; any other record is `quiet` -/
@[elab_as_elim]
theorem Wf.induction_node {c : Cfg} (n : Nat) {motive : Nat → List Out → Prop}
    (nil : ∀ t, motive t [])
    (mono : ∀ {t t' outs}, t ≤ t' → motive t outs → motive t' outs)
    (quiet : ∀ {t outs} (x : Out), histOf n (outs ++ [x]) = histOf n outs →
      plainHistOf n (outs ++ [x]) = plainHistOf n outs →
      tookMsgsOf n (outs ++ [x]) = tookMsgsOf n outs →
      tookReasonsOf n (outs ++ [x]) = tookReasonsOf n outs → motive t outs → motive t (outs ++ [x]))
    (tookMsg : ∀ {t outs} (m : QMsg), isMsg m.inp = true → m.inp.WF → m.disp ≤ t → motive t outs →
      motive t (outs ++ [.tookMsg n m t (actEvs (run c Host.init (histOf n outs)).1 m t)
        (run c (run c Host.init (histOf n outs)).1 (actEvs (run c Host.init (histOf n outs)).1 m t)).2]))
    (tookReason : ∀ {t outs} (r : Reason), motive t outs →
      motive t (outs ++ [.tookReason n r t
        (Host.step c (run c Host.init (histOf n outs)).1 (.rebirthReq r) t t).2]))
    {t : Nat} {outs : List Out} (h : Wf c t outs) : motive t outs := by
  have quiet' : ∀ {t outs} (x : Out), histOf n [x] = [] → plainHistOf n [x] = [] →
      tookMsgsOf n [x] = [] → tookReasonsOf n [x] = [] → motive t outs → motive t (outs ++ [x]) :=
    fun x e1 e2 e3 e4 ih => quiet x (by rw [histOf_append, e1, List.append_nil])
      (by rw [plainHistOf_append, e2, List.append_nil])
      (by rw [tookMsgsOf_append, e3, List.append_nil])
      (by rw [tookReasonsOf_append, e4, List.append_nil]) ih
  have other : ∀ {t outs} (x : Out), x.about ≠ some n → motive t outs → motive t (outs ++ [x]) :=
    fun x hx ih =>
      have pn := projNil_of_about n x hx
      quiet' x pn.hist pn.plain pn.tookMsgs pn.tookReasons ih
  induction h with
  | nil => exact nil _
  | mono _ ht ih => exact mono ht ih
  | created k _ ih => exact quiet' _ rfl rfl rfl rfl ih
  | enq k m _ _ ih => exact quiet' _ rfl rfl rfl rfl ih
  | offered k r b _ ih => exact quiet' _ rfl rfl rfl rfl ih
  | tookMsg k m _ hk hwf hd ih =>
    by_cases hkn : k = n
    · subst hkn; exact tookMsg m hk hwf hd ih
    · exact other _ (fun e => hkn (Option.some.inj e)) ih
  | tookReason k r _ ih =>
    by_cases hkn : k = n
    · subst hkn; exact tookReason r ih
    · exact other _ (fun e => hkn (Option.some.inj e)) ih

theorem wf_plain {c : Cfg} {t : Nat} {outs : List Out} (h : Wf c t outs) (hp : DeathsPrompt outs)
    (n : Nat) : run c Host.init (plainHistOf n outs) = run c Host.init (histOf n outs) := by
  revert hp
  refine Wf.induction_node n ?_ ?_ ?_ ?_ ?_ h
  · exact fun _ _ => rfl
  · exact fun _ ih => ih
  · intro t outs x e1 e2 _ _ ih hp
    rw [e1, e2]
    exact ih hp.left
  · intro t outs m _ _ _ ih hp
    rw [(snoc_tookMsg n outs m t _ _).1, (snoc_tookMsg n outs m t _ _).2.1, run_append, run_append,
      ih hp.left]
    rw [actEvs_plain c _ m t fun bd hbd => Or.inl (by
      obtain ⟨i, d⟩ := m
      cases hbd
      exact hp n bd d t _ _ (List.mem_append_right _ (List.mem_singleton.mpr rfl)))]
  · intro t outs r ih hp
    rw [(snoc_tookReason n outs r t _).1, (snoc_tookReason n outs r t _).2.1, run_append, run_append,
      ih hp.left]

theorem wf_tookMsgs_kind {c : Cfg} {t : Nat} {outs : List Out} (h : Wf c t outs) (n : Nat) :
    ∀ m ∈ tookMsgsOf n outs, isMsg m.inp = true := by
  refine Wf.induction_node n ?_ ?_ ?_ ?_ ?_ h
  · exact fun _ => nofun
  · exact fun _ ih => ih
  · intro t outs x _ _ e _ ih
    rw [e]
    exact ih
  · intro t outs m hk _ _ ih m' hm'
    rw [(snoc_tookMsg n outs m t _ _).2.2.1] at hm'
    rcases List.mem_append.mp hm' with hm' | hm'
    · exact ih m' hm'
    · exact List.mem_singleton.mp hm' ▸ hk
  · intro t outs r ih
    rw [(snoc_tookReason n outs r t _).2.2.1]
    exact ih

theorem msgInputs_append (a b : List Ev) : msgInputs (a ++ b) = msgInputs a ++ msgInputs b := by
  simp [msgInputs]

theorem reasonInputs_append (a b : List Ev) :
    reasonInputs (a ++ b) = reasonInputs a ++ reasonInputs b := by
  simp [reasonInputs]

theorem wf_plainHist {c : Cfg} {t : Nat} {outs : List Out} (h : Wf c t outs) (n : Nat) :
    msgInputs (plainHistOf n outs) = (tookMsgsOf n outs).map (·.inp) ∧
    reasonInputs (plainHistOf n outs) = tookReasonsOf n outs ∧
    (∀ e ∈ plainHistOf n outs, e.inp.WF ∧ e.now ≤ e.wall ∧ e.wall ≤ t) ∧
    (plainHistOf n outs).Pairwise (fun a b => a.wall ≤ b.wall) := by
  refine Wf.induction_node n ?_ ?_ ?_ ?_ ?_ h
  · exact fun _ => ⟨rfl, rfl, nofun, .nil⟩
  · intro t t' outs ht ih
    exact ⟨ih.1, ih.2.1,
      fun e he => ⟨(ih.2.2.1 e he).1, (ih.2.2.1 e he).2.1, Nat.le_trans (ih.2.2.1 e he).2.2 ht⟩,
      ih.2.2.2⟩
  · intro t outs x _ e2 e3 e4 ih
    rw [e2, e3, e4]
    exact ih
  · intro t outs m hkind hwf hd ⟨i1, i2, i3, i4⟩
    obtain ⟨e2, e3, e4⟩ := (snoc_tookMsg n outs m t _ _).2
    rw [e2, e3, e4, msgInputs_append, reasonInputs_append, i1, i2]
    refine ⟨?_, ?_, hist_snoc i3 i4 fun e he => ?_⟩
    · simp [msgInputs, hkind]
    · -- a queued message is not a `rebirthReq`
      cases hi : m.inp <;> simp [reasonInputs]
      rw [hi] at hkind
      cases hkind
    · rw [List.mem_singleton.mp he]
      refine ⟨hwf, ?_, rfl⟩
      simp only [QMsg.now]
      split
      · exact hd
      · exact Nat.le_refl _
  · intro t outs r ⟨i1, i2, i3, i4⟩
    obtain ⟨e2, e3, e4⟩ := (snoc_tookReason n outs r t _).2
    rw [e2, e3, e4, msgInputs_append, reasonInputs_append, i1, i2]
    refine ⟨by simp [msgInputs, isMsg], by simp [reasonInputs], hist_snoc i3 i4 fun e he => ?_⟩
    rw [List.mem_singleton.mp he]
    exact ⟨trivial, Nat.le_refl _, rfl⟩

theorem reach_execL {c : Cfg} {q t0 : Nat} (ls : List Label) :
    ∀ {σ0 σ : State} {outs0 o : List Out}, Reach c q t0 σ0 outs0 →
      execL c q σ0 ls = some (σ, o) → Reach c q t0 σ (outs0 ++ o) := by
  induction ls with
  | nil =>
    intro σ0 σ outs0 o h he
    cases he
    rw [List.append_nil]
    exact h
  | cons l ls ih =>
    intro σ0 σ outs0 o h he
    simp only [execL] at he
    split at he
    · cases he
    · rename_i σ1 o1 hs
      split at he <;> cases he
      rw [← List.append_assoc]
      exact ih (Reach.step l h hs) ‹_›

end Srad.HostQ
