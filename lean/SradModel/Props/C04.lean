/-
C04 — Device births, data and deaths are ordered within each node birth.
-/
import SradModel.Proofs.EonC04

namespace Srad.Eon
open Srad.Eon.P04

/-- **DDATA ordering.** In every execution, for every device: no DDATA is handed over before that
device's DBIRTH of the current node birth has been accepted, nor after its DDEATH.
Hypothesis (the property's own): a device name is re-registered only after its previous
incarnation has finished — at most one live incarnation per name at any time. -/
theorem C04_ddata_ordered (cd : Nat) (acts : List Act) (s : St) (tr : List Obs) (d : Nat)
    (h : runActs (init cd) acts = some (s, tr))
    (hone : ∀ pre, pre <+: acts → ∀ s1 t1, runActs (init cd) pre = some (s1, t1) →
        ((s1.devs.filter fun x => x.name == d && x.pc != .done).length ≤ 1)) :
    ddataOk d .none tr = true := by
  exact (ordered h hone).1

/-- **DDEATH only after DBIRTH.** A DDEATH is only handed over for a device whose latest
lifecycle hand-over on the connection was a DBIRTH.
Hypothesis (the property's own): a device name is re-registered only after its previous
incarnation has finished — stated here as: at most one live incarnation per name at any time. -/
theorem C04_ddeath_after_dbirth (cd : Nat) (acts : List Act) (s : St) (tr : List Obs) (d : Nat)
    (h : runActs (init cd) acts = some (s, tr))
    (hone : ∀ pre, pre <+: acts → ∀ s1 t1, runActs (init cd) pre = some (s1, t1) →
        ((s1.devs.filter fun x => x.name == d && x.pc != .done).length ≤ 1)) :
    ddeathOk d false tr = true := by
  exact (ordered h hone).2

/-- **DBIRTH never for a disabled or unregistered device**: a device-task step that hands a
DBIRTH over leaves that device enabled and registered (it was enabled before the step, or the
step is the one processing the enable request), and the node was online and birthed -/
theorem C04_dbirth_only_enabled_registered (s s' : St) (u : Nat) (dec : Dec) (k : Nat) (o : List Obs)
    (id : Nat) (d : Option Nat) (sq bd : Option Nat) (t : Bool) (dc : Dec)
    (h : (step s (.dev u) dec)[k]? = some (s', o)) (hc : Obs.call id .dbirth d sq bd t dc ∈ o) :
    ∃ x x', findUid u s.devs = some x ∧ findUid u s'.devs = some x' ∧ d = some x.name ∧
      x'.enabled = true ∧ x.registered = true ∧ s.online = true ∧ s.birthed = true := by
  exact dbirth_only_enabled_registered s s' u dec k o id d sq bd t dc h hc

/-- **DBIRTH on enable**: processing an enable request while the node is online and birthed and
the device is registered and not yet birthed hands over exactly one DBIRTH with the next
sequence number -/
theorem C04_enable_births (s : St) (u : Nat) (dec : Dec) (x : Dev) (rest : List HR)
    (hx : findUid u s.devs = some x) (hpc : x.pc = .idle) (hq : x.nsq = []) (hh : x.hq = .enable :: rest)
    (hreg : x.registered = true) (hfl : x.flag = false) (hon : s.online = true) (hb : s.birthed = true) :
    ∃ s' id dc, step s (.dev u) dec = [(s', [.bDev x.name,
        .call id .dbirth (some x.name) (some ((s.seq + 1) % 256)) none false dc])] := by
  exact ⟨_, _, _, (DevStep.enable x rest hx hpc hq hh (.handed rfl hreg (fun _ => hfl) hon hb nofun)).eq⟩

/-- **DDEATH on disable**: processing a disable request while the node is online and birthed and the
device is birthed in the current node birth hands over exactly one DDEATH with the next sequence
number (the counterpart of `C04_enable_births`) -/
theorem C04_disable_deaths (s : St) (u : Nat) (dec : Dec) (x : Dev) (rest : List HR)
    (hx : findUid u s.devs = some x) (hpc : x.pc = .idle) (hq : x.nsq = []) (hh : x.hq = .disable :: rest)
    (hfl : x.flag = true) (hep : x.epoch = s.epoch) (hon : s.online = true) (hb : s.birthed = true) :
    ∃ s' id dc, step s (.dev u) dec = [(s',
        [.call id .ddeath (some x.name) (some ((s.seq + 1) % 256)) none false dc])] := by
  exact ⟨_, _, _, (DevStep.disable x rest hx hpc hq hh (.handed hfl rfl hon hb hep)).eq⟩

/-- **DBIRTH on an explicit device rebirth**: processing a rebirth request while the node is online
and birthed and the device is enabled and registered hands over exactly one DBIRTH with the next
sequence number, whether or not the device is birthed already -/
theorem C04_rebirth_births (s : St) (u : Nat) (dec : Dec) (x : Dev) (rest : List HR)
    (hx : findUid u s.devs = some x) (hpc : x.pc = .idle) (hq : x.nsq = []) (hh : x.hq = .rebirth :: rest)
    (hen : x.enabled = true) (hreg : x.registered = true) (hon : s.online = true) (hb : s.birthed = true) :
    ∃ s' id dc, step s (.dev u) dec = [(s', [.bDev x.name,
        .call id .dbirth (some x.name) (some ((s.seq + 1) % 256)) none false dc])] := by
  exact ⟨_, _, _, (DevStep.rebirth x rest hx hpc hq hh (.handed hen hreg nofun hon hb nofun)).eq⟩

/-- **No request through a handle is ever dropped**: an enable / disable / rebirth request for a
device the handle refers to is appended to that device's request queue whatever the queue already
holds (there is no bound on the number of requests waiting for a busy device task), nothing else
changes and nothing is observed; the device task takes them from the front one at a time
(`stepDev`), so they take effect in the order they were made. -/
theorem C04_request_never_dropped (s : St) (d : Nat) (x : Dev) (hx : findDev d s.devs = some x) :
    applyStim s (.enable d) = ({ s with devs := setDev { x with hq := x.hq ++ [.enable] } s.devs }, []) ∧
    applyStim s (.disable d) = ({ s with devs := setDev { x with hq := x.hq ++ [.disable] } s.devs }, []) ∧
    applyStim s (.drebirth d) = ({ s with devs := setDev { x with hq := x.hq ++ [.rebirth] } s.devs }, []) := by
  simp [applyStim, hx]

/-- non-vacuity of `C04_request_never_dropped` and of the queue discipline: 40 requests made while the
device task is parked in its DBIRTH are all still queued, in order -/
example :
    let x0 : Dev := { uid := 0, name := 1, enabled := true, pc := .waitBirth 0 1 }
    let s0 : St := { (init 0) with online := true, birthed := true, devs := [x0] }
    let reqs : List Stim := (List.range 20).flatMap fun _ => [Stim.disable 1, Stim.enable 1]
    let s := reqs.foldl (fun s r => (applyStim s r).1) s0
    (s.devs.map (·.hq.length)) = [40] ∧ (s.devs.map (·.hq.take 3)) = [[.disable, .enable, .disable]] := by
  decide +kernel

end Srad.Eon
