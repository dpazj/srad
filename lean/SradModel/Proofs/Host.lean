/-
C06/C14: handlers keep `HostInv`, and a handler's effect trace takes the stores from what the old
state records to what the new one records, every data effect guarded (`Sim`); for a step this follows
from `step_eq`. C07: the NCMD of a step (`NcmdSpec`, `step_ncmd`) and what a resequenceable message raises.
-/
import SradModel.Proofs.HostBasic

namespace Srad.Host

/-! ### trace lifecycles -/

theorem nodeLife_cons (l : Life) (e : Eff) (t : List Eff) :
    nodeLife l (e :: t) = nodeLife (nodeLife l [e]) t := by
  cases e <;> try rfl
  case nodeBirth id ok => cases ok <;> rfl

theorem devLife_cons (d : Nat) (l : Life) (e : Eff) (t : List Eff) :
    devLife d l (e :: t) = devLife d (devLife d l [e]) t := by
  cases e <;> try rfl
  case devBirth d' id ok => cases ok <;> simp only [devLife] <;> split <;> rfl
  case devStale d' => simp only [devLife]; split <;> rfl

theorem nodeLife_append (l : Life) (a b : List Eff) :
    nodeLife l (a ++ b) = nodeLife (nodeLife l a) b := by
  induction a generalizing l with
  | nil => rfl
  | cons e t ih => rw [List.cons_append, nodeLife_cons, ih, ← nodeLife_cons]

theorem devLife_append (d : Nat) (l : Life) (a b : List Eff) :
    devLife d l (a ++ b) = devLife d (devLife d l a) b := by
  induction a generalizing l with
  | nil => rfl
  | cons e t ih => rw [List.cons_append, devLife_cons, ih, ← devLife_cons]

/-- `nodeLife` is the identity on these (`devNeutral`: `devLife`) -/
def Eff.nodeNeutral : Eff → Bool
  | .nodeBirth _ true | .nodeStale => false
  | _ => true

def Eff.devNeutral : Eff → Bool
  | .devBirth _ _ true | .devStale _ => false
  | _ => true

def Eff.isData : Eff → Bool
  | .nodeData _ | .devData _ _ => true
  | _ => false

theorem nodeLife_neutral (l : Life) (es : List Eff) (h : ∀ e ∈ es, e.nodeNeutral = true) :
    nodeLife l es = l := by
  induction es with
  | nil => rfl
  | cons e t ih =>
    have he := h e (List.mem_cons_self ..)
    have : nodeLife l [e] = l := by
      cases e <;> try rfl
      case nodeBirth id ok => cases ok <;> first | rfl | cases he
      case nodeStale => cases he
    rw [nodeLife_cons, this, ih (fun e he => h e (List.mem_cons_of_mem _ he))]

theorem devLife_neutral (d : Nat) (l : Life) (es : List Eff) (h : ∀ e ∈ es, e.devNeutral = true) :
    devLife d l es = l := by
  induction es with
  | nil => rfl
  | cons e t ih =>
    have he := h e (List.mem_cons_self ..)
    have : devLife d l [e] = l := by
      cases e <;> try rfl
      case devBirth d' id ok => cases ok <;> first | rfl | cases he
      case devStale => cases he
    rw [devLife_cons, this, ih (fun e he => h e (List.mem_cons_of_mem _ he))]

theorem devLife_map_stale (d : Nat) (l : Life) (L : List (Nat × Life)) :
    devLife d l (L.map fun x => Eff.devStale x.1) =
      if d ∈ L.map Prod.fst then .stale else l := by
  induction L generalizing l with
  | nil => rfl
  | cons a t ih =>
    simp only [List.map_cons, devLife, List.mem_cons]
    by_cases h : a.1 = d
    · simp [h, ih]
    · simp only [h, ih, Ne.symm h, false_or, if_false]

/-- what `DataGuarded` asks of one effect, given the lifecycles before it -/
def okData (ln : Life) (ld : Nat → Life) : Eff → Prop
  | .nodeData _ => ln = .birthed
  | .devData d _ => ln = .birthed ∧ ld d = .birthed
  | _ => True

/-- `DataGuarded`, computed along the trace -/
def Guard : Life → (Nat → Life) → List Eff → Prop
  | _, _, [] => True
  | ln, ld, e :: t => okData ln ld e ∧ Guard (nodeLife ln [e]) (fun d => devLife d (ld d) [e]) t

theorem Guard_append (ln : Life) (ld : Nat → Life) (a b : List Eff) :
    Guard ln ld (a ++ b) ↔
      Guard ln ld a ∧ Guard (nodeLife ln a) (fun d => devLife d (ld d) a) b := by
  induction a generalizing ln ld with
  | nil => simp [Guard, nodeLife, devLife]
  | cons e t ih =>
    simp only [List.cons_append, Guard, ih, ← nodeLife_cons, ← devLife_cons, and_assoc]

theorem Guard_nodata (ln : Life) (ld : Nat → Life) (es : List Eff)
    (h : ∀ e ∈ es, e.isData = false) : Guard ln ld es := by
  induction es generalizing ln ld with
  | nil => trivial
  | cons e t ih =>
    refine ⟨?_, ih _ _ (fun e he => h e (List.mem_cons_of_mem _ he))⟩
    have he := h e (List.mem_cons_self ..)
    cases e <;> first | trivial | cases he

theorem Guard_dataGuarded (ln : Life) (ld : Nat → Life) (es : List Eff) (h : Guard ln ld es) :
    DataGuarded ln ld es := by
  constructor
  · intro pre
    induction pre generalizing ln ld es with
    | nil => intro post id he; subst he; exact h.1
    | cons e pre ih =>
      intro post id he; subst he
      rw [nodeLife_cons]
      exact ih _ _ _ h.2 post id rfl
  · intro pre
    induction pre generalizing ln ld es with
    | nil => intro post d id he; subst he; exact h.1
    | cons e pre ih =>
      intro post d id he; subst he
      rw [nodeLife_cons, devLife_cons]
      exact ih _ _ _ h.2 post d id rfl

/-! ### simulation of the stores' lifecycles by the recorded state -/

theorem devState_all_stale (s : St) (h : ∀ x ∈ s.devices, x.2 = Life.stale) (d : Nat) :
    devState s d = .stale := by
  unfold devState
  cases hf : findDev d s.devices with
  | none => rfl
  | some l => exact h _ (findDev_some_mem d l _ hf)

def Eff.inert (e : Eff) : Bool := e.nodeNeutral && e.devNeutral && !e.isData

/-- the trace `es` takes the stores from what `s` records to what `s'` records, and every data
effect in it is guarded -/
structure Sim (s : St) (es : List Eff) (s' : St) : Prop where
  node : nodeLife s.life es = s'.life
  devs : ∀ d, devLife d (devState s d) es = devState s' d
  guard : Guard s.life (devState s) es

theorem Sim.refl (s : St) : Sim s [] s := ⟨rfl, fun _ => rfl, trivial⟩

theorem Sim.trans {s s1 s2 : St} {a b : List Eff} (h1 : Sim s a s1) (h2 : Sim s1 b s2) :
    Sim s (a ++ b) s2 := by
  obtain ⟨hn1, hd1, hg1⟩ := h1
  obtain ⟨hn2, hd2, hg2⟩ := h2
  have hf : (fun d => devLife d (devState s d) a) = devState s1 := funext hd1
  refine ⟨?_, ?_, ?_⟩
  · rw [nodeLife_append, hn1, hn2]
  · intro d; rw [devLife_append, hd1, hd2]
  · rw [Guard_append, hn1, hf]; exact ⟨hg1, hg2⟩

theorem Sim_inert (s s' : St) (es : List Eff) (hl : s'.life = s.life)
    (hd : s'.devices = s.devices) (h : ∀ e ∈ es, e.inert = true) : Sim s es s' := by
  have h' : ∀ e ∈ es, e.nodeNeutral = true ∧ e.devNeutral = true ∧ e.isData = false := by
    intro e he; simpa [Eff.inert, and_assoc] using h e he
  refine ⟨?_, fun d => ?_, Guard_nodata _ _ _ (fun e he => (h' e he).2.2)⟩
  · rw [nodeLife_neutral _ _ (fun e he => (h' e he).1), hl]
  · rw [devLife_neutral _ _ _ (fun e he => (h' e he).2.1), devState, devState, hd]

theorem Sim_node (s s' : St) (e : Eff) (he : e.devNeutral = true) (hn : e.isData = false)
    (hl : nodeLife s.life [e] = s'.life) (hd : s'.devices = s.devices) : Sim s [e] s' :=
  ⟨hl, fun d => by rw [devLife_neutral _ _ _ (by simpa using he), devState, devState, hd],
    Guard_nodata _ _ _ (by simpa using hn)⟩

theorem Sim_devStale (s s' : St) (L : List (Nat × Life)) (hl : s'.life = s.life)
    (hs : ∀ d, devState s' d = .stale) (hL : ∀ d, devState s d = .birthed → d ∈ L.map Prod.fst) :
    Sim s (L.map fun x => Eff.devStale x.1) s' := by
  have hmem : ∀ e ∈ L.map fun x => Eff.devStale x.1, e.nodeNeutral = true ∧ e.isData = false := by
    intro e he; obtain ⟨x, _, rfl⟩ := List.mem_map.mp he; exact ⟨rfl, rfl⟩
  refine ⟨?_, fun d => ?_, Guard_nodata _ _ _ (fun e he => (hmem e he).2)⟩
  · rw [nodeLife_neutral _ _ (fun e he => (hmem e he).1), hl]
  · rw [devLife_map_stale, hs]
    split
    · rfl
    · cases h : devState s d with
      | stale => rfl
      | birthed => exact absurd (hL d h) (by assumption)

theorem devState_map_stale (s s' : St) (h : s'.devices = s.devices.map fun d => (d.1, Life.stale))
    (d : Nat) : devState s' d = .stale :=
  devState_all_stale s' (by rw [h]; exact mem_map_stale _) d

/-! ### the invariant and the simulation, handler by handler -/

theorem setStale_sim (s : St) (t : Nat) : Sim s (setStale s t).2 (setStale s t).1 := by
  rcases setStale_cases s t with h | ⟨_, _, h⟩ <;> rw [h]
  · exact Sim.refl s
  · refine ((Sim_inert s s _ rfl rfl (fun e he => ?_)).trans
      (Sim_node s { s with life := .stale } .nodeStale rfl rfl rfl rfl)).trans
      (Sim_devStale _ _ s.devices rfl (devState_map_stale _ _ rfl)
        (fun d hd => ?_))
    · rw [cancelTimer_snd _ e he]; rfl
    · cases hf : findDev d s.devices with
      | none => simp [devState, hf] at hd
      | some l => exact findDev_some_mem_fst d l _ hf

theorem setStale_inv (s : St) (t : Nat) (h : HostInv s) : HostInv (setStale s t).1 := by
  rcases setStale_cases s t with h' | ⟨h1, _, h'⟩ <;> rw [h']
  · exact h
  · exact ⟨Reseq.init_inv, fun _ => ⟨rfl, rfl, mem_map_stale _⟩, by rw [map_fst_map_stale]; exact h.2.2⟩

theorem issueRebirth_sim (c : Cfg) (s : St) (r : Reason) (now wall : Nat) :
    Sim s (issueRebirth c s r now wall).2 (issueRebirth c s r now wall).1 := by
  rcases issueRebirth_cases c s r now wall with h | ⟨_, _, h⟩ <;> rw [h]
  · exact Sim.refl s
  · have h1 : Sim s [] { s with lastRebirth := wall } := Sim_inert _ _ _ rfl rfl (by simp)
    exact (h1.trans (setStale_sim _ now)).trans (Sim_inert _ _ [.ncmd] rfl rfl (by simp only [List.mem_singleton, forall_eq]; rfl))

theorem issueRebirth_inv (c : Cfg) (s : St) (r : Reason) (now wall : Nat) (h : HostInv s) :
    HostInv (issueRebirth c s r now wall).1 := by
  rcases issueRebirth_cases c s r now wall with h' | ⟨_, _, h'⟩ <;> rw [h']
  · exact h
  · exact setStale_inv _ _ h

/-- what handling a resequenceable message does, before any rebirth request -/
structure Rel (s : St) (es : List Eff) (s' : St) : Prop where
  frame : Frame s s'
  /-- no device is forgotten: a later staleness reaches every device's store (`rebirth_marks`) -/
  devs : ∀ d ∈ s.devices.map Prod.fst, d ∈ s'.devices.map Prod.fst
  plain : ∀ e ∈ es, e.plain = true
  sim : Sim s es s'

theorem Rel.refl (s : St) : Rel s [] s := ⟨Frame.refl s, fun _ h => h, by simp, Sim.refl s⟩

theorem Rel.trans {s s1 s2 : St} {a b : List Eff} (h1 : Rel s a s1) (h2 : Rel s1 b s2) :
    Rel s (a ++ b) s2 :=
  ⟨h1.frame.trans h2.frame, fun d hd => h2.devs d (h1.devs d hd),
    fun e he => (List.mem_append.mp he).elim (h1.plain e) (h2.plain e), h1.sim.trans h2.sim⟩

theorem Rel.timer {s0 s s' : St} {acc : List Eff} (h : Rel s0 acc s) (hf : Frame s s')
    (hd : s'.devices = s.devices) (te : List Eff)
    (hte : ∀ e ∈ te, e = Eff.timerCancel ∨ e = Eff.timerStart) : Rel s0 (acc ++ te) s' := by
  refine h.trans ⟨hf, by rw [hd]; exact fun _ h => h, fun e he => ?_,
    Sim_inert _ _ _ hf.life hd (fun e he => ?_)⟩ <;>
  · rcases hte e he with rfl | rfl <;> rfl

theorem Rel.reseq {s0 s : St} {acc : List Eff} (h : Rel s0 acc s) (r' : Reseq.St (Nat × RMsg)) :
    Rel s0 acc { s with reseq := r' } := by
  simpa using h.timer (Frame.upd s r' _ _) rfl [] (by simp)

theorem devState_setDev (s' : St) (d : Nat) (l : Life) (L : List (Nat × Life))
    (hL : findDev d L ≠ none) (hd : s'.devices = setDev d l L) (d' : Nat) :
    devState s' d' = if d' = d then l else (findDev d' L).getD .stale := by
  unfold devState
  rw [hd]
  split
  · rename_i h; subst h
    rw [findDev_setDev_self]
    cases hf : findDev d' L with
    | none => exact absurd hf hL
    | some x => rfl
  · rename_i h; rw [findDev_setDev_ne _ _ _ _ h]

/-- `L` is `s.devices`, with `d` added (after the `devCreated` in `pre`) if it was unknown -/
theorem sim_devBirth (s : St) (d id : Nat) (L : List (Nat × Life)) (pre : List Eff)
    (hpre : ∀ e ∈ pre, e.inert = true) (hL : findDev d L ≠ none)
    (hs : ∀ d', (findDev d' L).getD .stale = devState s d') (b : Bool) (s' : St)
    (hd : s'.devices = if b then setDev d .birthed L else L) :
    (∀ d', devLife d' (devState s d') (pre ++ [Eff.devBirth d id b]) = devState s' d') ∧
    Guard s.life (devState s) (pre ++ [Eff.devBirth d id b]) := by
  have hpre' : ∀ e ∈ pre, e.devNeutral = true ∧ e.isData = false := by
    intro e he; have := hpre e he; simp only [Eff.inert, Bool.and_eq_true] at this
    exact ⟨this.1.2, by simpa using this.2⟩
  refine ⟨fun d' => ?_, Guard_nodata _ _ _ (fun e he => ?_)⟩
  · rw [devLife_append, devLife_neutral _ _ _ (fun e he => (hpre' e he).1)]
    cases b with
    | false =>
      simp only [devLife]
      rw [← hs d', devState, hd]; rfl
    | true =>
      rw [devState_setDev s' d .birthed L hL hd d', ← hs d']
      simp only [devLife]
      by_cases h : d = d'
      · simp [h]
      · simp [h, Ne.symm h]
  · rcases List.mem_append.mp he with he | he
    · exact (hpre' e he).2
    · rw [List.mem_singleton.mp he]; rfl

theorem apply_rel (s : St) (m : RMsg) (hb : s.life = .birthed) :
    Rel s (apply s m).2.1 (apply s m).1 := by
  -- frame, plain effects and the node's lifecycle do not depend on the message; the devices do
  have hpl := fun e he => (apply_eff s m e he).1
  have hnl : nodeLife s.life (apply s m).2.1 = (apply s m).1.life := by
    rw [(apply_frame s m).life]
    refine nodeLife_neutral _ _ (fun e he => ?_)
    have := hpl e he
    cases e <;> first | rfl | cases this
  suffices (∀ d ∈ s.devices.map Prod.fst, d ∈ (apply s m).1.devices.map Prod.fst) ∧
      (∀ d, devLife d (devState s d) (apply s m).2.1 = devState (apply s m).1 d) ∧
      Guard s.life (devState s) (apply s m).2.1 from
    ⟨apply_frame s m, this.1, hpl, hnl, this.2.1, this.2.2⟩
  -- no store is touched when nothing changes (`unchanged`); data is guarded by `hb` (and `hf`)
  have unchanged : (∀ d ∈ s.devices.map Prod.fst, d ∈ s.devices.map Prod.fst) ∧
      (∀ d, devLife d (devState s d) [] = devState s d) ∧ Guard s.life (devState s) [] :=
    ⟨fun _ h => h, fun _ => rfl, trivial⟩
  cases m with
  | ndata id ans => exact ⟨fun _ h => h, fun _ => rfl, by simp [apply, Guard, okData, hb]⟩
  | dbirth d id ans =>
    cases hf : findDev d s.devices with
    | some l =>
      have hx := sim_devBirth s d id s.devices [] (by simp) (by simp [hf]) (fun _ => rfl)
      by_cases ha : ans = .ok <;> simp only [apply, hf, ha, if_true, if_false]
      · exact ⟨by rw [map_fst_setDev]; exact fun _ h => h, hx true _ rfl⟩
      · exact ⟨fun _ h => h, hx false _ rfl⟩
    | none =>
      have hx := sim_devBirth s d id (s.devices ++ [(d, .stale)]) [.devCreated d]
        (by simp only [List.mem_singleton, forall_eq]; rfl) (by simp [findDev_append_single, hf])
        (fun d' => by
          simp only [findDev_append_single, devState]
          cases findDev d' s.devices <;> simp
          split <;> rfl)
      have hn : ∀ x ∈ s.devices.map Prod.fst, x ∈ (s.devices ++ [(d, Life.stale)]).map Prod.fst :=
        fun x hx => by rw [List.map_append]; exact List.mem_append_left _ hx
      by_cases ha : ans = .ok <;> simp only [apply, hf, ha, if_true, if_false]
      · exact ⟨by rw [map_fst_setDev]; exact hn, hx true _ rfl⟩
      · exact ⟨hn, hx false _ rfl⟩
  | ddeath d id =>
    simp only [apply]
    cases hf : findDev d s.devices with
    | none => exact unchanged
    | some l =>
      refine ⟨by simp [map_fst_setDev], fun d' => ?_, by simp [Guard, okData]⟩
      rw [devState_setDev { s with devices := setDev d .stale s.devices } d .stale s.devices
        (by simp [hf]) rfl d']
      simp only [devLife, devState]
      by_cases hd : d = d'
      · simp [hd]
      · simp [hd, Ne.symm hd]
  | ddata d id ans =>
    simp only [apply]
    cases hf : findDev d s.devices with
    | none => exact unchanged
    | some l =>
      cases l with
      | stale => exact unchanged
      | birthed => exact ⟨fun _ h => h, fun _ => rfl, by simp [Guard, okData, hb, devState, hf]⟩

/-- the part of `HostInv` that does not depend on the lifecycle -/
def RInv (s : St) : Prop := Reseq.Inv s.reseq ∧ (s.devices.map Prod.fst).Nodup

theorem apply_rinv (s : St) (m : RMsg) (h : RInv s) : RInv (apply s m).1 := by
  refine ⟨by rw [apply_reseq]; exact h.1, ?_⟩
  replace h := h.2
  cases m with
  | ndata id ans => exact h
  | dbirth d id ans =>
    simp only [apply]
    cases hf : findDev d s.devices with
    | some l => by_cases ha : ans = .ok <;> simp [ha, map_fst_setDev, h]
    | none =>
      have hn := (findDev_eq_none d s.devices).mp hf
      have : (s.devices.map Prod.fst ++ [d]).Nodup := by
        rw [List.nodup_append]
        refine ⟨h, by simp, fun a ha b hb hab => ?_⟩
        rw [List.mem_singleton.mp hb] at hab
        exact hn (hab ▸ ha)
      by_cases ha : ans = .ok <;> simpa [ha, map_fst_setDev] using this
  | ddeath d id =>
    simp only [apply]
    split
    · exact h
    · simp [map_fst_setDev, h]
  | ddata d id ans =>
    simp only [apply]
    split <;> exact h

theorem applyAll_rel (s : St) (l : List RMsg) (hb : s.life = .birthed) :
    Rel s (applyAll s l).2.1 (applyAll s l).1 ∧ (RInv s → RInv (applyAll s l).1) := by
  induction l generalizing s with
  | nil => exact ⟨Rel.refl s, id⟩
  | cons m t ih =>
    have h1 := apply_rel s m hb
    rw [applyAll_cons]
    split
    · obtain ⟨i1, i2⟩ := ih (apply s m).1 (h1.frame.life.trans hb)
      exact ⟨h1.trans i1, fun h => i2 (apply_rinv s m h)⟩
    · exact ⟨h1, apply_rinv s m⟩

theorem handleRMsg_spec (c : Cfg) (s : St) (seq ts : Nat) (m : RMsg) (now : Nat) :
    Rel s (handleRMsg c s seq ts m now).2.1 (handleRMsg c s seq ts m now).1 ∧
    (HostInv s → seq < 256 → HostInv (handleRMsg c s seq ts m now).1) := by
  rcases handleRMsg_cases c s seq ts m now with ⟨_, he⟩ | ⟨_, _, he⟩ | ⟨hf, hl, hres⟩
  · rw [he]; exact ⟨Rel.refl s, fun h _ => h⟩
  · rw [he]; exact ⟨Rel.refl s, fun h _ => h⟩
  -- from here on the node is held birthed, so `HostInv` is `RInv`
  suffices Rel s (handleRMsg c s seq ts m now).2.1 (handleRMsg c s seq ts m now).1 ∧
      (RInv s → seq < 256 → RInv (handleRMsg c s seq ts m now).1) from
    ⟨this.1, fun h hs => have r := this.2 ⟨h.1, h.2.2⟩ hs
      ⟨r.1, fun hst => (by rw [this.1.frame.life, hl] at hst; cases hst), r.2⟩⟩
  rcases hres with ⟨_, he⟩ | hres
  · rw [he]; exact ⟨apply_rel s m hl, fun h _ => apply_rinv s m h⟩
  have hinv : RInv s → seq < 256 → RInv { s with reseq := (Reseq.process s.reseq seq (seq, m)).1 } :=
    fun h hs => ⟨Reseq.process_inv s.reseq seq m h.1 hs, h.2⟩
  rcases handleRMsg_char c s seq ts m now hf hl hres with
    ⟨r', hp, he, _⟩ | ⟨r', hp, he, _⟩ | ⟨r', ms, r1, hp, hch, hstop, he, _⟩ <;> rw [he] <;> rw [hp] at hinv
  · exact ⟨(Rel.refl s).reseq r', hinv⟩
  · split
    · have := ((Rel.refl s).reseq r').timer (s' := (startTimer c { s with reseq := r' } now).1)
        (by rw [startTimer_fst_eq]; exact Frame.upd _ _ _ _) (by rw [startTimer_fst_eq])
        (startTimer c { s with reseq := r' } now).2 (fun e he => Or.inr (startTimer_snd _ _ _ e he))
      rw [List.nil_append] at this
      exact ⟨this, fun h hs => by rw [startTimer_fst_eq]; exact hinv h hs⟩
    · exact ⟨(Rel.refl s).reseq r', hinv⟩
  · -- the messages are applied (`applyAll_rel`), then only the resequencer and the timer move
    obtain ⟨ha, hai⟩ := applyAll_rel s (m :: ms.map (·.2)) hl
    obtain ⟨te, he, hte⟩ := drained_effs c now (!ms.isEmpty) s [] (m :: ms.map (·.2)) r1
    refine ⟨?_, fun h hs => ⟨?_, by rw [drained_fst]; exact (hai h).2⟩⟩
    · rw [he, drained_fst, List.nil_append]
      generalize (drained c now (!ms.isEmpty) s [] (m :: ms.map (·.2)) r1).1.timer = tm
      exact (ha.reseq _).timer (s' := { s with reseq := _, devices := _, timer := tm })
        ⟨ha.frame.life.symm, ha.frame.birthTs.symm, ha.frame.staleTs.symm, ha.frame.bdseq.symm,
          ha.frame.lastRebirth.symm⟩ rfl te hte
    · have hi := (hch.inv (hinv h hs).1).1
      rw [drained_reseq_eq hi hstop]
      exact hi

theorem body_spec (c : Cfg) (s : St) (i : In) (now : Nat) (h : HostInv s) (hwf : i.WF) :
    HostInv (body c s i now).1 ∧ Sim s (body c s i now).2 (body c s i now).1 := by
  cases i with
  | nbirth ts bd id ans =>
    simp only [body]
    split
    · exact ⟨h, Sim.refl s⟩
    split
    · exact ⟨h, Sim_inert s s _ rfl rfl (by simp only [List.mem_singleton, forall_eq]; rfl)⟩
    · refine ⟨⟨by simp [Reseq.Inv, Reseq.setNext, Reseq.init], fun hs => (by cases hs), by rw [map_fst_map_stale]; exact h.2.2⟩, ?_⟩
      -- the node's store is told the birth, then the devices held birthed are told they are stale
      refine ((Sim_node s { s with life := .birthed } (.nodeBirth id true) rfl rfl rfl rfl).trans
        (Sim_inert _ _ _ rfl rfl (fun e he => by rw [cancelTimer_snd s e he]; rfl))).trans
        (Sim_devStale _ _ _ rfl (devState_map_stale _ _ rfl) (fun d hd => ?_))
      cases hf : findDev d s.devices with
      | none => simp [devState, hf] at hd
      | some l =>
        have : l = .birthed := by simpa [devState, hf] using hd
        exact List.mem_map.mpr ⟨(d, l), List.mem_filter.mpr ⟨findDev_some_mem d l _ hf, by simp [this]⟩, rfl⟩
  | ndeath bd =>
    have hc : HostInv (cancelTimer s).1 := by
      rw [cancelTimer_fst]
      exact ⟨h.1, fun hs => ⟨(h.2.1 hs).1, rfl, (h.2.1 hs).2.2⟩, h.2.2⟩
    exact ⟨setStale_inv _ now hc, (Sim_inert _ _ _ (cancelTimer_frame s).life (cancelTimer_devices s)
      (fun e he => by rw [cancelTimer_snd s e he]; rfl)).trans (setStale_sim _ now)⟩
  | rmsg seq ts m =>
    obtain ⟨h1, h2⟩ := handleRMsg_spec c s seq ts m now
    exact ⟨h2 h hwf, h1.sim⟩
  | offline => exact ⟨setStale_inv s now h, setStale_sim s now⟩
  | rebirthReq r => exact ⟨h, Sim.refl s⟩
  | timerFire =>
    simp only [body]
    split
    · rename_i d ht
      exact ⟨⟨h.1, fun hs => (by have := (h.2.1 hs).2.1; rw [ht] at this; cases this), h.2.2⟩,
        Sim_inert _ _ _ rfl rfl (by simp)⟩
    · exact ⟨h, Sim.refl s⟩

theorem step_spec (c : Cfg) (s : St) (i : In) (now wall : Nat) (h : HostInv s) (hwf : i.WF) :
    HostInv (step c s i now wall).1 ∧ Sim s (step c s i now wall).2 (step c s i now wall).1 := by
  obtain ⟨h1, s1⟩ := body_spec c s i now h hwf
  rw [step_eq]
  cases raised c s i now with
  | none => exact ⟨h1, s1⟩
  | some r => exact ⟨issueRebirth_inv c _ r now wall h1, s1.trans (issueRebirth_sim c _ r now wall)⟩

theorem run_spec (c : Cfg) (evs : List Ev) :
    ∀ (s : St), HostInv s → (∀ e ∈ evs, e.inp.WF) →
      HostInv (run c s evs).1 ∧ Sim s (run c s evs).2 (run c s evs).1 := by
  induction evs with
  | nil => intro s h _; exact ⟨h, Sim.refl s⟩
  | cons e es ih =>
    intro s h hwf
    rw [run_cons]
    obtain ⟨h1, s1⟩ := step_spec c s e.inp e.now e.wall h (hwf e (List.mem_cons_self ..))
    obtain ⟨h2, s2⟩ := ih _ h1 (fun e' he' => hwf e' (List.mem_cons_of_mem _ he'))
    exact ⟨h2, s1.trans s2⟩

theorem init_inv : HostInv init :=
  ⟨Reseq.init_inv, fun _ => ⟨rfl, rfl, by simp [init]⟩, by simp [init]⟩

theorem devState_init : devState init = fun _ => Life.stale := rfl

theorem Eff.staleish_not_data (e : Eff) (h : e.staleish = true) : e.isData = false := by
  cases e <;> first | rfl | cases h

theorem body_eff (c : Cfg) (s : St) (i : In) (now : Nat) :
    ∀ e ∈ (body c s i now).2, e ≠ Eff.ncmd ∧ (s.life = .stale → e.isData = false) := by
  have hstale : ∀ t (e : Eff), e ∈ (setStale t now).2 → e ≠ Eff.ncmd ∧ (s.life = .stale → e.isData = false) :=
    fun t e he => ⟨(setStale_staleish t now e he).2, fun _ => Eff.staleish_not_data e (setStale_staleish t now e he).1⟩
  have hcancel : ∀ e ∈ (cancelTimer s).2, e ≠ Eff.ncmd ∧ (s.life = .stale → e.isData = false) :=
    fun e he => by rw [cancelTimer_snd s e he]; exact ⟨by simp, fun _ => rfl⟩
  intro e hm
  cases i with
  | nbirth ts bd id ans =>
    simp only [body] at hm
    split at hm
    · cases hm
    split at hm
    · rw [List.mem_singleton.mp hm]; exact ⟨by simp, fun _ => rfl⟩
    · simp only [List.mem_append, List.mem_map, List.mem_singleton] at hm
      rcases hm with (rfl | hm) | ⟨x, _, rfl⟩
      · exact ⟨by simp, fun _ => rfl⟩
      · exact hcancel e hm
      · exact ⟨by simp, fun _ => rfl⟩
  | ndeath bd => exact (List.mem_append.mp hm).elim (hcancel e) (hstale _ e)
  | rmsg seq ts m =>
    have hm' : e ∈ (handleRMsg c s seq ts m now).2.1 := hm
    refine ⟨fun h => ?_, fun hst => ?_⟩
    · rw [h] at hm'; cases (handleRMsg_spec c s seq ts m now).1.plain _ hm'
    · rw [(handleRMsg_stale c s seq ts m now hst).2.1] at hm'; cases hm'
  | offline => exact hstale s e hm
  | rebirthReq r => cases hm
  | timerFire => simp only [body] at hm; split at hm <;> cases hm

theorem body_no_ncmd (c : Cfg) (s : St) (i : In) (now : Nat) : Eff.ncmd ∉ (body c s i now).2 :=
  fun h => (body_eff c s i now _ h).1 rfl

theorem body_lastRebirth (c : Cfg) (s : St) (i : In) (now : Nat) :
    (body c s i now).1.lastRebirth = s.lastRebirth := by
  cases i with
  | nbirth ts bd id ans =>
    simp only [body]
    split
    · rfl
    · split <;> rfl
  | ndeath bd => exact ((setStale_fields _ now).2.2).trans (cancelTimer_frame s).lastRebirth
  | rmsg seq ts m => exact (handleRMsg_spec c s seq ts m now).1.frame.lastRebirth
  | offline => exact (setStale_fields s now).2.2
  | rebirthReq r => rfl
  | timerFire => simp only [body]; split <;> rfl

theorem stale_no_data (c : Cfg) (s : St) (i : In) (now wall : Nat) (hst : s.life = .stale) :
    ∀ e ∈ (step c s i now wall).2, e.isData = false := by
  have hbody := fun e he => (body_eff c s i now e he).2 hst
  rw [step_eq]
  cases raised c s i now with
  | none => exact hbody
  | some r =>
    intro e hm
    rcases List.mem_append.mp hm with hm | hm
    · exact hbody e hm
    · exact Eff.staleish_not_data e (issueRebirth_staleish _ _ _ _ _ e hm)

/-- when an input raises a reason, its own handling either has already told a birthed node's stores
that they are stale (NDEATH), or has left the node birthed under the same birth timestamp with all
its devices still known -/
theorem HostInv.devices_stale {s : St} (h : HostInv s) (hs : s.life = .stale) :
    ∀ d ∈ s.devices, d.2 = .stale := (h.2.1 hs).2.2

/-- C06, second sentence: the node and all devices are held stale, and a birthed node's store and
every device store were told so -/
def Marks (s : St) (es : List Eff) (s' : St) : Prop :=
  s'.life = .stale ∧ (∀ d ∈ s'.devices, d.2 = .stale) ∧
  (s.life = .birthed → Eff.nodeStale ∈ es ∧ ∀ d ∈ s.devices, Eff.devStale d.1 ∈ es)

theorem ndeath_body_marks (c : Cfg) (s : St) (bd now : Nat) (hinv : HostInv s)
    (hclock : s.birthTs ≤ now) :
    Marks s (body c s (.ndeath bd) now).2 (body c s (.ndeath bd) now).1 := by
  obtain ⟨m1, m2, m3⟩ := setStale_marks (cancelTimer s).1 now
    (by rw [(cancelTimer_frame s).birthTs]; exact hclock)
  rw [(cancelTimer_frame s).life, cancelTimer_devices] at m2 m3
  exact ⟨m1, m2 hinv.devices_stale, fun hb =>
    ⟨List.mem_append_right _ (m3 hb).1, fun d hd => List.mem_append_right _ ((m3 hb).2 d hd)⟩⟩

/-- a rebirth request after the input's own handling changes nothing of that -/
theorem step_marks_of_body (c : Cfg) (s : St) (i : In) (now wall : Nat)
    (h : Marks s (body c s i now).2 (body c s i now).1) :
    Marks s (step c s i now wall).2 (step c s i now wall).1 := by
  rw [step_eq]
  cases raised c s i now with
  | none => exact h
  | some r =>
    obtain ⟨i1, i2⟩ := issueRebirth_stale c _ r now wall h.1
    exact ⟨i1, by rw [i2]; exact h.2.1, fun hb =>
      ⟨List.mem_append_left _ (h.2.2 hb).1, fun d hd => List.mem_append_left _ ((h.2.2 hb).2 d hd)⟩⟩

theorem body_raised (c : Cfg) (s : St) (i : In) (now : Nat) (r : Reason)
    (hr : raised c s i now = some r) (hinv : HostInv s) (hclock : s.birthTs ≤ now) :
    (body c s i now).1.birthTs = s.birthTs ∧
    (s.life = .birthed →
      ((body c s i now).1.life = .birthed ∧
        ∀ d ∈ s.devices.map Prod.fst, d ∈ (body c s i now).1.devices.map Prod.fst) ∨
      (Eff.nodeStale ∈ (body c s i now).2 ∧ ∀ d ∈ s.devices, Eff.devStale d.1 ∈ (body c s i now).2)) := by
  cases i with
  | nbirth ts bd id ans =>
    simp only [raised] at hr
    simp only [body]
    split at hr
    · cases hr
    split at hr
    · rename_i h1 h2
      rw [if_neg h1, if_pos h2]
      exact ⟨rfl, fun hb => Or.inl ⟨hb, fun _ h => h⟩⟩
    · cases hr
  | ndeath bd =>
    exact ⟨((setStale_fields _ now).1).trans (cancelTimer_frame s).birthTs,
      fun hb => Or.inr ((ndeath_body_marks c s bd now hinv hclock).2.2 hb)⟩
  | rmsg seq ts m =>
    have h := (handleRMsg_spec c s seq ts m now).1
    exact ⟨h.frame.birthTs, fun hb => Or.inl ⟨h.frame.life.trans hb, h.devs⟩⟩
  | offline => cases hr
  | rebirthReq r' => exact ⟨rfl, fun hb => Or.inl ⟨hb, fun _ h => h⟩⟩
  | timerFire =>
    simp only [body]
    split
    · exact ⟨rfl, fun hb => Or.inl ⟨hb, fun _ h => h⟩⟩
    · exact ⟨rfl, fun hb => Or.inl ⟨hb, fun _ h => h⟩⟩

theorem rebirth_marks (c : Cfg) (s : St) (i : In) (now wall : Nat) (hinv : HostInv s)
    (hwf : i.WF) (hclock : s.birthTs ≤ now) (h : Eff.ncmd ∈ (step c s i now wall).2) :
    (step c s i now wall).1.life = .stale ∧
    (∀ d ∈ (step c s i now wall).1.devices, d.2 = .stale) ∧
    (s.life = .birthed → Eff.nodeStale ∈ (step c s i now wall).2 ∧
      ∀ d ∈ s.devices, Eff.devStale d.1 ∈ (step c s i now wall).2) := by
  rw [step_eq] at h ⊢
  cases hr : raised c s i now with
  | none => rw [hr] at h; exact absurd h (body_no_ncmd c s i now)
  | some r =>
    rw [hr] at h
    obtain ⟨hbt, htold⟩ := body_raised c s i now r hr hinv hclock
    obtain ⟨m1, m2, m3⟩ := issueRebirth_marks c (body c s i now).1 r now wall (by omega)
      ((List.mem_append.mp h).resolve_left (body_no_ncmd c s i now))
    refine ⟨m1, m2 (fun hs => (body_spec c s i now hinv hwf).1.devices_stale hs), fun hb => ?_⟩
    rcases htold hb with ⟨hl, hn⟩ | ⟨t1, t2⟩
    · refine ⟨List.mem_append_right _ (m3 hl).1, fun d hd => ?_⟩
      obtain ⟨d', hd', hdd⟩ := List.mem_map.mp (hn d.1 (List.mem_map.mpr ⟨d, hd, rfl⟩))
      rw [← hdd]
      exact List.mem_append_right _ ((m3 hl).2 d' hd')
    · exact ⟨List.mem_append_left _ t1, fun d hd => List.mem_append_left _ (t2 d hd)⟩

theorem C07P.cancelTimer_nodeStale (s : St) : Eff.nodeStale ∉ (cancelTimer s).2 :=
  fun h => by cases cancelTimer_snd s _ h

/-! ### the NCMD of a step -/

/-- "exactly when `P`, at most once, and then last" -/
def NcmdSpec (e : List Eff) (P : Prop) : Prop :=
  (Eff.ncmd ∈ e ↔ P) ∧ e.count Eff.ncmd ≤ 1 ∧ (Eff.ncmd ∈ e → e.getLast? = some Eff.ncmd)

theorem NcmdSpec.of_not_mem {e : List Eff} {P : Prop} (h : Eff.ncmd ∉ e) (hP : ¬ P) :
    NcmdSpec e P := by
  refine ⟨⟨fun h' => absurd h' h, fun h' => absurd h' hP⟩, ?_, fun h' => absurd h' h⟩
  rw [List.count_eq_zero_of_not_mem h]; omega

theorem NcmdSpec.prepend {pre e : List Eff} {P : Prop} (hp : Eff.ncmd ∉ pre) (h : NcmdSpec e P) :
    NcmdSpec (pre ++ e) P := by
  obtain ⟨h1, h2, h3⟩ := h
  refine ⟨?_, ?_, ?_⟩
  · rw [List.mem_append, ← h1]
    exact ⟨fun h => h.resolve_left hp, Or.inr⟩
  · rw [List.count_append, List.count_eq_zero_of_not_mem hp]; omega
  · intro hm
    have hm' : Eff.ncmd ∈ e := (List.mem_append.mp hm).resolve_left hp
    rw [List.getLast?_append, h3 hm']; rfl

theorem NcmdSpec.congr {e : List Eff} {P Q : Prop} (h : NcmdSpec e P) (hpq : P ↔ Q) :
    NcmdSpec e Q := ⟨h.1.trans hpq, h.2⟩

theorem issueRebirth_spec (c : Cfg) (s : St) (r : Reason) (now wall : Nat) :
    NcmdSpec (issueRebirth c s r now wall).2 (c.enabled r = true ∧ c.cooldown ≤ wall - s.lastRebirth) := by
  rw [issueRebirth_eq]
  split
  · rename_i h
    exact NcmdSpec.of_not_mem (by simp) (by simp at h; simp [h])
  · rename_i h
    simp only [Bool.not_eq_true', Bool.not_eq_false] at h
    split
    · exact NcmdSpec.of_not_mem (by simp) (by omega)
    · refine NcmdSpec.prepend (setStale_no_ncmd _ _) ⟨by simp [h]; omega, by simp, by simp⟩

theorem step_ncmd (c : Cfg) (s : St) (i : In) (now wall : Nat) :
    NcmdSpec (step c s i now wall).2
      (∃ r, raised c s i now = some r ∧ c.enabled r = true ∧ CooldownOk c s wall) := by
  rw [step_eq]
  cases raised c s i now with
  | none => exact NcmdSpec.of_not_mem (body_no_ncmd c s i now) (by simp)
  | some r =>
    refine NcmdSpec.prepend (body_no_ncmd c s i now)
      ((issueRebirth_spec c _ r now wall).congr ?_)
    rw [body_lastRebirth]
    simp [CooldownOk]

/-- **what an in-sequence message raises**: the first reason raised by applying it and then the
messages `l` it frees from the buffer (none if nothing is buffered) -/
theorem raised_inseq (c : Cfg) (s : St) (seq ts : Nat) (m : RMsg) (now : Nat)
    (hinv : HostInv s) (hseq : seq < 256) (hfresh : Fresh s ts) (hb : s.life = .birthed)
    (hin : InSeq c s seq) :
    ∃ l, raised c s (.rmsg seq ts m) now = (applyAll s (m :: l)).2.2 ∧ (s.reseq.buf = [] → l = []) := by
  show ∃ l, (handleRMsg c s seq ts m now).2.2 = _ ∧ _
  cases hres : c.resequence with
  | false =>
    rw [handleRMsg_pass c s seq ts m now hfresh hb]
    exact ⟨[], by simp [hres, applyAll_single], fun _ => rfl⟩
  | true =>
    rcases hin with hin | ⟨hn, hnew⟩
    · rw [hres] at hin; cases hin
    · have hp := Reseq.process_eq_next _ _ m hinv.1 hseq hn hnew
      rcases handleRMsg_char c s seq ts m now hfresh hb hres with
        ⟨r', hp', _⟩ | ⟨r', hp', _⟩ | ⟨r', ms, r1, hp', hch, _, he, _⟩ <;> rw [hp] at hp' <;> cases hp'
      refine ⟨ms.map (·.2), by rw [he, drained_reason], fun hbuf => ?_⟩
      have := hch.length
      simp only [hbuf, List.length_nil] at this
      rw [List.eq_nil_of_length_eq_zero (by omega : ms.length = 0)]; rfl

/-- if applying an in-sequence message raises `r`, that is what the input raises -/
theorem raised_inseq_some (c : Cfg) (s : St) (seq ts : Nat) (m : RMsg) (now : Nat)
    (hinv : HostInv s) (hseq : seq < 256) (hfresh : Fresh s ts) (hb : s.life = .birthed)
    (hin : InSeq c s seq) (r : Reason) (hap : (apply s m).2.2 = some r) :
    raised c s (.rmsg seq ts m) now = some r := by
  obtain ⟨l, h, _⟩ := raised_inseq c s seq ts m now hinv hseq hfresh hb hin
  rw [h, applyAll_cons_some s m l r hap, hap]

/-! ### the dispatcher -/

theorem findNode_setNode (n : Nat) (s : St) (ns : Nodes) : findNode n (setNode n s ns) = some s := by
  induction ns with
  | nil => simp [setNode, findNode]
  | cons a t ih =>
    simp only [setNode]
    split <;> rename_i h <;> simp [findNode, h, ih]

theorem findNode_setNode_ne (n m : Nat) (s : St) (L : Nodes) (h : m ≠ n) :
    findNode m (setNode n s L) = findNode m L := by
  induction L with
  | nil => simp [setNode, findNode, Ne.symm h]
  | cons a t ih =>
    simp only [setNode]
    split
    · rename_i h2; subst h2
      simp [findNode, Ne.symm h]
    · simp only [findNode, ih]

theorem map_fst_setNode (n : Nat) (s : St) (L : Nodes) :
    (setNode n s L).map Prod.fst =
      if (findNode n L).isSome then L.map Prod.fst else L.map Prod.fst ++ [n] := by
  induction L with
  | nil => simp [setNode, findNode]
  | cons a t ih =>
    simp only [setNode, findNode]
    split
    · simp
    · simp only [List.map_cons, ih]
      split <;> simp

theorem stepNode_nodes (c : Cfg) (a : App) (n : Nat) (s : St) (i : In) (now wall : Nat)
    (pre : List AppEff) :
    (stepNode c a n s i now wall pre).1.nodes = setNode n (step c s i now wall).1 a.nodes := rfl

theorem stepNode_effs (c : Cfg) (a : App) (n : Nat) (s : St) (i : In) (now wall : Nat)
    (pre : List AppEff) :
    (stepNode c a n s i now wall pre).2 = pre ++ (step c s i now wall).2.map (AppEff.node n) := rfl

theorem stepNode_find_ne (c : Cfg) (a : App) (n m : Nat) (s : St) (i : In) (now wall : Nat)
    (pre : List AppEff) (h : m ≠ n) :
    findNode m (stepNode c a n s i now wall pre).1.nodes = findNode m a.nodes := by
  rw [stepNode_nodes, findNode_setNode_ne _ _ _ _ h]

end Srad.Host
