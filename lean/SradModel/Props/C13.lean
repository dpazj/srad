/-
C13 — Topic and payload decoding is faithful for valid ids and total otherwise.
Property theorems only; helper lemmas are in `SradModel/Proofs/Topic.lean` and
`SradModel/Proofs/StateJson.lean`; the vocabulary of the statements (node / device / STATE
shape as plain concatenations of byte strings) is in `SradModel/Model/TopicSpec.lean`.

Throughout: bytes are `List UInt8`; `valid` is an arbitrary predicate standing for
`String::from_utf8(..).is_ok()` (an id is a Rust `String`, i.e. a byte list with `valid id`);
the protobuf codec is an arbitrary pair `enc`/`dec` with `dec (enc p) = some p` (prost is an
external library); `parse` is the model of `topic_and_payload_to_event`, `parseCert` the model
of `serde_json::from_slice::<StateBirthDeathCertificate>`.
-/
import SradModel.Proofs.Topic
import SradModel.Generated.TopicTable

namespace Srad.Topic
open Srad.StateJson (Bytes parseCert printCert printCertSerde FieldNamesValid U64MAX)

/-- `validate_name` accepts a name exactly when it is not empty and contains none of `/`, `+`,
`#` -/
theorem C13_validateName_iff (s : Bytes) :
    validateName s = true ↔ s ≠ [] ∧ (0x2f : UInt8) ∉ s ∧ (0x2b : UInt8) ∉ s ∧ (0x23 : UInt8) ∉ s :=
  validateName_iff s

/-- an edge node is constructed only if both ids were supplied and both pass name validation;
in particular an empty id or one containing `/`, `+` or `#` is refused -/
theorem C13_node_constructor (g n : Option Bytes) :
    eonBuild g n = .ok ↔ ∃ g' n', g = some g' ∧ n = some n' ∧ NameOk g' ∧ NameOk n' := by
  cases g with
  | none => simp [eonBuild]
  | some g' =>
    cases n with
    | none => simp [eonBuild]
    | some n' =>
      simp only [eonBuild, Option.some.injEq, exists_and_left, exists_eq_left', ← validateName_iff]
      by_cases h1 : validateName g' = true <;> by_cases h2 : validateName n' = true <;> simp [h1, h2]

/-- a device is registered only under a valid (and unused) name -/
theorem C13_device_constructor (existing : List Bytes) (name : Bytes) :
    registerDevice existing name = .ok ↔ NameOk name ∧ name ∉ existing := by
  rw [← validateName_iff]
  unfold registerDevice
  by_cases h1 : validateName name = true <;> by_cases h2 : name ∈ existing <;> simp [h1, h2]

/-- a host application is constructed only with a valid host id (otherwise the constructor
panics, which is how srad refuses it) -/
theorem C13_host_constructor (h : Bytes) : appNew h = .ok ↔ NameOk h := by
  rw [← validateName_iff]
  unfold appNew
  by_cases h1 : validateName h = true <;> simp [h1]

/-- for all valid group and node ids (group ≠ STATE), each of the four node message types and
every payload: the topic built for publishing together with the encoded payload decodes to a
node event with the same group id, node id, message kind and payload -/
theorem C13_node_faithful {P : Type} (valid : Bytes → Bool) (enc : P → Bytes)
    (dec : Bytes → Option P) (hcodec : ∀ p, dec (enc p) = some p)
    (g n : Bytes) (v : Verb) (p : P)
    (hg : validateName g = true) (hn : validateName n = true)
    (hvg : valid g = true) (hvn : valid n = true) (hne : g ≠ STATE) :
    parse valid dec (nodeTopic g v n) (enc p) = .node g n (kindOfVerb v) p :=
  parse_nodeTopic valid dec g n (enc p) v p ((validateName_iff g).mp hg) ((validateName_iff n).mp hn)
    hvg hvn hne (hcodec p)

/-- the same for the four device message types and all valid group, node and device ids -/
theorem C13_device_faithful {P : Type} (valid : Bytes → Bool) (enc : P → Bytes)
    (dec : Bytes → Option P) (hcodec : ∀ p, dec (enc p) = some p)
    (g n d : Bytes) (v : Verb) (p : P)
    (hg : validateName g = true) (hn : validateName n = true) (hd : validateName d = true)
    (hvg : valid g = true) (hvn : valid n = true) (hvd : valid d = true) (hne : g ≠ STATE) :
    parse valid dec (deviceTopic g v n d) (enc p) = .device g n d (kindOfVerb v) p :=
  parse_deviceTopic valid dec g n d (enc p) v p ((validateName_iff g).mp hg)
    ((validateName_iff n).mp hn) ((validateName_iff d).mp hd) hvg hvn hvd hne (hcodec p)

/-- the STATE certificate as srad writes it by hand (`{"online" : true, "timestamp" : 17}`) is
read back with the same online flag and timestamp, for every flag and every `u64` timestamp -/
theorem C13_certificate_roundtrip (valid : Bytes → Bool) (hv : FieldNamesValid valid)
    (online : Bool) (ts : Nat) (hts : ts < 2 ^ 64) :
    parseCert valid (printCert online ts) = some (online, ts) :=
  Srad.StateJson.parseCert_printCert valid hv online ts (by simp [U64MAX]; omega)

/-- … and so is the form serde writes for `StateBirthDeathCertificate`
(`{"timestamp":17,"online":true}`) -/
theorem C13_certificate_roundtrip_serde (valid : Bytes → Bool) (hv : FieldNamesValid valid)
    (online : Bool) (ts : Nat) (hts : ts < 2 ^ 64) :
    parseCert valid (printCertSerde online ts) = some (online, ts) :=
  Srad.StateJson.parseCert_printCertSerde valid hv online ts (by simp [U64MAX]; omega)

/-- for every valid host id, flag and `u64` timestamp: the STATE topic built for publishing
together with the written certificate decodes to a state event with the same host id, flag and
timestamp (for either written form of the certificate) -/
theorem C13_state_faithful {P : Type} (valid : Bytes → Bool) (dec : Bytes → Option P)
    (hv : FieldNamesValid valid) (h : Bytes) (online : Bool) (ts : Nat)
    (hh : validateName h = true) (hvh : valid h = true) (hts : ts < 2 ^ 64) :
    parse valid dec (stateHostTopic h) (printCert online ts) = .state h online ts ∧
    parse valid dec (stateHostTopic h) (printCertSerde online ts) = .state h online ts :=
  ⟨parse_stateHostTopic valid dec h _ online ts ((validateName_iff h).mp hh) hvh
      (C13_certificate_roundtrip valid hv online ts hts),
   parse_stateHostTopic valid dec h _ online ts ((validateName_iff h).mp hh) hvh
      (C13_certificate_roundtrip_serde valid hv online ts hts)⟩

/-- no input makes the receive path panic -/
theorem C13_no_panic {P : Type} (valid : Bytes → Bool) (dec : Bytes → Option P)
    (topic payload : Bytes) : parse valid dec topic payload ≠ .panic :=
  fun h => by have := parse_sound valid dec topic payload; rwa [h] at this

/-- an invalid-publish event carries exactly the topic and payload bytes that were received -/
theorem C13_invalid_carries_original_bytes {P : Type} (valid : Bytes → Bool)
    (dec : Bytes → Option P) (topic payload : Bytes) (r : Reason) (t p : Bytes)
    (h : parse valid dec topic payload = .invalid r t p) : t = topic ∧ p = payload := by
  have := parse_sound valid dec topic payload; rwa [h] at this

/-- a topic that does not have node, device or STATE shape, or a payload that does not decode,
yields an invalid-publish event carrying the original bytes — and nothing else does: every
shaped topic with a decodable payload is decoded -/
theorem C13_invalid_iff_malformed {P : Type} (valid : Bytes → Bool) (dec : Bytes → Option P)
    (topic payload : Bytes) :
    (∃ r, parse valid dec topic payload = .invalid r topic payload) ↔
      (¬ HasShape valid topic ∨ ¬ PayloadDecodes valid dec topic payload) := by
  rw [parse_invalid_iff]
  constructor
  · intro h
    by_cases hs : HasShape valid topic
    · exact Or.inr (fun hp => h ⟨hs, hp⟩)
    · exact Or.inl hs
  · rintro (h | h) ⟨hs, hp⟩
    · exact h hs
    · exact h hp

/-- a node event is attributed to exactly the ids that appear in the topic: the topic is
`<namespace>/<group>/N<verb>/<node>` with these very byte strings as its second and fourth
segment, the kind is the one the verb names and the payload is the decoded payload -/
theorem C13_node_event_iff {P : Type} (valid : Bytes → Bool) (dec : Bytes → Option P)
    (topic payload g n : Bytes) (k : Kind) (p : P) :
    parse valid dec topic payload = .node g n k p ↔
      ∃ rest, IsNodeTopic valid topic g rest n ∧ k = kindOfRest rest ∧ dec payload = some p :=
  parse_eq_iff valid dec topic payload _ nofun

/-- the same for device events: `<namespace>/<group>/D<verb>/<node>/<device>` -/
theorem C13_device_event_iff {P : Type} (valid : Bytes → Bool) (dec : Bytes → Option P)
    (topic payload g n d : Bytes) (k : Kind) (p : P) :
    parse valid dec topic payload = .device g n d k p ↔
      ∃ rest, IsDeviceTopic valid topic g rest n d ∧ k = kindOfRest rest ∧ dec payload = some p :=
  parse_eq_iff valid dec topic payload _ nofun

/-- a state event carries the host id that is the third segment of a `<namespace>/STATE/<host>`
topic and the flag and timestamp the certificate reader finds in the payload -/
theorem C13_state_event_iff {P : Type} (valid : Bytes → Bool) (dec : Bytes → Option P)
    (topic payload h : Bytes) (o : Bool) (ts : Nat) :
    parse valid dec topic payload = .state h o ts ↔
      IsStateTopic valid topic h ∧ parseCert valid payload = some (o, ts) :=
  parse_eq_iff valid dec topic payload _ nofun

/-! ### T-table: the verb tables of the builders and of the parser, regenerated on every run
from the compiled crates (`SradModel/Generated/TopicTable.lean`) -/

/-- payload decoder of the table rows (the payload is empty and decodes) -/
def decUnit : Bytes → Option Unit := fun _ => some ()

/-- builders: for each of the eight verbs the compiled `NodeTopic::new` / `DeviceTopic::new`
produce the topic bytes and QoS/retain of the model, and the compiled parser classifies that
topic as the model does -/
theorem C13_verb_table_matches_model :
    ∀ row ∈ Srad.Generated.verbTable,
      (if row.1 then deviceTopic [0x47] row.2.1 [0x6e] [0x64] else nodeTopic [0x47] row.2.1 [0x6e])
          = row.2.2.1 ∧
      (if row.1 then deviceQosRetain row.2.1 else nodeQosRetain row.2.1)
          = (if row.2.2.2.1 then QoS.atLeastOnce else QoS.atMostOnce, row.2.2.2.2.1) ∧
      parseClass asciiValid decUnit row.2.2.1 [] = row.2.2.2.2.2 := by
  decide +kernel

/-- in the compiled code itself: all eight verbs are in the table and each built topic is
received as a node resp. device message of the kind the verb names -/
theorem C13_verb_table_faithful :
    (Srad.Generated.verbTable.map (fun r => (r.1, r.2.1))).eraseDups.length = 8 ∧
    ∀ row ∈ Srad.Generated.verbTable,
      row.2.2.2.2.2 = (if row.1 then EvClass.device (kindOfVerb row.2.1) else EvClass.node (kindOfVerb row.2.1)) := by
  decide +kernel

/-- parser: on every verb segment of the table (every segment of length ≤ 1, every two-byte
segment starting with `N` or `D`, variants of the eight verbs) the compiled
`topic_and_payload_to_event` and the model agree, in a four- and in a five-segment topic -/
theorem C13_segment_table_matches_model :
    ∀ row ∈ Srad.Generated.segTable,
      parseClass asciiValid decUnit (nodeTopicRaw [0x47] row.1 [0x6e]) [] = row.2.1 ∧
      parseClass asciiValid decUnit (nodeTopicRaw [0x47] row.1 [0x6e, 0x2f, 0x64]) [] = row.2.2 := by
  -- a segment without `/` is judged by `process_topic_message` alone, the others by the whole parser
  have h : ∀ row ∈ Srad.Generated.segTable,
      if SLASH ∈ row.1 then
        parseClass asciiValid decUnit (nodeTopicRaw [0x47] row.1 [0x6e]) [] = row.2.1 ∧
        parseClass asciiValid decUnit (nodeTopicRaw [0x47] row.1 [0x6e, 0x2f, 0x64]) [] = row.2.2
      else verbSegClass (processTopicMessage asciiValid decUnit row.1 []) = row.2 := by
    decide +kernel
  intro row hr
  have h := h row hr
  split at h
  · exact h
  · rename_i hs
    have := (parseClass_verbSeg asciiValid decUnit [0x47] row.1 [0x6e] [0x64] []
      (by unfold NoSlash; decide) hs (by unfold NoSlash; decide) (by unfold NoSlash; decide)
      (by decide) (by decide) (by decide) (by decide)).trans h
    exact Prod.ext_iff.mp this

/-! ### non-vacuity (tests, not the claim) -/

example : nodeTopic [0x47] .death [0x6e]
    = [0x73, 0x70, 0x42, 0x76, 0x31, 0x2e, 0x30, 0x2f, 0x47, 0x2f, 0x4e, 0x44, 0x45, 0x41, 0x54, 0x48, 0x2f, 0x6e] := by
  decide
example : validateName [0x47] = true ∧ validateName [0x61, 0x2f, 0x62] = false ∧ validateName [] = false := by
  decide
example : ([0x47] : Bytes) ≠ STATE := by decide
example : FieldNamesValid asciiValid := ⟨by decide, by decide⟩
-- `{"online" : true, "timestamp" : 17}`
example : printCert true 17 =
    [0x7b, 0x22, 0x6f, 0x6e, 0x6c, 0x69, 0x6e, 0x65, 0x22, 0x20, 0x3a, 0x20, 0x74, 0x72, 0x75, 0x65, 0x2c, 0x20,
     0x22, 0x74, 0x69, 0x6d, 0x65, 0x73, 0x74, 0x61, 0x6d, 0x70, 0x22, 0x20, 0x3a, 0x20, 0x31, 0x37, 0x7d] := by
  simp [printCert, Srad.StateJson.decDigits, Srad.StateJson.boolBytes, Srad.StateJson.TRUE_]
example : parseCert asciiValid (printCert false 18446744073709551615) = some (false, 18446744073709551615) :=
  C13_certificate_roundtrip asciiValid ⟨by decide, by decide⟩ false _ (by decide)
-- a STATE topic, a node topic with an unknown verb, a topic with too many segments
example : parse asciiValid decUnit (stateHostTopic [0x68]) (printCert true 17) = .state [0x68] true 17 :=
  (C13_state_faithful asciiValid decUnit ⟨by decide, by decide⟩ [0x68] true 17 (by decide) (by decide) (by decide)).1
example : parseClass asciiValid decUnit (nodeTopicRaw [0x47] [0x4e, 0x58] [0x6e]) [] = .node (.other [0x58]) := by
  decide
example : parseClass asciiValid decUnit (nodeTopicRaw [0x47] NBIRTH [0x6e, 0x2f, 0x64]) [] = .invalid .topic := by
  decide
example : HasShape asciiValid (nodeTopic [0x47] .birth [0x6e]) :=
  Or.inl ⟨[0x47], BIRTH, [0x6e], SPBV10, rfl, by unfold NoSlash; decide, by unfold NoSlash; decide,
    by unfold NoSlash; decide, by unfold NoSlash; decide, by decide, by decide, by decide,
    by decide, Or.inl rfl⟩

end Srad.Topic
