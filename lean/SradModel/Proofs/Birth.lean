/-
Helper lemmas for C11 (birth certificates). The property theorems are in `Props/C11.lean`.
-/
import SradModel.Model.BirthSpec

namespace Srad.Birth

variable {U : Type}

theorem nodup_concat {α} {l : List α} {a : α} (hl : l.Nodup) (ha : a ∉ l) : (l ++ [a]).Nodup :=
  List.nodup_append.2 ⟨hl, List.pairwise_singleton _ a, fun _ hx _ hy hxy =>
    ha (List.mem_singleton.1 hy ▸ hxy ▸ hx)⟩

/-! ### the collision loop -/

/-- The loop from candidate `j` with `fuel` rounds left: it answers the first free candidate, and
panics at a taken `M - 1` under overflow checks or when the fuel runs out with every candidate
taken. -/
theorem bumpGo_cases (M : Nat) (ovf : Bool) (off base : Nat) (taken : List Nat) :
    ∀ (fuel j : Nat),
      match bumpGo M ovf off base taken fuel j with
      | .ok c => c ∉ taken ∧ ∃ k, j ≤ k ∧ k < j + fuel ∧ c = off + (base + k) % M
      | .panic =>
        (ovf = true ∧ ∃ k, j ≤ k ∧ (base + k) % M + 1 = M ∧ off + (base + k) % M ∈ taken) ∨
        (∀ k, j ≤ k → k < j + fuel → off + (base + k) % M ∈ taken)
      | .err _ => False
  | 0, j => .inr fun k h1 h2 => by omega
  | f + 1, j => by
    unfold bumpGo
    by_cases hm : off + (base + j) % M ∈ taken
    · rw [if_pos hm]
      by_cases ho : ovf = true ∧ (base + j) % M + 1 = M
      · rw [if_pos ho]; exact .inl ⟨ho.1, j, Nat.le_refl _, ho.2, hm⟩
      · rw [if_neg ho]
        have ih := bumpGo_cases M ovf off base taken f (j + 1)
        split <;> rename_i heq <;> rw [heq] at ih
        · obtain ⟨h1, k, hk1, hk2, hk3⟩ := ih
          exact ⟨h1, k, by omega, by omega, hk3⟩
        · rcases ih with ⟨ho', k, hk1, hk2, hk3⟩ | hall
          · exact .inl ⟨ho', k, by omega, hk2, hk3⟩
          · refine .inr fun k h1 h2 => ?_
            by_cases hkj : k = j
            · exact hkj ▸ hm
            · exact hall k (by omega) (by omega)
        · exact ih
    · rw [if_neg hm]; exact ⟨hm, j, Nat.le_refl _, by omega, rfl⟩

theorem bump_cases {M : Nat} {ovf : Bool} {off base : Nat} {taken : List Nat} {r : Res Nat}
    (h : bump M ovf off base taken = r) :
    match r with
    | .ok c => c ∉ taken ∧ ∃ k, k ≤ taken.length ∧ c = off + (base + k) % M
    | .panic =>
      (ovf = true ∧ ∃ k, (base + k) % M + 1 = M ∧ off + (base + k) % M ∈ taken) ∨
      (∀ k, k ≤ taken.length → off + (base + k) % M ∈ taken)
    | .err _ => False := by
  have := bumpGo_cases M ovf off base taken (taken.length + 1) 0
  rw [show bumpGo M ovf off base taken (taken.length + 1) 0 = r from h] at this
  cases r with
  | ok c =>
    obtain ⟨h1, k, _, hk2, hk3⟩ := this
    exact ⟨h1, k, by omega, hk3⟩
  | panic =>
    exact this.imp (fun ⟨ho, k, _, h2, h3⟩ => ⟨ho, k, h2, h3⟩)
      fun hall k hk => hall k (Nat.zero_le _) (by omega)
  | err e => exact this

theorem candidates_nodup (M off base : Nat) :
    ∀ n, n ≤ M → ((List.range n).map fun k => off + (base + k) % M).Nodup := by
  intro n hn
  rw [List.nodup_iff_pairwise_ne, List.pairwise_map]
  refine List.Pairwise.imp_of_mem ?_ (List.pairwise_lt_range (n := n))
  intro a b ha hb hab heq
  have hb' := List.mem_range.mp hb
  -- equal residues: `M` divides `b - a`, which lies strictly between 0 and `M`
  have h := Nat.sub_mod_eq_zero_of_mod_eq (Nat.add_left_cancel heq).symm
  rw [Nat.add_sub_add_left, Nat.mod_eq_of_lt (by omega)] at h
  omega

theorem not_all_taken {M off base : Nat} {taken : List Nat} (hlen : taken.length < M) :
    ¬ (∀ k, k < taken.length + 1 → off + (base + k) % M ∈ taken) := by
  intro hall
  have hnd := candidates_nodup M off base (taken.length + 1) (by omega)
  have h := hnd.length_le_of_subset (l₂ := taken) (by
    intro x hx
    obtain ⟨k, hk, rfl⟩ := List.mem_map.mp hx
    exact hall k (List.mem_range.mp hk))
  simp at h
  omega

theorem bump_ok {M : Nat} {ovf : Bool} {off base : Nat} {taken : List Nat} {c : Nat}
    (h : bump M ovf off base taken = .ok c) :
    c ∉ taken ∧ ∃ k, k ≤ taken.length ∧ c = off + (base + k) % M :=
  bump_cases h

theorem bump_ne_err {M : Nat} {ovf : Bool} {off base : Nat} {taken : List Nat} (e : Err) :
    bump M ovf off base taken ≠ .err e := fun h => bump_cases h

theorem bump_panic {M : Nat} {ovf : Bool} {off base : Nat} {taken : List Nat}
    (hlen : taken.length < M) (h : bump M ovf off base taken = .panic) :
    ovf = true ∧ off + (M - 1) ∈ taken := by
  rcases bump_cases h with ⟨ho, k, hk2, hk3⟩ | hall
  · refine ⟨ho, ?_⟩
    have : (base + k) % M = M - 1 := by omega
    rw [this] at hk3; exact hk3
  · exact (not_all_taken hlen fun k hk => hall k (by omega)).elim

theorem bump_total {M : Nat} {off base : Nat} {taken : List Nat} (hlen : taken.length < M) :
    ∃ c, bump M false off base taken = .ok c := by
  cases h : bump M false off base taken with
  | ok c => exact ⟨c, rfl⟩
  | err e => exact absurd h (bump_ne_err e)
  | panic => have := (bump_panic hlen h).1; cases this

theorem genAlias_ok {cfg : Cfg} {h : Name → Nat} {st : Init U} {n : Name} {a : Nat}
    (hg : genAlias cfg h st n = .ok a) : a ∉ st.aliases := by
  unfold genAlias at hg
  split at hg
  · exact (bump_ok hg).1
  · exact (bump_ok hg).1

theorem genAlias_ne_err {cfg : Cfg} {h : Name → Nat} {st : Init U} {n : Name} (e : Err) :
    genAlias cfg h st n ≠ .err e := by
  unfold genAlias
  split
  · exact bump_ne_err e
  · exact bump_ne_err e

theorem genAlias_half {cfg : Cfg} {h : Name → Nat} {st : Init U} {n : Name} {a : Nat}
    (hc : cfg.inHalf = true ∨ (st.obj < two32 ∧ h n % two32 + st.aliases.length < two32))
    (hg : genAlias cfg h st n = .ok a) : a / two32 = st.obj := by
  unfold genAlias at hg
  split at hg
  · obtain ⟨_, k, _, rfl⟩ := bump_ok hg
    rw [Nat.mul_comm, Nat.mul_add_div (by decide), Nat.div_eq_of_lt (Nat.mod_lt _ (by decide)),
      Nat.add_zero]
  · rename_i hf
    rcases hc with hc | ⟨ho, hl⟩
    · exact absurd hc hf
    · obtain ⟨_, k, hk1, rfl⟩ := bump_ok hg
      have h1 : h n % two32 + k < two32 := by omega
      generalize h n % two32 = x at h1
      -- no wrap-around of the `u64`, and the low half stays below 2^32
      rw [Nat.zero_add, Nat.mod_eq_of_lt (by unfold two32 two64 at *; omega), Nat.add_assoc,
        Nat.mul_comm, Nat.mul_add_div (by decide), Nat.div_eq_of_lt h1, Nat.add_zero]

theorem genAlias_total {cfg : Cfg} {h : Name → Nat} {st : Init U} {n : Name}
    (hc : cfg.inHalf = true) (hl : st.aliases.length < two32) :
    ∃ a, genAlias cfg h st n = .ok a := by
  unfold genAlias
  rw [if_pos hc]
  exact bump_total hl

theorem genAlias_panic {cfg : Cfg} {h : Name → Nat} {st : Init U} {n : Name}
    (hl : st.aliases.length < two32) (hg : genAlias cfg h st n = .panic) :
    cfg.inHalf = false ∧ cfg.ovf = true ∧ (two64 - 1) ∈ st.aliases := by
  unfold genAlias at hg
  split at hg
  · have := (bump_panic hl hg).1; cases this
  · rename_i hf
    have hl' : st.aliases.length < two64 := by unfold two32 at hl; unfold two64; omega
    obtain ⟨h1, h2⟩ := bump_panic hl' hg
    refine ⟨by simpa using hf, h1, by simpa using h2⟩

/-! ### one accepted registration -/

/-- `st'` is `st` after pushing metric `m` under the new name `n` -/
structure Pushed (st st' : Init U) (n : Name) (m : Metric U) : Prop where
  metrics : st'.metrics = st.metrics ++ [m]
  names : st'.names = n :: st.names
  obj : st'.obj = st.obj
  registry : st'.registry = st.registry
  mname : m.name = some n
  fresh : n ∉ st.names
  alias : (m.alias = none ∧ st'.aliases = st.aliases) ∨
    (∃ a, m.alias = some a ∧ a ∉ st.aliases ∧ st'.aliases = a :: st.aliases)

theorem pushWithId_spec (st : Init U) (r : Req U) (id : MetricId) :
    pushWithId st (intoMetric r.details r.value) id =
      { st with metrics := st.metrics ++ [specMetric r id] } := by
  cases id <;> cases hv : r.value <;> simp [pushWithId, intoMetric, specMetric, idAlias, Req.name, hv]

/-- Everything one registration can do: one rule per exit of `register_metric` /
`register_template_metric` / `create_metric_token`, in the order the code reaches them. -/
inductive Step (cfg : Cfg) (h : Name → Nat) (st : Init U) (r : Req U) :
    Res (MetricId × Init U) → Prop where
  | wrongApi : WrongApi r → cfg.dbg = false → Step cfg h st r (.err .unsupportedDatatype)
  | wrongApiDbg : WrongApi r → cfg.dbg = true → Step cfg h st r .panic
  | noInstance : NoInstance r → cfg.dbg = false → Step cfg h st r (.err .valueNotProvided)
  | noInstanceDbg : NoInstance r → cfg.dbg = true → Step cfg h st r .panic
  | unregistered : Unregistered st.registry r → Step cfg h st r (.err .unregisteredTemplate)
  | duplicate : ¬ WrongApi r → ¬ Unregistered st.registry r → ¬ NoInstance r → r.name ∈ st.names →
      Step cfg h st r (.err .duplicate)
  | byName {st'} : Accepts st.names st.registry r → r.details.useAlias = false →
      Pushed st st' r.name (specMetric r (.name r.name)) → Step cfg h st r (.ok (.name r.name, st'))
  | byAlias {st'} (a : Nat) : Accepts st.names st.registry r → r.details.useAlias = true →
      genAlias cfg h st r.name = .ok a → Pushed st st' r.name (specMetric r (.alias a)) →
      Step cfg h st r (.ok (.alias a, st'))
  | overflow : Accepts st.names st.registry r → r.details.useAlias = true →
      genAlias cfg h st r.name = .panic → Step cfg h st r .panic

/-- a request that passes the checks of its `register_*` goes on to `create_metric_token` -/
theorem createToken_step (cfg : Cfg) (h : Name → Nat) (st : Init U) (r : Req U)
    (hw : ¬ WrongApi r) (hu : ¬ Unregistered st.registry r) (hni : ¬ NoInstance r) :
    Step cfg h st r
      (match createToken cfg h st r.name r.details.useAlias with
        | .ok (id, st') => .ok (id, pushWithId st' (intoMetric r.details r.value) id)
        | .err e => .err e
        | .panic => .panic) := by
  unfold createToken
  by_cases hn : r.name ∈ st.names
  · rw [if_pos hn]; exact .duplicate hw hu hni hn
  rw [if_neg hn]
  have hacc : Accepts st.names st.registry r := ⟨hn, hw, hu, hni⟩
  cases hua : r.details.useAlias with
  | false =>
    simp only [Bool.false_eq_true, if_false, pushWithId_spec]
    exact .byName hacc hua ⟨rfl, rfl, rfl, rfl, rfl, hn, .inl ⟨rfl, rfl⟩⟩
  | true =>
    simp only [if_true]
    cases hg : genAlias cfg h st r.name with
    | ok a =>
      simp only [pushWithId_spec]
      exact .byAlias a hacc hua hg ⟨rfl, rfl, rfl, rfl, rfl, hn, .inr ⟨a, rfl, genAlias_ok hg, rfl⟩⟩
    | err e => exact absurd hg (genAlias_ne_err e)
    | panic => exact .overflow hacc hua hg

theorem runReq_step (cfg : Cfg) (h : Name → Nat) (st : Init U) (r : Req U) :
    Step cfg h st r (runReq cfg h st r) := by
  rcases r with ⟨d, v⟩ | ⟨d, _ | ⟨t, u⟩⟩
  · by_cases hdt : d.dt = dtTemplate
    · have hw : WrongApi (.metric d v : Req U) := ⟨d, v, rfl, hdt⟩
      simp only [runReq, registerMetric, hdt, if_true]
      cases hd : cfg.dbg
      · exact .wrongApi hw hd
      · exact .wrongApiDbg hw hd
    · have := createToken_step cfg h st (.metric d v)
        (by rintro ⟨_, _, h1, h2⟩; cases h1; exact hdt h2) (by rintro ⟨_, _, _, h1, _⟩; cases h1)
        (by rintro ⟨_, h1⟩; cases h1)
      simp only [runReq, registerMetric, hdt, if_false]; exact this
  · have hni : NoInstance (.template d none : Req U) := ⟨d, rfl⟩
    simp only [runReq, registerTemplateMetric]
    cases hd : cfg.dbg
    · exact .noInstance hni hd
    · exact .noInstanceDbg hni hd
  · by_cases hreg : t ∈ st.registry
    · have := createToken_step cfg h st (.template d (some (t, u)))
        (by rintro ⟨_, _, h1, _⟩; cases h1) (by rintro ⟨_, _, _, h1, h2⟩; cases h1; exact h2 hreg)
        (by rintro ⟨_, h1⟩; cases h1)
      simp only [runReq, registerTemplateMetric, hreg, not_true_eq_false, if_false]; exact this
    · simp only [runReq, registerTemplateMetric, hreg, not_false_eq_true, if_true]
      exact .unregistered ⟨d, t, u, rfl, hreg⟩

theorem runReq_ok {cfg : Cfg} {h : Name → Nat} {st st' : Init U} {r : Req U} {id : MetricId}
    (hr : runReq cfg h st r = .ok (id, st')) :
    Pushed st st' r.name (specMetric r id) ∧ Accepts st.names st.registry r ∧
    ((r.details.useAlias = false ∧ id = .name r.name) ∨
     (r.details.useAlias = true ∧ ∃ a, id = .alias a ∧ genAlias cfg h st r.name = .ok a)) := by
  have hs := runReq_step cfg h st r
  rw [hr] at hs
  cases hs with
  | byName hacc hua hp => exact ⟨hp, hacc, .inl ⟨hua, rfl⟩⟩
  | byAlias a hacc hua hg hp => exact ⟨hp, hacc, .inr ⟨hua, a, rfl, hg⟩⟩

/-- the id is taken in the initializer -/
def Taken (st : Init U) : MetricId → Prop
  | .name n => n ∈ st.names
  | .alias a => a ∈ st.aliases

/-- a token carries the name, or an alias where one was asked for -/
def Shape (r : Req U) (id : MetricId) : Prop :=
  (r.details.useAlias = false ∧ id = .name r.name) ∨ (r.details.useAlias = true ∧ ∃ a, id = .alias a)

/-- the id of an accepted registration was free, is taken afterwards, and nothing is given back -/
theorem runReq_taken {cfg : Cfg} {h : Name → Nat} {st st' : Init U} {r : Req U} {id : MetricId}
    (hr : runReq cfg h st r = .ok (id, st')) :
    ¬ Taken st id ∧ Taken st' id ∧ ∀ i, Taken st i → Taken st' i := by
  obtain ⟨hp, _, hid⟩ := runReq_ok hr
  have hsub : ∀ a, a ∈ st.aliases → a ∈ st'.aliases := fun a ha => by
    rcases hp.alias with ⟨_, h2⟩ | ⟨_, _, _, h2⟩ <;> rw [h2]
    · exact ha
    · exact List.mem_cons_of_mem _ ha
  refine ⟨?_, ?_, fun i hi => ?_⟩
  · rcases hid with ⟨_, rfl⟩ | ⟨_, a, rfl, hg⟩
    · exact hp.fresh
    · exact genAlias_ok hg
  · rcases hid with ⟨_, rfl⟩ | ⟨_, a, rfl, _⟩
    · exact (hp.names ▸ List.mem_cons_self .. : r.name ∈ st'.names)
    · rcases hp.alias with ⟨h1, _⟩ | ⟨a', h1, _, h2⟩ <;> cases h1
      exact (h2 ▸ List.mem_cons_self .. : a ∈ st'.aliases)
  · cases i with
    | name n => exact (hp.names ▸ List.mem_cons_of_mem _ hi : n ∈ st'.names)
    | alias b => exact hsub b hi

theorem runReq_accept_iff {cfg : Cfg} {h : Name → Nat} {st : Init U} {r : Req U}
    (hg : genAlias cfg h st r.name ≠ .panic) :
    (∃ id st', runReq cfg h st r = .ok (id, st')) ↔ Accepts st.names st.registry r := by
  refine ⟨fun ⟨id, st', hr⟩ => (runReq_ok hr).2.1, fun hacc => ?_⟩
  -- an accepted request leaves by none of the refusing rules
  have hs := runReq_step cfg h st r
  cases hs' : runReq cfg h st r with
  | ok p => exact ⟨p.1, p.2, rfl⟩
  | err e =>
    rw [hs'] at hs
    cases hs with
    | wrongApi hw => exact absurd hw hacc.2.1
    | noInstance hni => exact absurd hni hacc.2.2.2
    | unregistered hu => exact absurd hu hacc.2.2.1
    | duplicate _ _ _ hn => exact absurd hn hacc.1
  | panic =>
    rw [hs'] at hs
    cases hs with
    | wrongApiDbg hw => exact absurd hw hacc.2.1
    | noInstanceDbg hni => exact absurd hni hacc.2.2.2
    | overflow _ _ hp => exact absurd hp hg

/-! ### the initializer invariant -/

/-- `metric_names` / `metric_aliases` are exactly the names / aliases of the pushed metrics,
which are pairwise distinct, and every pushed metric is well formed -/
structure Inv (st : Init U) : Prop where
  names : ∀ n, n ∈ st.names ↔ some n ∈ st.metrics.map (·.name)
  nd : NamesDistinct st.metrics
  aliases : ∀ a, a ∈ st.aliases ↔ a ∈ aliasesOf st.metrics
  ad : AliasesDistinct st.metrics
  wf : ∀ m ∈ st.metrics, WellFormed m

theorem Inv.init (obj : Nat) (reg : List Name) :
    Inv ({ obj := obj, registry := reg } : Init U) := by
  refine ⟨?_, ?_, ?_, ?_, ?_⟩ <;> simp [NamesDistinct, AliasesDistinct, aliasesOf]

theorem aliasesOf_append (l : List (Metric U)) (m : Metric U) :
    aliasesOf (l ++ [m]) = aliasesOf l ++ m.alias.toList := by
  cases hm : m.alias <;> simp [aliasesOf, List.filterMap_append, hm]

theorem Pushed.inv {st st' : Init U} {n : Name} {m : Metric U}
    (hp : Pushed st st' n m) (hi : Inv st) (hw : WellFormed m) : Inv st' := by
  obtain ⟨hm, hn, _, _, hmn, hfresh, hal⟩ := hp
  have hnot : some n ∉ st.metrics.map (·.name) := fun hc => hfresh ((hi.names n).mpr hc)
  refine ⟨?_, ?_, ?_, ?_, ?_⟩
  · intro x
    rw [hn, hm, List.map_append, List.mem_append, List.mem_cons, hi.names x]
    simp [hmn, or_comm, eq_comm]
  · unfold NamesDistinct
    rw [hm, List.map_append, List.map_singleton, hmn]
    exact nodup_concat hi.nd hnot
  · intro a
    rw [hm, aliasesOf_append, List.mem_append]
    rcases hal with ⟨h1, h2⟩ | ⟨a', h1, _, h3⟩
    · rw [h2, h1, hi.aliases a]; simp
    · rw [h3, h1, List.mem_cons, hi.aliases a]; simp [or_comm]
  · unfold AliasesDistinct
    rw [hm, aliasesOf_append]
    rcases hal with ⟨h1, _⟩ | ⟨a', h1, h2, _⟩
    · rw [h1]; simpa [AliasesDistinct] using hi.ad
    · rw [h1]
      exact nodup_concat hi.ad fun ha => h2 ((hi.aliases a').mpr ha)
  · intro x hx
    rw [hm, List.mem_append] at hx
    rcases hx with hx | hx
    · exact hi.wf x hx
    · simp at hx; subst hx; exact hw

theorem specMetric_wf (r : Req U) (id : MetricId) : WellFormed (specMetric r id) := by
  unfold WellFormed specMetric
  refine ⟨rfl, rfl, rfl, ?_⟩
  cases hv : r.value <;> simp

/-! ### a scripted manager -/

theorem accepted_nil_right (reqs : List (Req U)) : accepted reqs [] = [] := by
  cases reqs <;> rfl

theorem accepted_cons_rej (r : Req U) (rs : List (Req U)) {o : Res MetricId} (l : List (Res MetricId))
    (ho : o.isOk = false) : accepted (r :: rs) (o :: l) = accepted rs l := by
  cases o with
  | ok _ => cases ho
  | err _ => rfl
  | panic => rfl

/-- `accepted` reads the accepted positions off the two lists -/
theorem accepted_eq : ∀ (reqs : List (Req U)) (res : List (Res MetricId)),
    accepted reqs res = (reqs.zip res).filterMap fun p =>
      match p.2 with | .ok id => some (specMetric p.1 id) | _ => none
  | [], _ => by simp [accepted]
  | _ :: _, [] => rfl
  | r :: rs, o :: os => by
    cases o <;> simp [accepted, accepted_eq rs os]

theorem accepted_mem (reqs : List (Req U)) (res : List (Res MetricId)) (k : Nat) (r : Req U)
    (id : MetricId) (h1 : reqs[k]? = some r) (h2 : res[k]? = some (.ok id)) :
    specMetric r id ∈ accepted reqs res :=
  accepted_eq reqs res ▸ List.mem_filterMap.2
    ⟨(r, .ok id), List.mem_of_getElem? (List.getElem?_zip_eq_some.2 ⟨h1, h2⟩), rfl⟩

theorem mem_accepted :
    ∀ (reqs : List (Req U)) (res : List (Res MetricId)) (m : Metric U),
      m ∈ accepted reqs res →
      ∃ (k : Nat) (r : Req U) (id : MetricId), reqs[k]? = some r ∧ res[k]? = some (Res.ok id) ∧ m = specMetric r id := by
  intro reqs res m hm
  obtain ⟨⟨r, o⟩, hmem, hf⟩ := List.mem_filterMap.1 (accepted_eq reqs res ▸ hm)
  obtain ⟨k, hk⟩ := List.getElem?_of_mem hmem
  obtain ⟨h1, h2⟩ := List.getElem?_zip_eq_some.1 hk
  cases o with
  | ok id => exact ⟨k, r, id, h1, h2, (Option.some.inj hf).symm⟩
  | err _ => cases hf
  | panic => cases hf

/-- the ids of the tokens a manager was handed, in request order -/
def okIds (res : List (Res MetricId)) : List MetricId :=
  res.filterMap fun | .ok id => some id | _ => none

theorem okIds_rej {o : Res MetricId} (l : List (Res MetricId)) (ho : o.isOk = false) :
    okIds (o :: l) = okIds l := by
  cases o with
  | ok _ => cases ho
  | err _ => rfl
  | panic => rfl

theorem mem_okIds {res : List (Res MetricId)} {k : Nat} {id : MetricId}
    (h : res[k]? = some (.ok id)) : id ∈ okIds res :=
  List.mem_filterMap.2 ⟨_, List.mem_of_getElem? h, rfl⟩

theorem genAlias_no_panic {cfg : Cfg} {h : Name → Nat} {st : Init U} {n : Name}
    (hc : cfg.inHalf = true ∨ cfg.ovf = false) (hl : st.aliases.length < two32) :
    genAlias cfg h st n ≠ .panic := by
  intro hg
  obtain ⟨h1, h2, _⟩ := genAlias_panic hl hg
  rcases hc with hc | hc
  · rw [h1] at hc; cases hc
  · rw [h2] at hc; cases hc

theorem Pushed.aliases_length {st st' : Init U} {n : Name} {m : Metric U}
    (hp : Pushed st st' n m) : st'.aliases.length ≤ st.aliases.length + 1 := by
  rcases hp.alias with ⟨_, h⟩ | ⟨a, _, _, h⟩ <;> rw [h] <;> simp

/-- No bump of a run over `reqs` from `st` leaves the low half: the bump is the repaired one, or
every hash has room for as many increments as there can be aliases by the end (each bump skips one
alias taken earlier). -/
def HalfCond (cfg : Cfg) (h : Name → Nat) (st : Init U) (reqs : List (Req U)) : Prop :=
  cfg.inHalf = true ∨ (st.obj < two32 ∧
    ∀ r ∈ reqs, h r.name % two32 + (st.aliases.length + reqs.length) < two32)

theorem HalfCond.tail {cfg : Cfg} {h : Name → Nat} {st st1 : Init U} {r : Req U} {rs : List (Req U)}
    (hc : HalfCond cfg h st (r :: rs)) (ho : st1.obj = st.obj)
    (hl : st1.aliases.length ≤ st.aliases.length + 1) : HalfCond cfg h st1 rs :=
  hc.imp_right fun ⟨h1, hb⟩ => ⟨ho ▸ h1, fun r' hr' => by
    have := hb r' (List.mem_cons_of_mem _ hr'); simp only [List.length_cons] at this; omega⟩

/-- What a scripted manager's run over `reqs` from `st` leaves behind: the initializer, and the
tokens — new to `st`, pairwise distinct, of the shape asked for, in the object's half (`half`), and
handed out by the acceptance rule on names alone where the alias generator cannot fail (`flags`). -/
structure Ran (cfg : Cfg) (h : Name → Nat) (st : Init U) (reqs : List (Req U)) (st' : Init U)
    (res : List (Res MetricId)) : Prop where
  length : res.length = reqs.length
  metrics : st'.metrics = st.metrics ++ accepted reqs res
  obj : st'.obj = st.obj
  registry : st'.registry = st.registry
  inv : Inv st → Inv st'
  mono : ∀ i, Taken st i → Taken st' i
  fresh : ∀ id ∈ okIds res, ¬ Taken st id
  nodup : (okIds res).Nodup
  shape : ∀ r id, (r, Res.ok id) ∈ reqs.zip res → Shape r id
  half : HalfCond cfg h st reqs → ∀ a, .alias a ∈ okIds res → a / two32 = st.obj
  flags : cfg.inHalf = true ∨ cfg.ovf = false → st.aliases.length + reqs.length < two32 →
    res.map Res.isOk = acceptFlags st.registry st.names reqs

/-- an error or a caught panic leaves the initializer where it was -/
theorem Ran.rej {cfg : Cfg} {h : Name → Nat} {st s : Init U} {r : Req U} {rs : List (Req U)}
    {o : Res MetricId} {l : List (Res MetricId)} (hq : ∀ p, runReq cfg h st r ≠ .ok p)
    (ho : o.isOk = false) (ih : Ran cfg h st rs s l) : Ran cfg h st (r :: rs) s (o :: l) := by
  refine ⟨congrArg (· + 1) ih.length, by rw [accepted_cons_rej r rs l ho]; exact ih.metrics, ih.obj,
    ih.registry, ih.inv, ih.mono, okIds_rej l ho ▸ ih.fresh, okIds_rej l ho ▸ ih.nodup, ?_,
    fun hc => okIds_rej l ho ▸ ih.half (hc.tail rfl (Nat.le_succ _)), ?_⟩
  · intro r' id' hmem
    rcases List.mem_cons.1 hmem with he | hmem
    · cases he; cases ho
    · exact ih.shape r' id' hmem
  · intro hc hl
    simp only [List.length_cons] at hl
    have hacc : ¬ Accepts st.names st.registry r := fun ha =>
      have ⟨id, st1, h1⟩ := (runReq_accept_iff (genAlias_no_panic hc (by omega))).2 ha
      hq _ h1
    simp only [acceptFlags, hacc, if_false, List.map_cons, ho, ih.flags hc (by omega)]

theorem runReqs_ran {cfg : Cfg} {h : Name → Nat} :
    ∀ (reqs : List (Req U)) (st : Init U),
      Ran cfg h st reqs (runReqs cfg h st reqs).1 (runReqs cfg h st reqs).2 := by
  intro reqs
  induction reqs with
  | nil => exact fun st => ⟨rfl, (List.append_nil _).symm, rfl, rfl, id, fun _ => id,
      fun _ h => (List.not_mem_nil h).elim, .nil, fun _ _ h => (List.not_mem_nil h).elim,
      fun _ _ h => (List.not_mem_nil h).elim, fun _ _ => rfl⟩
  | cons r rs ih =>
    intro st
    cases hq : runReq cfg h st r with
    | ok p =>
      obtain ⟨id, st1⟩ := p
      have ih := ih st1
      obtain ⟨hp, hacc, hid⟩ := runReq_ok hq
      obtain ⟨hf, ht, hm⟩ := runReq_taken hq
      simp only [runReqs, hq]
      refine ⟨congrArg (· + 1) ih.length, by rw [ih.metrics, hp.metrics, List.append_assoc]; rfl,
        ih.obj.trans hp.obj, ih.registry.trans hp.registry,
        fun hi => ih.inv (hp.inv hi (specMetric_wf r id)), fun i hi => ih.mono i (hm i hi),
        ?_, List.nodup_cons.2 ⟨fun hmem => ih.fresh id hmem ht, ih.nodup⟩, ?_, ?_, ?_⟩
      · intro i hi
        rcases List.mem_cons.1 hi with rfl | hi
        · exact hf
        · exact fun hu => ih.fresh i hi (hm i hu)
      · intro r' id' hmem
        rcases List.mem_cons.1 hmem with he | hmem
        · cases he; exact hid.imp_right fun ⟨hu, a, ha, _⟩ => ⟨hu, a, ha⟩
        · exact ih.shape r' id' hmem
      · intro hc a ha
        rcases List.mem_cons.1 ha with he | ha
        · -- the new alias is the one `genAlias` made
          rcases hid with ⟨_, rfl⟩ | ⟨_, a', rfl, hg⟩ <;> cases he
          exact genAlias_half (hc.imp_right fun ⟨ho, hb⟩ => ⟨ho, by
            have := hb r (List.mem_cons_self ..); simp only [List.length_cons] at this; omega⟩) hg
        · exact hp.obj ▸ ih.half (hc.tail hp.obj hp.aliases_length) a ha
      · intro hc hl
        simp only [List.length_cons] at hl
        have := ih.flags hc (by have := hp.aliases_length; omega)
        rw [hp.registry, hp.names] at this
        simp only [acceptFlags, hacc, if_true, List.map_cons, this]; rfl
    | err e =>
      simp only [runReqs, hq]
      exact (ih st).rej (by rw [hq]; nofun) rfl
    | panic =>
      simp only [runReqs, hq]
      exact (ih st).rej (by rw [hq]; nofun) rfl

theorem runReqs_spec {cfg : Cfg} {h : Name → Nat} {reqs : List (Req U)} {st st' : Init U}
    {res : List (Res MetricId)} (hr : runReqs cfg h st reqs = (st', res)) :
    Ran cfg h st reqs st' res := by
  have := runReqs_ran (cfg := cfg) (h := h) reqs st
  rwa [hr] at this

theorem rebirth_ne_bdSeq : rebirthName ≠ bdSeqName := by decide

theorem regDefs_eq (now : Nat) : ∀ (reg : List (Name × U)) (st : Init U),
    (reg.map (·.1)).Nodup → (∀ n ∈ reg.map (·.1), n ∉ st.names) →
    regDefs now st reg = .ok { st with metrics := st.metrics ++ reg.map (defMetric now),
                                       names := (reg.map (·.1)).reverse ++ st.names }
  | [], st, _, _ => by simp [regDefs]
  | (n, u) :: t, st, hnd, hfresh => by
    obtain ⟨hn, hnd⟩ := List.nodup_cons.1 hnd
    rw [regDefs, registerTemplateDefinition, if_neg (hfresh n (by simp))]
    simp only
    rw [regDefs_eq now t _ hnd fun x hx hm => by
      rcases List.mem_cons.1 hm with rfl | hm
      · exact hn hx
      · exact hfresh x (List.mem_cons_of_mem _ hx) hm]
    simp [defMetric]

/-- what `generate_birth_payload` makes of the manager's run, for a node and a device alike: the
metrics and the results, or a panic (the `.unwrap()`) -/
def birthOf (r : Res (Init U × List (Res MetricId))) : Res (List (Metric U) × List (Res MetricId)) :=
  match r with
  | .ok (st, res) => .ok (st.metrics, res)
  | _ => .panic

theorem deviceBirth_eq (cfg : Cfg) (h : Name → Nat) (now id : Nat) (regNames : List Name)
    (mgr : Mgr U) : deviceBirth cfg h now id regNames mgr =
      birthOf (runMgr cfg h now { obj := id, registry := regNames } mgr) := by
  unfold deviceBirth birthOf; cases runMgr cfg h now _ mgr <;> rfl

/-- the initializer `Node::generate_birth_payload` hands to the manager: bdSeq, Node
Control/Rebirth and the registered definitions are in, no alias is taken -/
def nodeStart (now bdseq : Nat) (reg : List (Name × U)) : Init U :=
  { metrics := bdSeqMetric now bdseq :: rebirthMetric now :: reg.map (defMetric now),
    names := (reg.map (·.1)).reverse ++ [rebirthName, bdSeqName],
    aliases := [], obj := 0, registry := reg.map (·.1) }

theorem mem_nodeStart_names {now bdseq : Nat} {reg : List (Name × U)} {n : Name} :
    n ∈ (nodeStart now bdseq reg).names ↔ n = bdSeqName ∨ n = rebirthName ∨ n ∈ reg.map (·.1) := by
  simp [nodeStart, or_comm, or_assoc]

theorem nodeBirth_eq {cfg : Cfg} {h : Name → Nat} (now bdseq : Nat) {reg : List (Name × U)}
    (hreg : RegOk reg) (mgr : Mgr U) :
    nodeBirth cfg h now bdseq reg mgr = birthOf (runMgr cfg h now (nodeStart now bdseq reg) mgr) := by
  obtain ⟨hnd, hb, hr⟩ := hreg
  have e1 : registerMetric cfg h ({ obj := 0, registry := reg.map (·.1) } : Init U)
      ⟨bdSeqName, false, dtInt64, now⟩ (some (.int64 bdseq)) = .ok (.name bdSeqName,
        { metrics := [bdSeqMetric now bdseq], names := [bdSeqName], obj := 0,
          registry := reg.map (·.1) }) := by
    simp [registerMetric, createToken, pushWithId, intoMetric, bdSeqMetric, dtInt64, dtTemplate]
  have e2 : registerMetric cfg h
      ({ metrics := [bdSeqMetric now bdseq], names := [bdSeqName], obj := 0,
         registry := reg.map (·.1) } : Init U)
      ⟨rebirthName, false, dtBoolean, now⟩ (some (.bool false)) = .ok (.name rebirthName,
        { metrics := [bdSeqMetric now bdseq, rebirthMetric now], names := [rebirthName, bdSeqName],
          obj := 0, registry := reg.map (·.1) }) := by
    simp [registerMetric, createToken, pushWithId, intoMetric, rebirthMetric, dtBoolean,
      dtTemplate, rebirth_ne_bdSeq]
  rw [nodeBirth]
  simp only [e1, e2]
  -- the registry's names are neither of the two reserved ones
  rw [regDefs_eq now reg _ hnd fun n hn hm => by
    rcases List.mem_cons.1 hm with rfl | hm
    · exact hr hn
    · exact hb (List.mem_singleton.1 hm ▸ hn)]
  simp only [birthOf, nodeStart, List.cons_append, List.nil_append]
  cases runMgr cfg h now _ mgr <;> rfl

theorem nodeStart_inv (now bdseq : Nat) {reg : List (Name × U)} (hreg : RegOk reg) :
    Inv (nodeStart now bdseq reg) := by
  obtain ⟨hnd, hb, hr⟩ := hreg
  have hal : aliasesOf (nodeStart now bdseq reg).metrics = [] := by
    simp [aliasesOf, nodeStart, bdSeqMetric, rebirthMetric, defMetric, List.filterMap_eq_nil_iff]
  have hdefs : (reg.map (defMetric now)).map (·.name) = (reg.map (·.1)).map some := by
    simp [defMetric]
  refine ⟨?_, ?_, by rw [hal]; simp [nodeStart], by simp [AliasesDistinct, hal], ?_⟩
  · intro n
    rw [mem_nodeStart_names]
    simp [nodeStart, bdSeqMetric, rebirthMetric, defMetric, eq_comm]
  · simp only [NamesDistinct, nodeStart, List.map_cons, hdefs, bdSeqMetric, rebirthMetric,
      List.nodup_cons, List.mem_cons, List.mem_map, not_or]
    refine ⟨⟨fun hc => rebirth_ne_bdSeq (Option.some.inj hc).symm, ?_⟩, ?_,
      List.Pairwise.map _ (fun _ _ hne hc => hne (Option.some.inj hc)) hnd⟩
    · rintro ⟨n, hn, hc⟩; cases hc; exact hb (List.mem_map.2 hn)
    · rintro ⟨n, hn, hc⟩; cases hc; exact hr (List.mem_map.2 hn)
  · intro m hm
    simp only [nodeStart, List.mem_cons, List.mem_map] at hm
    rcases hm with rfl | rfl | ⟨e, _, rfl⟩ <;> simp [WellFormed, bdSeqMetric, rebirthMetric, defMetric]

/-! ### SimpleMetricManager = the scripted manager over its entries, with `.unwrap()` -/

theorem simpleReqs_accepts (now : Nat) (used reg : List Name) (m : SimpleMetric U) :
    Accepts used reg (Req.metric ⟨m.name, m.useAlias, m.dt, now⟩ (some m.value) : Req U) ↔
      m.name ∉ used ∧ m.dt ≠ dtTemplate := by
  unfold Accepts
  constructor
  · rintro ⟨h1, h2, _, _⟩
    exact ⟨h1, fun hc => h2 ⟨_, _, rfl, hc⟩⟩
  · rintro ⟨h1, h2⟩
    refine ⟨h1, ?_, ?_, ?_⟩
    · rintro ⟨d, v, he, hd⟩; cases he; exact h2 hd
    · rintro ⟨_, _, _, he, _⟩; cases he
    · rintro ⟨_, he⟩; cases he

theorem runSimple_ok {cfg : Cfg} {h : Name → Nat} (now : Nat) :
    ∀ (ms : List (SimpleMetric U)) (st : Init U),
      (∀ e, runSimple cfg h now st ms ≠ .err e) ∧
      ∀ s ids, runSimple cfg h now st ms = .ok (s, ids) →
        runReqs cfg h st (simpleReqs now ms) = (s, ids.map .ok)
  | [], st => ⟨fun e hc => (by cases hc), fun s ids hr => by cases hr; rfl⟩
  | m :: ms, st => by
    -- the call is the first request of `simpleReqs`
    have hreg : registerMetric cfg h st ⟨m.name, m.useAlias, m.dt, now⟩ (some (.user m.value)) =
      runReq cfg h st (.metric ⟨m.name, m.useAlias, m.dt, now⟩ (some m.value)) := rfl
    rw [runSimple, hreg]
    cases hq : runReq cfg h st (.metric ⟨m.name, m.useAlias, m.dt, now⟩ (some m.value)) with
    | ok p =>
      obtain ⟨id, st1⟩ := p
      obtain ⟨ih1, ih2⟩ := runSimple_ok now ms st1
      simp only []
      cases hrs : runSimple cfg h now st1 ms with
      | ok q =>
        refine ⟨fun e hc => (by cases hc), fun s ids hr => ?_⟩
        cases hr
        have := ih2 _ _ hrs
        simp only [simpleReqs] at this
        simp only [simpleReqs, List.map_cons, runReqs, hq, this]
      | err e => exact absurd hrs (ih1 e)
      | panic => exact ⟨fun e hc => (by cases hc), fun s ids hr => by cases hr⟩
    | err e => exact ⟨fun e hc => (by cases hc), fun s ids hr => by cases hr⟩
    | panic => exact ⟨fun e hc => (by cases hc), fun s ids hr => by cases hr⟩

/-- `hc`, `hl`: the alias generator cannot fail, so only the name and the datatype decide -/
theorem runSimple_panic_iff {cfg : Cfg} {h : Name → Nat} (now : Nat)
    (hc : cfg.inHalf = true ∨ cfg.ovf = false) :
    ∀ (ms : List (SimpleMetric U)) (st : Init U), st.aliases.length + ms.length < two32 →
      (ms.map (·.name)).Nodup →
      (runSimple cfg h now st ms = .panic ↔ ∃ m ∈ ms, m.name ∈ st.names ∨ m.dt = dtTemplate)
  | [], st, _, _ => by simp [runSimple]
  | m :: ms, st, hl, hnd => by
    obtain ⟨hm, hnd⟩ := List.nodup_cons.1 hnd
    simp only [List.length_cons] at hl
    have hacc := (runReq_accept_iff (r := .metric ⟨m.name, m.useAlias, m.dt, now⟩ (some m.value))
      (genAlias_no_panic (h := h) (st := st) hc (by omega))).trans (simpleReqs_accepts now _ _ m)
    have hreg : registerMetric cfg h st ⟨m.name, m.useAlias, m.dt, now⟩ (some (.user m.value)) =
      runReq cfg h st (.metric ⟨m.name, m.useAlias, m.dt, now⟩ (some m.value)) := rfl
    rw [runSimple, hreg]
    simp only [List.mem_cons, exists_eq_or_imp]
    by_cases hok : m.name ∉ st.names ∧ m.dt ≠ dtTemplate
    · obtain ⟨id, st1, hq⟩ := hacc.2 hok
      have hp := (runReq_ok hq).1
      rw [hq]
      simp only []
      -- the names taken now are those before and `m.name`, which no later entry has
      have : runSimple cfg h now st1 ms = .panic ↔
          (m.name ∈ st.names ∨ m.dt = dtTemplate) ∨ ∃ x ∈ ms, x.name ∈ st.names ∨ x.dt = dtTemplate := by
        rw [runSimple_panic_iff (h := h) now hc ms st1 (by have := hp.aliases_length; omega) hnd,
          hp.names]
        constructor
        · rintro ⟨x, hx, hbad⟩
          refine .inr ⟨x, hx, hbad.imp_left fun hmem => ?_⟩
          rcases List.mem_cons.1 hmem with heq | hmem
          · exact absurd (List.mem_map.2 ⟨x, hx, heq⟩) hm
          · exact hmem
        · rintro (hbad | ⟨x, hx, hbad⟩)
          · exact (hbad.elim hok.1 hok.2).elim
          · exact ⟨x, hx, hbad.imp_left (List.mem_cons_of_mem _)⟩
      rw [← this]
      cases runSimple cfg h now st1 ms <;> simp
    · have hbad : m.name ∈ st.names ∨ m.dt = dtTemplate := by
        by_cases h1 : m.name ∈ st.names
        · exact .inl h1
        · exact .inr (Classical.not_not.1 fun h2 => hok ⟨h1, h2⟩)
      cases hq : runReq cfg h st (.metric ⟨m.name, m.useAlias, m.dt, now⟩ (some m.value)) with
      | ok p => exact absurd (hacc.1 ⟨p.1, p.2, hq⟩) hok
      | err e => exact ⟨fun _ => .inl hbad, fun _ => rfl⟩
      | panic => exact ⟨fun _ => .inl hbad, fun _ => rfl⟩

/-! ### device ids -/

theorem lookup_mem {α β} [BEq α] [LawfulBEq α] (l : List (α × β)) (a : α) (b : β)
    (h : l.lookup a = some b) : (a, b) ∈ l := by
  obtain ⟨l₁, l₂, rfl, _⟩ := List.lookup_eq_some_iff.1 h
  simp

theorem nodup_filterMap_inj {α β} (f : α → Option β) (l : List α) (h : (l.filterMap f).Nodup) :
    ∀ a ∈ l, ∀ b ∈ l, ∀ y, f a = some y → f b = some y → a = b := by
  -- distinct positions have distinct images; at one position there is nothing to show
  have hp := List.pairwise_filterMap.1 h
  have := List.Pairwise.forall_of_forall_of_flip
    (R := fun a b => ∀ y, f a = some y → f b = some y → a = b) (fun _ _ _ _ _ => rfl)
    (hp.imp fun hab y ha hb => absurd rfl (hab y ha y hb))
    (hp.imp fun hab y hb ha => absurd rfl (hab y ha y hb))
  exact fun a ha b hb => this ha hb

theorem nodup_map_inj {α β} (f : α → β) (l : List α) (h : (l.map f).Nodup) :
    ∀ a ∈ l, ∀ b ∈ l, f a = f b → a = b :=
  fun a ha b hb hab =>
    nodup_filterMap_inj (some ∘ f) l (List.filterMap_eq_map ▸ h) a ha b hb (f b) (congrArg some hab) rfl

theorem genDeviceId_ok {cfg : Cfg} {h : Name → Nat} {ids : List Nat} {n : Name} {id : Nat}
    (hg : genDeviceId cfg h ids n = .ok id) : 0 < id ∧ id < two32 ∧ id ∉ ids := by
  obtain ⟨h1, k, _, hk⟩ := bump_ok hg
  simp only [List.mem_cons, not_or] at h1
  have : (h n % two32 + k) % two32 < two32 := Nat.mod_lt _ (by decide)
  exact ⟨by omega, by omega, h1.2⟩

theorem addDevice_ok {cfg : Cfg} {h : Name → Nat} {dm dm' : DevMap} {n : Name} {id : Nat}
    (ha : addDevice cfg h dm n = .ok dm' id) (hok : DevOk dm) :
    DevOk dm' ∧ dm'.devs = (n, id) :: dm.devs ∧ 0 < id ∧ id < two32 := by
  unfold addDevice at ha
  split at ha
  · cases ha
  · split at ha
    · cases ha
    · rename_i hn
      split at ha
      · rename_i id' hg
        cases ha
        obtain ⟨h0, h32, hni⟩ := genDeviceId_ok hg
        obtain ⟨k1, k2, k3, k4⟩ := hok
        refine ⟨⟨?_, ?_, ?_, ?_⟩, rfl, h0, h32⟩
        · simp only [List.map_cons, List.nodup_cons]; exact ⟨hn, k1⟩
        · simp only [List.map_cons, List.nodup_cons]
          exact ⟨fun hc => hni ((k4 _).mpr hc), k2⟩
        · intro e he
          simp only [List.mem_cons] at he
          rcases he with he | he
          · subst he; exact ⟨h0, h32⟩
          · exact k3 e he
        · intro x
          simp only [List.mem_cons, List.map_cons, k4 x]
      · cases ha

theorem removeDevice_ok {dm : DevMap} (n : Name) (hok : DevOk dm) : DevOk (removeDevice dm n) := by
  unfold removeDevice
  split
  · exact hok
  · rename_i id hl
    have hmem := lookup_mem _ _ _ hl
    obtain ⟨k1, k2, k3, k4⟩ := hok
    refine ⟨?_, ?_, ?_, ?_⟩
    · exact List.Nodup.sublist (List.Sublist.map _ List.filter_sublist) k1
    · exact List.Nodup.sublist (List.Sublist.map _ List.filter_sublist) k2
    · intro e he; exact k3 e (List.mem_filter.mp he).1
    · intro x
      simp only [List.mem_filter, List.mem_map, decide_eq_true_eq]
      constructor
      · rintro ⟨hx, hne⟩
        obtain ⟨e, he, hex⟩ := List.mem_map.mp ((k4 x).mp hx)
        refine ⟨e, ⟨he, ?_⟩, hex⟩
        intro hen
        have := nodup_map_inj (·.1) dm.devs k1 e he (n, id) hmem hen
        subst this
        exact hne hex.symm
      · rintro ⟨e, ⟨he, hen⟩, hex⟩
        refine ⟨(k4 x).mpr (List.mem_map.mpr ⟨e, he, hex⟩), ?_⟩
        intro hxi
        subst hxi
        have := nodup_map_inj (·.2) dm.devs k2 e he (n, x) hmem hex
        exact hen (by rw [this])

theorem applyDevOp_ok {cfg : Cfg} {h : Name → Nat} {dm : DevMap} (op : DevOp) (hok : DevOk dm) :
    DevOk (applyDevOp cfg h dm op) := by
  cases op with
  | add n =>
    simp only [applyDevOp]
    split
    · rename_i dm' id ha; exact (addDevice_ok ha hok).1
    · exact hok
  | remove n => exact removeDevice_ok n hok

theorem foldl_devOk {cfg : Cfg} {h : Name → Nat} (ops : List DevOp) :
    ∀ {dm : DevMap}, DevOk dm → DevOk (ops.foldl (applyDevOp cfg h) dm) := by
  induction ops with
  | nil => exact id
  | cons op t ih => exact fun hd => ih (applyDevOp_ok op hd)

theorem runMgr_ok {cfg : Cfg} {h : Name → Nat} {now : Nat} {st s : Init U} {mgr : Mgr U}
    {res : List (Res MetricId)} (hr : runMgr cfg h now st mgr = .ok (s, res)) :
    runReqs cfg h st (mgrReqs now mgr) = (s, res) := by
  cases mgr with
  | scripted reqs =>
    simp only [runMgr, Res.ok.injEq] at hr
    exact hr
  | simple ms =>
    simp only [runMgr] at hr
    split at hr
    · rename_i s' ids hrs
      cases hr
      exact (runSimple_ok now ms st).2 _ ids hrs
    · cases hr
    · cases hr

theorem runMgr_scripted_ok {cfg : Cfg} {h : Name → Nat} {now : Nat} (st : Init U)
    (reqs : List (Req U)) : ∃ s res, runMgr cfg h now st (.scripted reqs) = .ok (s, res) :=
  ⟨_, _, rfl⟩

theorem acceptFlags_congr (reg : List Name) :
    ∀ (reqs : List (Req U)) (u1 u2 : List Name), (∀ n, n ∈ u1 ↔ n ∈ u2) →
      acceptFlags reg u1 reqs = acceptFlags reg u2 reqs := by
  intro reqs
  induction reqs with
  | nil => intros; rfl
  | cons r rs ih =>
    intro u1 u2 hu
    have hacc : Accepts u1 reg r ↔ Accepts u2 reg r := by
      unfold Accepts; rw [hu]
    unfold acceptFlags
    by_cases ha : Accepts u1 reg r
    · have ha2 := hacc.mp ha
      simp only [ha, ha2, if_true]
      rw [ih (r.name :: u1) (r.name :: u2) (by intro n; simp [hu n])]
    · have ha2 : ¬ Accepts u2 reg r := fun hc => ha (hacc.mpr hc)
      simp only [ha, ha2, if_false]
      rw [ih u1 u2 hu]

theorem token_identifies {ms : List (Metric U)} (hnd : NamesDistinct ms) (had : AliasesDistinct ms)
    {r : Req U} {id : MetricId}
    (hid : (r.details.useAlias = false ∧ id = .name r.name) ∨ (∃ a, id = .alias a))
    (hb : specMetric r id ∈ ms) (v : Option U) (t : Nat) :
    Identifies (publishToMetric (createPublish id v t)) (specMetric r id) ∧
    ∀ b' ∈ ms, Identifies (publishToMetric (createPublish id v t)) b' → b' = specMetric r id := by
  rcases hid with ⟨_, hid⟩ | ⟨a, hid⟩
  · subst hid
    have hp : (publishToMetric (createPublish (MetricId.name r.name) v t) : Metric U).alias = none
        ∧ (publishToMetric (createPublish (MetricId.name r.name) v t) : Metric U).name
            = some r.name := by
      cases v <;> simp [publishToMetric, createPublish]
    constructor
    · simp [Identifies, hp.1, hp.2, specMetric, idAlias]
    · intro b' hb' hident
      simp only [Identifies, hp.1, hp.2] at hident
      have hnd' : (ms.map (·.name)).Nodup := hnd
      exact nodup_map_inj (·.name) ms hnd' b' hb' _ hb (by rw [← hident.2.1]; simp [specMetric])
  · subst hid
    have hp : (publishToMetric (createPublish (MetricId.alias a) v t) : Metric U).alias = some a := by
      cases v <;> simp [publishToMetric, createPublish]
    constructor
    · simp [Identifies, hp, specMetric, idAlias]
    · intro b' hb' hident
      simp only [Identifies, hp] at hident
      have had' : (ms.filterMap (·.alias)).Nodup := had
      exact nodup_filterMap_inj (·.alias) ms had' b' hb' _ hb a hident (by simp [specMetric, idAlias])

/-! ### a manager run from a state that satisfies the invariant: what both kinds of birth share -/

theorem runReqs_well_formed {cfg : Cfg} {h : Name → Nat} {st st' : Init U} {reqs : List (Req U)}
    {res : List (Res MetricId)} (hr : runReqs cfg h st reqs = (st', res)) (hi : Inv st) :
    (∀ m ∈ st'.metrics, WellFormed m) ∧ NamesDistinct st'.metrics ∧ AliasesDistinct st'.metrics :=
  have := (runReqs_spec hr).inv hi
  ⟨this.wf, this.nd, this.ad⟩

theorem runReqs_alias_half {cfg : Cfg} {h : Name → Nat} {st st' : Init U} {reqs : List (Req U)}
    {res : List (Res MetricId)} (hr : runReqs cfg h st reqs = (st', res)) (hi : Inv st)
    (h0 : st.aliases = [])
    (hc : cfg.inHalf = true ∨ (st.obj < two32 ∧ NoCarry h (reqs.map (·.name)))) :
    ∀ m ∈ st'.metrics, ∀ a, m.alias = some a → a / two32 = st.obj := by
  have k := runReqs_spec hr
  intro m hm a ha
  rcases List.mem_append.1 (k.metrics ▸ hm) with hm | hm
  · have := (hi.aliases a).2 (List.mem_filterMap.2 ⟨m, hm, ha⟩)
    rw [h0] at this; cases this
  · -- an alias of an accepted request is the id of its token
    obtain ⟨i, r, id, _, hres, rfl⟩ := mem_accepted _ _ _ hm
    cases id with
    | name _ => cases ha
    | alias b =>
      cases ha
      refine k.half (hc.imp_right fun ⟨ho, hn⟩ => ⟨ho, fun r hr' => ?_⟩) a (mem_okIds hres)
      have := hn r.name (List.mem_map.mpr ⟨r, hr', rfl⟩)
      rw [h0]; simpa using this

/-- births of different objects share no alias: the high half of an alias is its object's id -/
theorem aliases_disjoint {ms₁ ms₂ : List (Metric U)} {o₁ o₂ : Nat}
    (h₁ : ∀ m ∈ ms₁, ∀ a, m.alias = some a → a / two32 = o₁)
    (h₂ : ∀ m ∈ ms₂, ∀ a, m.alias = some a → a / two32 = o₂) (hne : o₁ ≠ o₂) :
    ∀ a ∈ aliasesOf ms₁, a ∉ aliasesOf ms₂ := by
  intro a ha₁ ha₂
  obtain ⟨m₁, hm₁, e₁⟩ := List.mem_filterMap.mp ha₁
  obtain ⟨m₂, hm₂, e₂⟩ := List.mem_filterMap.mp ha₂
  exact hne ((h₁ m₁ hm₁ a e₁).symm.trans (h₂ m₂ hm₂ a e₂))

theorem runReqs_token_fidelity {cfg : Cfg} {h : Name → Nat} {st st' : Init U}
    {reqs : List (Req U)} {res : List (Res MetricId)}
    (hr : runReqs cfg h st reqs = (st', res)) (hi : Inv st)
    {k : Nat} {r : Req U} {id : MetricId}
    (hk : reqs[k]? = some r) (hres : res[k]? = some (.ok id)) (v : Option U) (t : Nat) :
    specMetric r id ∈ st'.metrics ∧
    (publishToMetric (createPublish id v t)).alias = idAlias id ∧
    (publishToMetric (createPublish id v t)).name = idName id ∧
    Identifies (publishToMetric (createPublish id v t)) (specMetric r id) ∧
    ∀ b ∈ st'.metrics, Identifies (publishToMetric (createPublish id v t)) b →
      b = specMetric r id := by
  obtain ⟨_, hnd, had⟩ := runReqs_well_formed hr hi
  have hmem : specMetric r id ∈ st'.metrics := by
    rw [(runReqs_spec hr).metrics]
    exact List.mem_append_right _ (accepted_mem _ _ k r id hk hres)
  have hshape := (runReqs_spec hr).shape r id
    (List.mem_of_getElem? (List.getElem?_zip_eq_some.2 ⟨hk, hres⟩))
  obtain ⟨i1, i2⟩ := token_identifies hnd had (hshape.imp_right (·.2)) hmem v t
  refine ⟨hmem, ?_, ?_, i1, i2⟩
  · cases id <;> cases v <;> rfl
  · cases id <;> cases v <;> rfl

/-- a birth that comes about is the scripted run of its manager's calls on the start state -/
theorem birth_run {cfg : Cfg} {h : Name → Nat} {now : Nat} {st0 : Init U} {mgr : Mgr U}
    {ms : List (Metric U)} {res : List (Res MetricId)}
    (hb : birthOf (runMgr cfg h now st0 mgr) = .ok (ms, res)) :
    ∃ st', runReqs cfg h st0 (mgrReqs now mgr) = (st', res) ∧ ms = st'.metrics := by
  unfold birthOf at hb
  split at hb
  · rename_i hm; cases hb; exact ⟨_, runMgr_ok hm, rfl⟩
  · cases hb

theorem birthOf_simple {cfg : Cfg} {h : Name → Nat} (now : Nat)
    (hc : cfg.inHalf = true ∨ cfg.ovf = false) (st : Init U) (sm : List (SimpleMetric U))
    (hl : st.aliases.length + sm.length < two32) (hnd : (sm.map (·.name)).Nodup) :
    (birthOf (runMgr cfg h now st (.simple sm)) = .panic ↔
      ∃ m ∈ sm, m.name ∈ st.names ∨ m.dt = dtTemplate) ∧
    (∀ ms res, birthOf (runMgr cfg h now st (.simple sm)) = .ok (ms, res) →
      birthOf (runMgr cfg h now st (.scripted (simpleReqs now sm))) = .ok (ms, res) ∧
      ∀ o ∈ res, o.isOk = true) := by
  have hpan := runSimple_panic_iff (h := h) now hc sm st hl hnd
  obtain ⟨herr, hok⟩ := runSimple_ok (cfg := cfg) (h := h) now sm st
  simp only [runMgr]
  cases hrs : runSimple cfg h now st sm with
  | ok p =>
    obtain ⟨s, ids⟩ := p
    refine ⟨⟨fun hx => (by cases hx), fun hx => by rw [← hpan, hrs] at hx; cases hx⟩, ?_⟩
    intro ms res hb
    cases hb
    refine ⟨by rw [hok s ids hrs]; rfl, fun o ho => ?_⟩
    obtain ⟨i, _, rfl⟩ := List.mem_map.mp ho
    rfl
  | err e => exact absurd hrs (herr e)
  | panic => exact ⟨⟨fun _ => hpan.1 hrs, fun _ => rfl⟩, fun ms res hb => by cases hb⟩

end Srad.Birth
