/- Lemmas for C15H: the payload the host builds, the broker double (filter matching against the
node's subscriptions), and the composition with the receive path and the node side. -/
import SradModel.Model.HostCmd
import SradModel.Proofs.Topic
import SradModel.Proofs.Cmd

namespace Srad.HostCmd
open Srad.Codec Srad.Cmd
open Srad.Topic (Verb SLASH SPBV10 STATE NCMD DCMD splitSlash nodeTopic deviceTopic NameOk NoSlash
  splitSlash_append splitSlash_noSlash noSlash_SPBV10 noSlash_STATE)

theorem toMetric_core (p : PublishMetric) :
    (toMetric p).core =
      { name := (match p.id with | .name n => some n | .alias _ => none),
        alias := (match p.id with | .name _ => none | .alias a => some a),
        ts := p.ts, isNull := none, value := some p.value } := by
  rcases p with ⟨id, v, ts⟩
  cases id <;> rfl

theorem toMetric_extras (p : PublishMetric) :
    (toMetric p).datatype = none ∧ (toMetric p).historical = none ∧ (toMetric p).transient = none ∧
      (toMetric p).hasMetadata = false ∧ (toMetric p).hasProps = false := by
  simp [toMetric]

/-- the node-side conversion accepts every metric the host builds, unchanged -/
theorem toMessageMetric_toMetric (p : PublishMetric) :
    toMessageMetric (toMetric p).core = some p.asDelivered := by
  rcases p with ⟨id, v, ts⟩
  cases id <;> rfl

theorem drainIter_host (ms : List PublishMetric) :
    drainIter ((ms.map toMetric).map (·.core)) = ms.map PublishMetric.asDelivered := by
  induction ms with
  | nil => rfl
  | cons p t ih =>
    simp only [List.map_cons, drainIter, toMessageMetric_toMetric]
    rw [ih]

theorem toCmd_metricsToPayload (clock : Nat) (ms : List PublishMetric) :
    (metricsToPayload clock ms).toCmd =
      { ts := some clock, metrics := (ms.map toMetric).map (·.core) } := rfl

theorem deliveredSpec_host (clock : Nat) (ms : List PublishMetric) :
    deliveredSpec (metricsToPayload clock ms).toCmd.metrics = ms.map PublishMetric.asDelivered := by
  rw [← drainIter_eq_spec, toCmd_metricsToPayload]
  exact drainIter_host ms

theorem expectedCmd_host (target : Option Nat) (clock : Nat) (ms : List PublishMetric) :
    expectedCmd target .cmd (metricsToPayload clock ms).toCmd =
      [.cmd target clock (ms.map PublishMetric.asDelivered)] := by
  have h := deliveredSpec_host clock ms
  simp only [expectedCmd, if_true]
  rw [toCmd_metricsToPayload] at h ⊢
  simp only [h]

theorem send_eq (try_ : Bool) (clock : Nat) (t : PublishTopic) (ms : List PublishMetric) :
    send try_ clock t ms = clientCall try_ t (metricsToPayload clock ms) := by
  cases try_ <;> rfl

/-! ### the broker double -/

theorem matchLv_cons_cons (f : Bytes) (fs : List Bytes) (t : Bytes) (ts : List Bytes) :
    matchLv (f :: fs) (t :: ts) =
      ((decide (f = HASH) && fs.isEmpty) || ((decide (f = PLUS) || decide (f = t)) && matchLv fs ts)) := by
  rw [matchLv]
  by_cases h : (decide (f = HASH) && fs.isEmpty) = true
  · simp [h]
  · simp [h]

theorem matchLv_cons_nil (f : Bytes) (fs : List Bytes) :
    matchLv (f :: fs) [] = (decide (f = HASH) && fs.isEmpty) := by
  rw [matchLv]
  by_cases h : (decide (f = HASH) && fs.isEmpty) = true
  · simp [h]
  · simp [h]

theorem NameOk.ne_plus {s : Bytes} (h : NameOk s) : s ≠ PLUS := by
  rintro rfl
  exact h.2.2.1 (by simp [PLUS])

theorem NameOk.ne_hash {s : Bytes} (h : NameOk s) : s ≠ HASH := by
  rintro rfl
  exact h.2.2.2 (by simp [HASH])

theorem noSlash_NCMD : NoSlash NCMD := by unfold NoSlash; decide
theorem noSlash_DCMD : NoSlash DCMD := by unfold NoSlash; decide
theorem noSlash_PLUS : NoSlash PLUS := by unfold NoSlash; decide
theorem noSlash_HASH : NoSlash HASH := by unfold NoSlash; decide

theorem split_nodeTopic (g n : Bytes) (hg : NoSlash g) (hn : NoSlash n) :
    splitSlash (nodeTopic g .cmd n) = [SPBV10, g, NCMD, n] := by
  unfold nodeTopic Topic.nodeTopicRaw Topic.nodeMessageStr
  rw [splitSlash_append _ _ noSlash_SPBV10, splitSlash_append _ _ hg,
    splitSlash_append _ _ noSlash_NCMD, splitSlash_noSlash _ hn]

theorem split_deviceTopic (g n d : Bytes) (hg : NoSlash g) (hn : NoSlash n) (hd : NoSlash d) :
    splitSlash (deviceTopic g .cmd n d) = [SPBV10, g, DCMD, n, d] := by
  unfold deviceTopic Topic.deviceMessageStr
  rw [splitSlash_append _ _ noSlash_SPBV10, splitSlash_append _ _ hg,
    splitSlash_append _ _ noSlash_DCMD, splitSlash_append _ _ hn, splitSlash_noSlash _ hd]

theorem split_stateFilter : splitSlash (Topic.stateHostTopic HASH) = [SPBV10, STATE, HASH] := by
  unfold Topic.stateHostTopic
  rw [splitSlash_append _ _ noSlash_SPBV10, splitSlash_append _ _ noSlash_STATE,
    splitSlash_noSlash _ noSlash_HASH]

/-- a publish on the NCMD topic of `(g, n)`, or on the DCMD topic of any device of `(g, n)`,
passes the node's subscriptions iff `(g, n)` are the node's own ids -/
theorem brokerDelivers_iff {cfg : NodeCfg} {g n topic : Bytes} (hG : NameOk cfg.group)
    (hN : NameOk cfg.node) (hs : g ≠ STATE)
    (ht : splitSlash topic = [SPBV10, g, NCMD, n] ∨ ∃ d, splitSlash topic = [SPBV10, g, DCMD, n, d]) :
    brokerDelivers cfg topic = true ↔ g = cfg.group ∧ n = cfg.node := by
  unfold brokerDelivers nodeFilters mqttMatch
  -- The node also subscribes to `spBv1.0/STATE/#`, which would swallow every topic of a group
  -- called `STATE`, whatever the node's own ids: this is where `hs` is needed, and only here.
  have hstate : ∀ rest, matchLv [SPBV10, STATE, HASH] (SPBV10 :: g :: rest) = false := fun rest => by
    simp +decide [matchLv_cons_cons, Ne.symm hs]
  rcases ht with ht | ⟨d, ht⟩ <;>
  · simp only [List.any_cons, List.any_nil, split_nodeTopic _ _ hG.noSlash hN.noSlash,
      split_deviceTopic _ _ _ hG.noSlash hN.noSlash noSlash_PLUS, split_stateFilter, ht, hstate,
      Bool.or_false]
    -- the other level names and wildcards are closed byte strings: told apart by evaluation
    simp +decide only [matchLv_cons_cons, matchLv, NameOk.ne_plus hG, NameOk.ne_hash hG,
      NameOk.ne_plus hN, NameOk.ne_hash hN]
    simp
    constructor <;> rintro ⟨a, b⟩ <;> exact ⟨a.symm, b.symm⟩

/-! ### transport -/

section Transport
variable (valid : Bytes → Bool) (enc : WirePayload → Bytes) (dec : Bytes → Option WirePayload)
  (cfg : NodeCfg) (hG : NameOk cfg.group) (hN : NameOk cfg.node) (hvG : valid cfg.group = true)
  (hvN : valid cfg.node = true) (hS : cfg.group ≠ STATE) (try_ : Bool) (p : WirePayload)
  (hcodec : dec (enc p) = some p)
include hG hN hvG hvN hS hcodec

theorem transport_node_own :
    transport valid enc dec cfg (clientCall try_ (.node cfg.group cfg.node) p) =
      .handled (.node (.msg .cmd p.toCmd)) := by
  have hb := (brokerDelivers_iff hG hN hS (.inl (split_nodeTopic _ _ hG.noSlash hN.noSlash))).mpr ⟨rfl, rfl⟩
  have hp := Topic.parse_nodeTopic valid dec cfg.group cfg.node (enc p) .cmd p hG hN hvG hvN hS hcodec
  simp only [transport, clientCall, hb, hp, nodeOp, Topic.kindOfVerb, msgKind]
  rfl

theorem transport_device_own (d : Bytes) (hD : NameOk d) (hvD : valid d = true) :
    transport valid enc dec cfg (clientCall try_ (.device cfg.group cfg.node d) p) =
      match devToken cfg.devices d with
      | some k => .handled (.dev k (.cmd .cmd p.toCmd))
      | none => .ignored := by
  have hb := (brokerDelivers_iff hG hN hS
    (.inr ⟨d, split_deviceTopic _ _ _ hG.noSlash hN.noSlash hD.noSlash⟩)).mpr ⟨rfl, rfl⟩
  have hp := Topic.parse_deviceTopic valid dec cfg.group cfg.node d (enc p) .cmd p hG hN hD hvG hvN hvD hS
    hcodec
  simp only [transport, clientCall, hb, hp, nodeOp]
  cases devToken cfg.devices d <;> rfl

end Transport

theorem transport_other (valid : Bytes → Bool) (enc : WirePayload → Bytes)
    (dec : Bytes → Option WirePayload) (cfg : NodeCfg) (c : Call)
    (h : brokerDelivers cfg c.topic = false) : transport valid enc dec cfg c = .unrouted := by
  simp [transport, h]

theorem devToken_of_mem (devs : List Bytes) (d : Bytes) (h : d ∈ devs) : ∃ k, devToken devs d = some k := by
  induction devs with
  | nil => simp at h
  | cons x t ih =>
    simp only [devToken]
    split
    · exact ⟨0, rfl⟩
    · rename_i hx
      rcases List.mem_cons.mp h with h | h
      · exact absurd h.symm hx
      · obtain ⟨k, hk⟩ := ih h
        exact ⟨k + 1, by simp [hk]⟩

end Srad.HostCmd
