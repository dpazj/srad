import SradModel.Model.Rumqtt

/-!
Helper lemmas for M14 (the rumqttc glue): `poll_rumqtt` outcome by outcome as a simp set, the
execution log and its projections under `++`, the state as a function of the reports, the two
run lemmas the count theorems rest on (`offlineCount_stretch`, `stutter`), and the connect log.
-/
namespace Srad.Rumqtt
open Srad.StateJson (Bytes)
open Srad.Topic (QoS Verb)

variable {E : Type}

theorem length_filter_cons {α : Type} (p : α → Bool) (x : α) (l : List α) :
    ((x :: l).filter p).length = (l.filter p).length + (p x).toNat := by
  cases h : p x <;> simp [h]

attribute [simp] isOnline isOffline isConnAck isDisc

@[simp] theorem onlineCount_nil : onlineCount ([] : List (SradEv E)) = 0 := rfl
@[simp] theorem onlineCount_cons (x : SradEv E) (l : List (SradEv E)) :
    onlineCount (x :: l) = onlineCount l + (isOnline x).toNat := length_filter_cons _ _ _
@[simp] theorem offlineCount_nil : offlineCount ([] : List (SradEv E)) = 0 := rfl
@[simp] theorem offlineCount_cons (x : SradEv E) (l : List (SradEv E)) :
    offlineCount (x :: l) = offlineCount l + (isOffline x).toNat := length_filter_cons _ _ _
@[simp] theorem connAckCount_nil : connAckCount [] = 0 := rfl
@[simp] theorem connAckCount_cons (e : RuEv) (t : List RuEv) :
    connAckCount (e :: t) = connAckCount t + (isConnAck e).toNat := length_filter_cons _ _ _
@[simp] theorem discCount_nil : discCount [] = 0 := rfl
@[simp] theorem discCount_cons (e : RuEv) (t : List RuEv) :
    discCount (e :: t) = discCount t + (isDisc e).toNat := length_filter_cons _ _ _

-- `poll_rumqtt` outcome by outcome: only an error looks at the state

section
variable (f : Bytes → Bytes → E) (s : ConnState)

@[simp] theorem pollStep_connAck : pollStep f s .connAck = (.connected, some .online, false) := by
  cases s <;> rfl
@[simp] theorem pollStep_incomingDisconnect :
    pollStep f s .incomingDisconnect = (.disconnected, some .offline, false) := by cases s <;> rfl
@[simp] theorem pollStep_outgoingDisconnect :
    pollStep f s .outgoingDisconnect = (.manualDisconnected, some .offline, false) := by cases s <;> rfl
@[simp] theorem pollStep_otherEvent : pollStep f s .otherEvent = (s, none, false) := by cases s <;> rfl
@[simp] theorem pollStep_error_connected :
    pollStep f .connected .error = (.disconnected, some .offline, false) := rfl
@[simp] theorem pollStep_error_disconnected :
    pollStep f .disconnected .error = (.disconnected, none, true) := rfl
@[simp] theorem pollStep_error_manual :
    pollStep f .manualDisconnected .error = (.manualDisconnected, none, false) := rfl

end

@[simp] theorem pollStep_incomingPublish (f : Bytes → Bytes → E) (s : ConnState) (t p : Bytes) :
    pollStep f s (.incomingPublish t p) = (s, some (.message (f t p)), false) := by
  cases s <;> rfl

@[simp] theorem reports_cons (f : Bytes → Bytes → E) (s : ConnState) (e : RuEv) (t : List RuEv) :
    reports f s (e :: t) = (pollStep f s e).2.1.toList ++ reports f (pollStep f s e).1 t := by
  cases h : (pollStep f s e).2.1 <;> simp [reports, h]

theorem reports_eq_filterMap (f : Bytes → Bytes → E) (s : ConnState) (tr : List RuEv) :
    reports f s tr = (stepLog f s tr).filterMap (·.report) := by
  induction tr generalizing s with
  | nil => rfl
  | cons e t ih =>
    simp only [reports, stepLog]
    cases h : (pollStep f s e).2.1 <;> simp [ih]

theorem stepLog_append (f : Bytes → Bytes → E) (s : ConnState) (a b : List RuEv) :
    stepLog f s (a ++ b) = stepLog f s a ++ stepLog f (finalState f s a) b := by
  induction a generalizing s with
  | nil => rfl
  | cons e t ih => simp [stepLog, finalState, ih]

theorem reports_append (f : Bytes → Bytes → E) (s : ConnState) (a b : List RuEv) :
    reports f s (a ++ b) = reports f s a ++ reports f (finalState f s a) b := by
  simp [reports_eq_filterMap, stepLog_append]

theorem finalState_append (f : Bytes → Bytes → E) (s : ConnState) (a b : List RuEv) :
    finalState f s (a ++ b) = finalState f (finalState f s a) b := by
  induction a generalizing s with
  | nil => rfl
  | cons e t ih => simp [finalState, ih]

theorem sleepCount_append (f : Bytes → Bytes → E) (s : ConnState) (a b : List RuEv) :
    sleepCount f s (a ++ b) = sleepCount f s a + sleepCount f (finalState f s a) b := by
  induction a generalizing s with
  | nil => simp [sleepCount, finalState]
  | cons e t ih => simp [sleepCount, finalState, ih]; omega

theorem stepLog_row (f : Bytes → Bytes → E) (s : ConnState) (tr : List RuEv) :
    ∀ st ∈ stepLog f s tr,
      st.post = (pollStep f st.pre st.ev).1 ∧ st.report = (pollStep f st.pre st.ev).2.1 ∧
      st.slept = (pollStep f st.pre st.ev).2.2 := by
  induction tr generalizing s with
  | nil => simp [stepLog]
  | cons e t ih =>
    intro st h
    simp only [stepLog, List.mem_cons] at h
    rcases h with h | h
    · subst h; simp
    · exact ih _ st h

theorem stepLog_events (f : Bytes → Bytes → E) (s : ConnState) (tr : List RuEv) :
    (stepLog f s tr).map (·.ev) = tr := by
  induction tr generalizing s with
  | nil => rfl
  | cons e t ih => simp [stepLog, ih]

theorem pollStep_online_iff (f : Bytes → Bytes → E) (s : ConnState) (e : RuEv) :
    (pollStep f s e).2.1 = some .online ↔ e = .connAck := by
  cases e with
  | error => cases s <;> simp
  | _ => simp

theorem pollStep_offline_iff (f : Bytes → Bytes → E) (s : ConnState) (e : RuEv) :
    (pollStep f s e).2.1 = some .offline ↔
      (e = .incomingDisconnect ∨ e = .outgoingDisconnect ∨ (e = .error ∧ s = .connected)) := by
  cases e with
  | error => cases s <;> simp
  | _ => simp

theorem pollStep_connected_iff (f : Bytes → Bytes → E) (s : ConnState) (e : RuEv) :
    (pollStep f s e).1 = .connected ↔
      (e = .connAck ∨ (s = .connected ∧ (e = .otherEvent ∨ ∃ t p, e = .incomingPublish t p))) := by
  cases e with
  | error => cases s <;> simp
  | _ => simp

theorem finalState_connected_iff (f : Bytes → Bytes → E) (s : ConnState) (tr : List RuEv) :
    finalState f s tr = .connected ↔
      (lastConn (reports f s tr) = some true ∨
        (lastConn (reports f s tr) = none ∧ s = .connected)) := by
  induction tr generalizing s with
  | nil => simp [finalState, reports, lastConn]
  | cons e t ih =>
    have := ih (pollStep f s e).1
    rw [finalState, this]
    cases e with
    | error => cases s <;> simp [lastConn] <;> cases lastConn (reports f _ t) <;> simp
    | _ => simp [lastConn] <;> cases lastConn (reports f _ t) <;> simp

/-- Offline reports of a ConnAck-free stretch from any state: its DISCONNECT events, plus one if
it starts connected and its first loss indication is an error -/
theorem offlineCount_stretch (f : Bytes → Bytes → E) (s : ConnState) (seg : List RuEv)
    (hseg : ∀ e ∈ seg, e ≠ .connAck) :
    offlineCount (reports f s seg) =
      discCount seg + (if s = .connected ∧ firstLoss seg = some .error then 1 else 0) := by
  induction seg generalizing s with
  | nil => simp [reports, firstLoss]
  | cons e t ih =>
    have ih := fun s => ih s fun x hx => hseg x (List.mem_cons_of_mem _ hx)
    cases e with
    | connAck => exact absurd rfl (hseg _ (List.mem_cons_self ..))
    | error => cases s <;> simp [firstLoss, ih]
    | incomingPublish | otherEvent => simp [ih]; rfl
    | _ => simp [firstLoss, ih]

/-- a run on which the machine stutters: same state, nothing reported, same sleep flag -/
theorem stutter (f : Bytes → Bytes → E) (s : ConnState) (b : Bool) (tr : List RuEv)
    (h : ∀ e ∈ tr, pollStep f s e = (s, none, b)) :
    reports f s tr = [] ∧ sleepCount f s tr = (if b then tr.length else 0) ∧ finalState f s tr = s := by
  induction tr with
  | nil => simp [reports, sleepCount, finalState]
  | cons e t ih =>
    obtain ⟨h1, h2, h3⟩ := ih fun x hx => h x (List.mem_cons_of_mem _ hx)
    have he := h e (List.mem_cons_self ..)
    cases b <;> simp [sleepCount, finalState, he, h1, h2, h3] <;> omega

/-! ### the connect log -/

theorem connectLog_append {X : Type} (o : ConnOpts X) (a b : List Call) :
    connectLog o (a ++ b) = connectLog o a ++ connectLog (optsAfter o a) b := by
  induction a generalizing o with
  | nil => rfl
  | cons c t ih => cases c <;> simp [connectLog, optsAfter, ih]

theorem optsAfter_eq {X : Type} (o : ConnOpts X) (a : List Call) :
    optsAfter o a = { o with will := lastWillOf o.will a } := by
  induction a generalizing o with
  | nil => rfl
  | cons c t ih => cases c <;> simp [optsAfter, lastWillOf, ih, setLastWill]

end Srad.Rumqtt
