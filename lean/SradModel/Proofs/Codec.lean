import SradModel.Model.Codec

namespace Srad.Codec

/-! ### little-endian -/

theorem le_length (w n : Nat) : (le w n).length = w := by
  induction w generalizing n with
  | zero => rfl
  | succ w ih => simp [le, ih]

theorem unle_le (w n : Nat) : unle (le w n) = n % 2 ^ (8 * w) := by
  induction w generalizing n with
  | zero => simp [le, unle, Nat.mod_one]
  | succ w ih =>
    have h256 : n % 256 < 256 := Nat.mod_lt _ (by decide)
    have hp : 2 ^ (8 * (w + 1)) = 256 * 2 ^ (8 * w) := by
      rw [Nat.mul_succ, Nat.pow_add, Nat.mul_comm]
    simp only [le, unle, ih, hp, UInt8.toNat_ofNat']
    rw [Nat.mod_mul, Nat.mod_eq_of_lt h256]

theorem unle_le_of_lt (w n : Nat) (h : n < 2 ^ (8 * w)) : unle (le w n) = n := by
  rw [unle_le, Nat.mod_eq_of_lt h]

theorem le_unle (w : Nat) (bs : Bytes) (h : bs.length = w) : le w (unle bs) = bs := by
  induction bs generalizing w with
  | nil => subst h; rfl
  | cons b t ih =>
    subst h
    have hb : b.toNat < 256 := UInt8.toNat_lt b
    have h1 : (b.toNat + 256 * unle t) % 256 = b.toNat := by omega
    have h2 : (b.toNat + 256 * unle t) / 256 = unle t := by omega
    simp only [List.length_cons, le, unle, h1, h2, UInt8.ofNat_toNat, ih _ rfl]

/-! ### fixed-width arrays -/

theorem encodeW_length (w : Nat) (l : List Nat) : (encodeW w l).length = w * l.length := by
  induction l with
  | nil => rfl
  | cons x t ih => simp [encodeW, ih, le_length, Nat.mul_succ, Nat.add_comm]

theorem takeChunks_encodeW (w : Nat) (l : List Nat) (h : ∀ x ∈ l, x < 2 ^ (8 * w)) :
    takeChunks w l.length (encodeW w l) = l := by
  induction l with
  | nil => rfl
  | cons x t ih =>
    have hx := h x (by simp)
    have ht : ∀ y ∈ t, y < 2 ^ (8 * w) := fun y hy => h y (by simp [hy])
    simp only [List.length_cons, takeChunks, encodeW]
    rw [List.take_left' (le_length w x), List.drop_left' (le_length w x), unle_le_of_lt w x hx,
      ih ht]

theorem decodeW_encodeW (w : Nat) (hw : 0 < w) (l : List Nat) (h : ∀ x ∈ l, x < 2 ^ (8 * w)) :
    decodeW w (encodeW w l) = { res := .ok l, alloc := l.length } := by
  unfold decodeW
  rw [encodeW_length, Nat.mul_mod_right, Nat.mul_div_cancel_left _ hw]
  simp [takeChunks_encodeW w l h]

theorem takeChunks_length (w n : Nat) (bs : Bytes) : (takeChunks w n bs).length = n := by
  induction n generalizing bs with
  | zero => rfl
  | succ n ih => simp [takeChunks, ih]

theorem encodeW_takeChunks (w n : Nat) (bs : Bytes) (h : bs.length = w * n) :
    encodeW w (takeChunks w n bs) = bs := by
  induction n generalizing bs with
  | zero => simp at h; subst h; rfl
  | succ n ih =>
    have h1 : (bs.take w).length = w := by
      rw [List.length_take, h, Nat.mul_succ]; omega
    have h2 : (bs.drop w).length = w * n := by
      rw [List.length_drop, h, Nat.mul_succ]; omega
    simp only [takeChunks, encodeW, le_unle w _ h1, ih _ h2, List.take_append_drop]

theorem decodeW_ok (w : Nat) (bs : Bytes) (l : List Nat)
    (h : (decodeW w bs).res = .ok l) :
    bs.length % w = 0 ∧ l = takeChunks w (bs.length / w) bs := by
  unfold decodeW at h
  split at h
  · simp at h
  · simp at h
    constructor
    · omega
    · exact h.symm

/-! ### string arrays -/

theorem split0_snoc (cur bs : Bytes) : split0 cur (bs ++ [0]) = split0 cur bs ++ [[]] := by
  induction bs generalizing cur with
  | nil => simp [split0]
  | cons b t ih => by_cases hb : b = 0 <;> simp [split0, hb, ih]

theorem encodeStr_split0 (cur bs : Bytes) :
    encodeStr (split0 cur bs) = cur.reverse ++ bs ++ [0] := by
  induction bs generalizing cur with
  | nil => simp [split0, encodeStr]
  | cons b t ih => by_cases hb : b = 0 <;> simp [split0, hb, ih, encodeStr]

theorem split0_length (cur bs : Bytes) : (split0 cur bs).length = bs.count 0 + 1 := by
  induction bs generalizing cur with
  | nil => simp [split0]
  | cons b t ih => by_cases hb : b = 0 <;> simp [split0, hb, ih]

theorem split0_append (cur s rest : Bytes) (hs : (0 : UInt8) ∉ s) :
    split0 cur (s ++ 0 :: rest) = (cur.reverse ++ s) :: split0 [] rest := by
  induction s generalizing cur with
  | nil => simp [split0]
  | cons b t ih =>
    have hb : b ≠ 0 := fun h => hs (by simp [h])
    have ht : (0 : UInt8) ∉ t := fun h => hs (by simp [h])
    simp [split0, hb, ih _ ht]

theorem split0_encodeStr (l : List Bytes) (h : ∀ s ∈ l, (0 : UInt8) ∉ s) :
    split0 [] (encodeStr l) = l ++ [[]] := by
  induction l with
  | nil => rfl
  | cons s t ih =>
    have ht : ∀ x ∈ t, (0 : UInt8) ∉ x := fun x hx => h x (by simp [hx])
    rw [encodeStr, split0_append [] s _ (h s (by simp)), ih ht]
    simp

theorem encodeStr_getLast? (l : List Bytes) :
    encodeStr l = [] ∨ (encodeStr l).getLast? = some 0 := by
  induction l with
  | nil => left; rfl
  | cons s t ih =>
    right
    rw [encodeStr, List.getLast?_append, List.getLast?_cons]
    rcases ih with h | h <;> simp [h]

/-- the validation loop, closed: all pieces valid, or the UTF-8 error -/
theorem validateAll_eq_ite (valid : Bytes → Bool) (ps : List Bytes) :
    validateAll valid ps = if ps.all valid then .ok ps else .err .utf8 := by
  induction ps with
  | nil => rfl
  | cons p t ih =>
    rw [validateAll, ih]
    by_cases hp : valid p <;> by_cases ht : t.all valid <;> simp [hp, ht]

/-- `proto_to_string_vec`, closed: a last byte 0 gives the pieces before it (all valid, or the
UTF-8 error); no byte at all gives no string; any other last byte is a format error -/
theorem decodeStr_eq (valid : Bytes → Bool) (bs : Bytes) :
    decodeStr valid bs =
      { res :=
          if bs.getLast? = some 0 then
            if (split0 [] bs).dropLast.all valid then .ok (split0 [] bs).dropLast else .err .utf8
          else if bs = [] then .ok []
          else .err .fmt,
        alloc := 0 } := by
  unfold decodeStr
  rw [validateAll_eq_ite]
  cases h : bs.getLast? with
  | none => simp [List.getLast?_eq_none_iff.mp h]
  | some last =>
    have hne : bs ≠ [] := fun h0 => by simp [h0] at h
    by_cases hz : last = 0 <;> simp [hne, hz]

theorem decodeStr_encodeStr (valid : Bytes → Bool) (l : List Bytes)
    (h : ∀ s ∈ l, valid s = true ∧ (0 : UInt8) ∉ s) :
    decodeStr valid (encodeStr l) = { res := .ok l, alloc := 0 } := by
  rcases encodeStr_getLast? l with h0 | h0
  · cases l with
    | nil => rfl
    | cons s t => simp [encodeStr] at h0
  · rw [decodeStr_eq, if_pos h0, split0_encodeStr l (fun s hs => (h s hs).2),
      List.dropLast_concat, if_pos (List.all_eq_true.mpr fun s hs => (h s hs).1)]

theorem decodeStr_ok (valid : Bytes → Bool) (bs : Bytes) (l : List Bytes)
    (h : (decodeStr valid bs).res = .ok l) :
    l.length = bs.count 0 ∧ encodeStr l = bs := by
  rw [decodeStr_eq] at h
  split at h
  · next hlast =>
    obtain ⟨ys, rfl⟩ := List.getLast?_eq_some_iff.mp hlast
    rw [split0_snoc, List.dropLast_concat] at h
    split at h <;> simp at h
    subst h
    simp [split0_length, encodeStr_split0]
  · split at h
    · next hnil =>
      simp at h
      subst h hnil
      simp [encodeStr]
    · simp at h

/-! ### boolean arrays -/

theorem packByteAux_replicate_false (i k : Nat) : packByteAux i (List.replicate k false) = 0 := by
  induction k generalizing i with
  | zero => rfl
  | succ k ih => simp [List.replicate_succ, packByteAux, ih]

theorem packByteAux_append_false (i k : Nat) (c : List Bool) :
    packByteAux i (c ++ List.replicate k false) = packByteAux i c := by
  induction c generalizing i with
  | nil => simp [packByteAux, packByteAux_replicate_false]
  | cons b t ih => simp [packByteAux, ih]

theorem bitsMsb_packByte_of_length8 (c : List Bool) (h : c.length = 8) :
    bitsMsb (packByte c) = c := by
  rcases c with _ | ⟨b0, _ | ⟨b1, _ | ⟨b2, _ | ⟨b3, _ | ⟨b4, _ | ⟨b5, _ | ⟨b6, _ | ⟨b7, _ | ⟨b8, t⟩⟩⟩⟩⟩⟩⟩⟩⟩ <;>
    simp at h
  revert b0 b1 b2 b3 b4 b5 b6 b7
  decide +kernel

theorem bitsMsb_packByte (c : List Bool) (h : c.length ≤ 8) :
    bitsMsb (packByte c) = c ++ List.replicate (8 - c.length) false := by
  have : packByte c = packByte (c ++ List.replicate (8 - c.length) false) := by
    simp [packByte, packByteAux_append_false]
  rw [this, bitsMsb_packByte_of_length8]
  simp; omega

theorem bit_eq_bitsMsb (b : UInt8) (j : Nat) (hj : j < 8) :
    (bitsMsb b)[j]? = some (bit b (7 - j)) := by
  have : j = 0 ∨ j = 1 ∨ j = 2 ∨ j = 3 ∨ j = 4 ∨ j = 5 ∨ j = 6 ∨ j = 7 := by omega
  rcases this with h | h | h | h | h | h | h | h <;> subst h <;> rfl

theorem packBits_length (fuel : Nat) (l : List Bool) (h : l.length ≤ 8 * fuel) :
    (packBits fuel l).length = (l.length + 7) / 8 := by
  induction fuel generalizing l with
  | zero =>
    have : l = [] := List.eq_nil_of_length_eq_zero (by omega)
    subst this; rfl
  | succ fuel ih =>
    unfold packBits
    cases l with
    | nil => rfl
    | cons a t =>
      simp only [List.isEmpty_cons, Bool.false_eq_true, if_false, List.length_cons]
      rw [ih]
      · simp only [List.length_drop, List.length_cons]; omega
      · simp only [List.length_drop, List.length_cons] at *; omega

/-- the bytes read as one stream of bits, most significant bit of each byte first: what the
encoder writes and what the decoder reads are both said in terms of it -/
def bits (bs : Bytes) : List Bool := bs.flatMap bitsMsb

theorem bits_length (xs : Bytes) : (bits xs).length = 8 * xs.length := by
  induction xs with
  | nil => rfl
  | cons x t ih => simp only [bits, List.flatMap_cons] at ih ⊢; simp [ih, bitsMsb]; omega

/-- the packed bytes, read back as bits, are the list padded with `false` (to a whole byte) -/
theorem bits_packBits (fuel : Nat) (l : List Bool) (h : l.length ≤ 8 * fuel) :
    ∃ k, bits (packBits fuel l) = l ++ List.replicate k false := by
  induction fuel generalizing l with
  | zero => exact ⟨0, by rw [List.eq_nil_of_length_eq_zero (Nat.le_zero.1 h)]; rfl⟩
  | succ fuel ih =>
    unfold packBits
    cases hl : l with
    | nil => exact ⟨0, rfl⟩
    | cons a t =>
      rw [← hl]
      have hne : l.isEmpty = false := by rw [hl]; rfl
      obtain ⟨k, hk⟩ := ih (l.drop 8) (by rw [List.length_drop]; omega)
      rw [hne, if_neg Bool.false_ne_true, bits, List.flatMap_cons,
        bitsMsb_packByte _ (List.length_take_le _ _), ← bits, hk, List.length_take]
      by_cases h8 : l.length < 8
      · -- the last chunk: padded here, nothing follows
        rw [List.drop_eq_nil_of_le (Nat.le_of_lt h8), List.take_of_length_le (Nat.le_of_lt h8),
          List.nil_append, List.append_assoc, List.replicate_append_replicate]
        exact ⟨_, rfl⟩
      · rw [Nat.min_eq_left (Nat.le_of_not_lt h8), Nat.sub_self, List.replicate_zero, List.append_nil,
          ← List.append_assoc, List.take_append_drop]
        exact ⟨k, rfl⟩

/-- the first `8 * q + r` bits: `q` whole bytes and the top `r` bits of the next -/
theorem take_bits (xs : Bytes) (q r : Nat) (hr : r < 8) :
    (bits xs).take (8 * q + r) =
      bits (xs.take q) ++ (match xs[q]? with | some b => topBits b r | none => []) := by
  induction xs generalizing q with
  | nil => simp [bits]
  | cons x t ih =>
    have h8 : (bitsMsb x).length = 8 := rfl
    cases q with
    | zero =>
      simp only [bits, List.flatMap_cons, Nat.mul_zero, Nat.zero_add, List.take_zero, List.flatMap_nil,
        List.nil_append, List.getElem?_cons_zero, topBits]
      rw [List.take_append_of_le_length (by omega)]
    | succ q =>
      have : 8 * (q + 1) + r = (bitsMsb x).length + (8 * q + r) := by omega
      simp only [bits, List.flatMap_cons, List.take_succ_cons, List.getElem?_cons_succ] at ih ⊢
      rw [this, List.take_append, List.take_of_length_le (Nat.le_add_right _ _), Nat.add_sub_cancel_left, ih,
        List.append_assoc]

theorem bits_getElem? (xs : Bytes) (i : Nat) :
    (bits xs)[i]? = xs[i / 8]?.map fun b => bit b (7 - i % 8) := by
  induction xs generalizing i with
  | nil => rfl
  | cons x t ih =>
    have h8 : (bitsMsb x).length = 8 := rfl
    simp only [bits, List.flatMap_cons] at ih ⊢
    by_cases hi : i < 8
    · rw [List.getElem?_append_left (h8 ▸ hi), bit_eq_bitsMsb x i hi, Nat.div_eq_of_lt hi,
        Nat.mod_eq_of_lt hi]; rfl
    · obtain ⟨j, rfl⟩ : ∃ j, i = j + 8 := ⟨i - 8, (Nat.sub_add_cancel (Nat.le_of_not_lt hi)).symm⟩
      rw [List.getElem?_append_right (h8 ▸ Nat.le_add_left 8 j), h8, Nat.add_sub_cancel, ih,
        Nat.add_div_right _ (by decide), Nat.add_mod_right]; rfl

theorem encodeBool_take4 (l : List Bool) :
    (encodeBool l).take 4 = le 4 (l.length % 4294967296) := by
  unfold encodeBool
  rw [List.take_left' (le_length _ _)]

theorem encodeBool_drop4 (l : List Bool) :
    (encodeBool l).drop 4 = packBits (l.length + 1) l := by
  unfold encodeBool
  rw [List.drop_left' (le_length _ _)]

theorem encodeBool_length (l : List Bool) :
    (encodeBool l).length = 4 + (l.length + 7) / 8 := by
  unfold encodeBool
  rw [List.length_append, le_length, packBits_length _ _ (by omega)]

/-- the decoder without its slice index: past the three early returns it yields the first `count`
bits of the data. The index `count / 8` of the Rust is in range because the length check passed. -/
theorem decodeBool_eq (bs : Bytes) :
    decodeBool bs =
      if bs.length < 4 then { res := .err .size, alloc := 0 }
      else if unle (bs.take 4) = 0 then { res := .ok [], alloc := 0 }
      else if bs.length < 4 + (unle (bs.take 4) + 7) / 8 then { res := .err .fmt, alloc := 0 }
      else { res := .ok ((bits (bs.drop 4)).take (unle (bs.take 4))), alloc := unle (bs.take 4) } := by
  unfold decodeBool
  simp only []
  generalize unle (bs.take 4) = count
  by_cases h1 : bs.length < 4
  · rw [if_pos h1, if_pos h1]
  rw [if_neg h1, if_neg h1]
  by_cases h0 : count = 0
  · rw [if_pos h0, if_pos h0]
  rw [if_neg h0, if_neg h0]
  by_cases h2 : bs.length < 4 + (count + 7) / 8
  · rw [if_pos h2, if_pos h2]
  rw [if_neg h2, if_neg h2]
  have hc : count = 8 * (count / 8) + count % 8 := (Nat.div_add_mod count 8).symm
  have ht := take_bits (bs.drop 4) (count / 8) (count % 8) (Nat.mod_lt _ (by decide))
  rw [← hc] at ht
  rw [ht]
  by_cases h8 : count % 8 = 0
  · have : (match (bs.drop 4)[count / 8]? with | some b => topBits b 0 | none => []) = [] := by
      cases (bs.drop 4)[count / 8]? <;> rfl
    rw [if_pos h8, h8, this, List.append_nil]; rfl
  · rw [if_neg h8]
    obtain ⟨b, hb⟩ : ∃ b, (bs.drop 4)[count / 8]? = some b :=
      ⟨_, List.getElem?_eq_getElem (by rw [List.length_drop]; omega)⟩
    rw [hb]; rfl

theorem decodeBool_encodeBool (l : List Bool) (h : l.length < 4294967296) :
    (decodeBool (encodeBool l)).res = .ok l := by
  have hcount : unle ((encodeBool l).take 4) = l.length := by
    rw [encodeBool_take4, Nat.mod_eq_of_lt h]; exact unle_le_of_lt 4 _ (by simpa using h)
  rw [decodeBool_eq, hcount, encodeBool_length, if_neg (by omega)]
  by_cases h0 : l.length = 0
  · rw [if_pos h0, List.eq_nil_of_length_eq_zero h0]
  · obtain ⟨k, hk⟩ := bits_packBits (l.length + 1) l (by omega)
    rw [if_neg h0, if_neg (by omega), encodeBool_drop4, hk, List.take_left']
    rfl

/-- a count that passed the length check is covered by the data bits -/
theorem count_le_bits {count len : Nat} (h1 : ¬ len < 4) (h2 : ¬ len < 4 + (count + 7) / 8) :
    count ≤ 8 * (len - 4) := by omega

theorem decodeBool_spec (bs : Bytes) :
    (decodeBool bs).res ≠ .panic ∧ (decodeBool bs).alloc ≤ 8 * bs.length ∧
      ∀ l, (decodeBool bs).res = .ok l → l.length = unle (bs.take 4) := by
  rw [decodeBool_eq]
  by_cases h1 : bs.length < 4
  · rw [if_pos h1]; exact ⟨nofun, Nat.zero_le _, nofun⟩
  rw [if_neg h1]
  by_cases h0 : unle (bs.take 4) = 0
  · rw [if_pos h0]; exact ⟨nofun, Nat.zero_le _, fun l hl => by cases hl; exact h0.symm⟩
  rw [if_neg h0]
  by_cases h2 : bs.length < 4 + (unle (bs.take 4) + 7) / 8
  · rw [if_pos h2]; exact ⟨nofun, Nat.zero_le _, nofun⟩
  rw [if_neg h2]
  have hc := count_le_bits h1 h2
  refine ⟨nofun, Nat.le_trans hc (Nat.mul_le_mul_left _ (Nat.sub_le _ _)), ?_⟩
  rintro l ⟨⟩
  rw [List.length_take, bits_length, List.length_drop]
  exact Nat.min_eq_left hc

theorem decodeBool_total (bs : Bytes) :
    (decodeBool bs).res ≠ .panic ∧ (decodeBool bs).alloc ≤ 8 * bs.length :=
  ⟨(decodeBool_spec bs).1, (decodeBool_spec bs).2.1⟩

theorem decodeBool_ok_length (bs : Bytes) (l : List Bool) (h : (decodeBool bs).res = .ok l) :
    l.length = unle (bs.take 4) :=
  (decodeBool_spec bs).2.2 l h

theorem unle_lt (bs : Bytes) : unle bs < 2 ^ (8 * bs.length) := by
  induction bs with
  | nil => simp [unle]
  | cons b t ih =>
    have hb : b.toNat < 256 := UInt8.toNat_lt b
    have hp : 2 ^ (8 * (t.length + 1)) = 256 * 2 ^ (8 * t.length) := by
      rw [Nat.mul_succ, Nat.pow_add, Nat.mul_comm]
    simp only [unle, List.length_cons, hp]
    generalize 2 ^ (8 * t.length) = P at *
    have : 256 * (unle t + 1) ≤ 256 * P := Nat.mul_le_mul_left _ ih
    omega

theorem unle_take4_lt (bs : Bytes) : unle (bs.take 4) < 4294967296 := by
  have h := unle_lt (bs.take 4)
  have h2 : (bs.take 4).length ≤ 4 := by simp [List.length_take]; omega
  have : 2 ^ (8 * (bs.take 4).length) ≤ 2 ^ (8 * 4) :=
    Nat.pow_le_pow_right (by decide) (by omega)
  omega

/-! ### scalars and datatype-directed decoding -/

theorem scalar_roundtrip (t : STy) (v : SV) (h : t.holds v = true) :
    fromProto t (toProto t v) = .ok v := by
  cases v with
  | b x => cases t <;> first | rfl | cases h
  | s x => cases t <;> first | rfl | cases h
  | n x =>
    -- the narrow integer types come back through `as u8` / `as u16`: `x % 2 ^ width = x`
    cases t <;> first
      | rfl
      | cases h
      | exact congrArg (fun y => Res.ok (SV.n y)) (Nat.mod_eq_of_lt (of_decide_eq_true h))

theorem fromProto_ne_panic (t : STy) (pv : PV) : fromProto t pv ≠ .panic := by
  unfold fromProto
  split <;> nofun

theorem kindOf_eq (valid : Bytes → Bool) (dt : DT) (pv : PV) :
    kindOf valid dt pv =
      match runDecoder valid (kindArm dt).2 pv with
      | .ok v => .ok ((kindArm dt).1, v)
      | .err e => .err e
      | .panic => .panic := rfl

theorem kindArm_fst (dt : DT) : (kindArm dt).1 = dt := by
  cases dt <;> rfl

theorem liftDec_ne_panic {α} (d : Dec α) (f : α → KV) (h : d.res ≠ .panic) :
    liftDec d f ≠ .panic := by
  unfold liftDec
  split <;> simp_all

theorem templateValue_ne_panic (d : Option Bool) (r : Bool) : templateValue d r ≠ .panic := by
  unfold templateValue
  split <;> simp

theorem decodeW_ne_panic (w : Nat) (bs : Bytes) : (decodeW w bs).res ≠ .panic := by
  unfold decodeW
  split <;> simp

theorem decodeStr_ne_panic (valid : Bytes → Bool) (bs : Bytes) :
    (decodeStr valid bs).res ≠ .panic := by
  rw [decodeStr_eq]
  split <;> split <;> simp

theorem runDecoder_ne_panic (valid : Bytes → Bool) (d : Decoder) (pv : PV) :
    runDecoder valid d pv ≠ .panic := by
  unfold runDecoder
  split
  · split
    · simp
    · simp
    · next h => exact absurd h (fromProto_ne_panic _ _)
  · exact liftDec_ne_panic _ _ (decodeW_ne_panic _ _)
  · exact liftDec_ne_panic _ _ (decodeBool_total _).1
  · exact liftDec_ne_panic _ _ (decodeStr_ne_panic _ _)
  · simp
  · simp
  · exact templateValue_ne_panic _ _
  · simp
  · simp
  · simp

theorem kindOf_of_runDecoder (valid : Bytes → Bool) (dt : DT) (d : Decoder) (pv : PV) (v : KV)
    (harm : (kindArm dt).2 = d) (h : runDecoder valid d pv = .ok v) :
    kindOf valid dt pv = .ok (dt, v) := by
  rw [kindOf_eq, harm, h, kindArm_fst]

theorem arrW_width_pos (dt : DT) (w : Nat) (harm : (kindArm dt).2 = .arrW w) : 0 < w := by
  cases dt <;> cases harm <;> decide

theorem decodeW_alloc_le (w : Nat) (bs : Bytes) : (decodeW w bs).alloc ≤ bs.length := by
  unfold decodeW
  split
  · simp
  · exact Nat.div_le_self _ _

theorem decodeStr_alloc (valid : Bytes → Bool) (bs : Bytes) : (decodeStr valid bs).alloc = 0 := by
  rw [decodeStr_eq]

theorem decodeW_exact (w : Nat) (bs : Bytes) (l : List Nat)
    (h : (decodeW w bs).res = .ok l) :
    l.length * w = bs.length ∧ encodeW w l = bs ∧ (decodeW w (encodeW w l)).res = .ok l := by
  obtain ⟨hm, hl⟩ := decodeW_ok w bs l h
  have hlen : bs.length = w * (bs.length / w) := by
    have := Nat.div_add_mod bs.length w
    omega
  have henc : encodeW w l = bs := by rw [hl]; exact encodeW_takeChunks w _ bs hlen
  refine ⟨?_, henc, by rw [henc]; exact h⟩
  rw [hl, takeChunks_length, Nat.mul_comm]; exact hlen.symm

theorem encodeBool_bit (l : List Bool) (i : Nat) (hi : i < l.length) :
    ∃ b, (encodeBool l)[4 + i / 8]? = some b ∧ bit b (7 - i % 8) = l[i] := by
  obtain ⟨k, hk⟩ := bits_packBits (l.length + 1) l (by omega)
  have h := bits_getElem? (packBits (l.length + 1) l) i
  rw [hk, List.getElem?_append_left hi, List.getElem?_eq_getElem hi, ← encodeBool_drop4,
    List.getElem?_drop] at h
  cases hb : (encodeBool l)[4 + i / 8]? with
  | none => rw [hb] at h; cases h
  | some b => rw [hb] at h; exact ⟨b, rfl, (Option.some.inj h).symm⟩

/-! ### datatype codes -/

namespace DT

theorem ofCode_code (d : DT) : ofCode d.code = some d := by cases d <;> decide +kernel

theorem code_ofCode : ∀ c < 35, (ofCode c).map code = some c := by decide +kernel

theorem code_lt (d : DT) : d.code < 35 := by cases d <;> decide +kernel

theorem ofCode_none_iff (c : Nat) : ofCode c = none ↔ 34 < c :=
  List.getElem?_eq_none_iff

theorem ofCode_isSome_iff (c : Nat) : (ofCode c).isSome = true ↔ c < 35 := by
  rw [← Option.ne_none_iff_isSome, Ne, ofCode_none_iff, Nat.not_lt]; exact Nat.lt_succ_iff.symm

theorem ofCode_eq_some_iff (c : Nat) (d : DT) : ofCode c = some d ↔ c = d.code := by
  refine ⟨fun h => ?_, fun h => h ▸ ofCode_code d⟩
  have hc : c < 35 := Nat.lt_of_not_le fun hle => by simp [(ofCode_none_iff c).2 hle] at h
  simpa [h, eq_comm] using code_ofCode c hc

end DT

end Srad.Codec
