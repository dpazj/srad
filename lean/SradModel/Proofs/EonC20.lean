/-
C20 on the edge-node LTS: `try_` calls never wait (`tryOk`), what the shutdown invariant `Inv` (`Proofs/EonInv`)
gives once the run loop has returned (`Stopped`, `after_stop`), and the termination measure with `progress`.
-/
import SradModel.Proofs.EonInv

namespace Srad.Eon.P20
open Srad.Eon

@[simp] theorem handOver_calls (s : St) (c : Call) (dec : Dec) :
    (handOver s c dec).1.calls = s.calls ++ [{ c with res := (match (if c.isTry && dec == .park then Dec.rej else dec) with | .acc => some true | .rej => some false | .park => none), gOnline := s.online, gBirthed := s.birthed }] := rfl

@[simp] theorem handOver_id (s : St) (c : Call) (dec : Dec) : (handOver s c dec).2.1 = s.calls.length := rfl

@[simp] theorem handOver_obs (s : St) (c : Call) (dec : Dec) :
    (handOver s c dec).2.2 = .call s.calls.length c.kind c.dev c.seq c.bd c.isTry (if c.isTry && dec == .park then Dec.rej else dec) := rfl

theorem handOver_st (s : St) (c : Call) (dec : Dec) :
    (handOver s c dec).1 = { s with calls := (handOver s c dec).1.calls } := rfl

theorem callRes_handOver (s : St) (c : Call) (dec : Dec) :
    callRes (handOver s c dec).1 (handOver s c dec).2.1 =
      (match (if c.isTry && dec == .park then Dec.rej else dec) with | .acc => some true | .rej => some false | .park => none) :=
  Eon.callRes_handOver s c dec

/-! ### `tryOk` -/

theorem tryOk_append (a b : List Obs) : tryOk (a ++ b) = (tryOk a && tryOk b) :=
  append_of_cons rfl (fun o t => by cases o <;> simp [tryOk]) a b

theorem noCalls_append (a b : List Obs) : noCalls (a ++ b) = (noCalls a && noCalls b) :=
  append_of_cons rfl (fun o t => by cases o <;> simp [noCalls]) a b

theorem tryOk_step {s s' : St} {o : List Obs} (h : Step s s' o) : tryOk o = true := by
  cases h with
  | stim _ h | loop h | timeout h | node _ h => cases h <;> rfl
  | dev _ _ h =>
    induction h using DevStep.split with
    | birth h | death h => cases h <;> rfl
    | quiet | cb => rfl
  | user _ dec h =>
    cases h with
    | pubNode _ isTry | pubDev _ _ isTry => cases isTry <;> cases dec <;> rfl
    | cancelStart | cancelDisc => cases dec <;> rfl
    | _ => rfl

theorem tryOk_runActs {s₀ s : St} {acts : List Act} {tr : List Obs} (h : runActs s₀ acts = some (s, tr)) :
    tryOk tr = true :=
  runActs_induct (P := fun _ tr => tryOk tr = true) rfl
    (fun _ _ _ _ ht h => by rw [tryOk_append, ht, tryOk_step h]; rfl) acts h

/-! ### single steps of a user call -/

theorem try_publish_step {s s' : St} {j : Nat} {dec : Dec} {o : List Obs} {u : UCall} {t : PubTarget} {n : Nat}
    (h : UserStep s j dec s' o) (hu : s.ucalls.find? (·.j == j) = some u) (hk : u.kind = .pub t true n)
    (hp : u.pc = .start) :
    ∃ r, o.getLast? = some (.ures j r) ∧ (s'.ucalls.find? (·.j == j)).map (·.pc) = some .done := by
  have hj : u.j = j := beq_iff_eq.1 (List.find?_some (p := fun v : UCall => v.j == j) hu)
  -- the rule that fired is one for the call `u`, of its kind and at its pc
  cases h <;> cases hu.symm.trans ‹_ = some _› <;> cases hk.symm.trans ‹_› <;> cases hp.symm.trans ‹_› <;>
    cases dec <;> exact ⟨_, rfl, congrArg (Option.map (·.pc)) (find?_setUCall hu (by exact hj))⟩

theorem cancel_start_step {s s' : St} {j : Nat} {dec : Dec} {o : List Obs} {u : UCall}
    (h : UserStep s j dec s' o) (hu : s.ucalls.find? (·.j == j) = some u) (hk : u.kind = .cancel) (hp : u.pc = .start) :
    (s.running = true → ∃ dc, o = [.call s.calls.length .ndeath none none (some s.bdseq) true dc] ∧
        s'.stopping = true) ∧
    (s.running = false → o = [.ures j .cancelled] ∧ s'.calls = s.calls) := by
  cases h <;> cases hu.symm.trans ‹_ = some _› <;> cases hk.symm.trans ‹_› <;> cases hp.symm.trans ‹_›
  · exact ⟨(fun h => nomatch ‹s.running = false›.symm.trans h), fun _ => ⟨rfl, rfl⟩⟩
  · exact ⟨fun _ => ⟨_, rfl, rfl⟩, fun h => nomatch ‹s.running = true›.symm.trans h⟩

theorem cancel_disc_step {s s' : St} {j : Nat} {dec : Dec} {o : List Obs} {u : UCall}
    (h : UserStep s j dec s' o) (hu : s.ucalls.find? (·.j == j) = some u) (hk : u.kind = .cancel)
    (hp : u.pc = .cancelDisc) :
    ∃ dc, o = [.call s.calls.length .disconnect none none none true dc, .ures j .cancelled] := by
  cases h <;> cases hu.symm.trans ‹_ = some _› <;> cases hk.symm.trans ‹_› <;> cases hp.symm.trans ‹_›
  exact ⟨_, rfl⟩


/-! ### after the run loop has returned -/

/-- the only calls in the trace are disconnects -/
def onlyDisc : List Obs → Bool
  | [] => true
  | .call _ k _ _ _ _ _ :: t => k == .disconnect && onlyDisc t
  | _ :: t => onlyDisc t

theorem onlyDisc_append (a b : List Obs) : onlyDisc (a ++ b) = (onlyDisc a && onlyDisc b) :=
  append_of_cons rfl (fun o t => by cases o <;> simp [onlyDisc]) a b

theorem onlyDisc_spec {tr : List Obs} (h : onlyDisc tr = true) :
    ∀ o ∈ tr, ∀ id k dv sq bd t dc, o = Obs.call id k dv sq bd t dc → k = .disconnect := by
  induction tr with
  | nil => exact fun _ h => nomatch h
  | cons x t ih =>
    intro o ho id k dv sq bd t' dc he
    rcases List.mem_cons.1 ho with rfl | ho
    · subst he
      simp only [onlyDisc, Bool.and_eq_true, beq_iff_eq] at h
      exact h.1
    · refine ih ?_ o ho id k dv sq bd t' dc he
      cases x <;> simp only [onlyDisc, Bool.and_eq_true] at h
      case call => exact h.2
      all_goals exact h

/-- the state after `run` has returned -/
structure Stopped (s : St) : Prop where
  loop : s.loop = .done
  online : s.online = false
  birthed : s.birthed = false
  running : s.running = false
  stopping : s.stopping = true
  node : nodeBusy s.node = false

theorem Stopped_of_Inv {s : St} (hi : Inv s) (hd : s.loop = .done) : Stopped s :=
  have ho := hi.fin_offline (.inr hd)
  ⟨hd, ho, (hi.offline ho).1, hi.done_running hd, hi.stopping_of hd rfl, (hi.offline ho).2⟩

/-- a stopped node hands nothing over but the disconnect of a cancel, and its run loop stays returned: SUB needs
a node that is not stopping, NBIRTH a busy node task, NDEATH a running loop and everything else an online node -/
theorem stopped_step {s s' : St} {o : List Obs} (hs : Stopped s) (h : Step s s' o) :
    onlyDisc o = true ∧ s'.loop = .done := by
  cases h with
  | stim _ h => exact ⟨by cases h <;> rfl, (congrArg St.loop h.frame).trans hs.loop⟩
  | loop h => exact absurd hs.loop h.ne_done
  | timeout h => exact absurd hs.loop h.ne_done
  | node _ h =>
    cases h with
    | onlineSub _ _ h => exact nomatch h.symm.trans hs.stopping
    | birthStart _ _ h => exact nomatch (h ▸ hs.node : nodeBusy (.birthStart _ _) = false)
    | _ => exact ⟨rfl, hs.loop⟩
  | dev _ _ h =>
    refine ⟨?_, (congrArg St.loop h.frame).trans hs.loop⟩
    rcases h.obs_of_offline hs.online with rfl | ⟨_, rfl⟩ <;> rfl
  | user _ _ h =>
    refine ⟨?_, (congrArg St.loop h.frame).trans hs.loop⟩
    cases h with
    | pubNode _ _ _ _ _ _ _ h | pubDev _ _ _ _ _ _ _ _ _ h => exact nomatch hs.online.symm.trans h
    | cancelStart _ _ _ _ h => exact nomatch hs.running.symm.trans h
    | _ => rfl

theorem after_stop {s s' : St} {more : List Act} {tr' : List Obs} (hi : Inv s) (hd : s.loop = .done)
    (h : runActs s more = some (s', tr')) : onlyDisc tr' = true ∧ Inv s' ∧ s'.loop = .done :=
  runActs_induct (P := fun s tr => onlyDisc tr = true ∧ Inv s ∧ s.loop = .done) ⟨rfl, hi, hd⟩
    (fun _ _ _ _ ⟨h1, h2, h3⟩ hst =>
      have ⟨a, b⟩ := stopped_step (Stopped_of_Inv h2 h3) hst
      ⟨by rw [onlyDisc_append, h1, a]; rfl, h2.step hst, b⟩) more h


/-! ### termination -/

@[simp] def mainPc : LoopPc → Bool
  | .sel | .polling | .sendCs _ | .awaitWill _ => true
  | _ => false

@[simp] def phase : LoopPc → Nat
  | .done => 0 | .sendStopped => 1 | .forceAwaitWill _ => 2 | .forceSendCs _ => 3
  | .stopCheck | .stopPolling | .stopSendCs _ | .stopAwaitWill _ => 4
  | .sel | .polling => 5 | .awaitWill _ => 6 | .sendCs _ => 7 | .start => 8

@[simp] def nodeRank : NodePc → Nat
  | .idle => 0 | .nbDone _ _ _ => 1 | .waitNb _ _ _ => 2 | .birthStart _ _ => 2 | .subDone _ => 3
  | .waitSub _ => 4 | .inCb _ => 3 | .done => 0

def nodeM (s : St) : Nat := (if s.cs.isSome then 10 else 0) + nodeRank s.node

def adv (s : St) : Nat :=
  match s.stopDeadline with
  | some dl => if dl ≤ s.wall then 0 else 1
  | none => 0

def measure (s : St) : Nat := phase s.loop * 100 + adv s * 50 + nodeM s

structure Extra (s : St) : Prop where
  resolved : ∀ c ∈ s.calls, c.res.isSome = true
  nocb : s.nodeCbPark = false
  stop : mainPc s.loop = true → s.stop = true
  started : s.loop ≠ .start

def Allowed (a : Act) : Prop := (∃ t dec k, a = Act.task t dec k) ∨ (∃ ms, a = Act.stim (.advance ms))

theorem nodeM_le (s : St) : nodeM s ≤ 14 := by
  unfold nodeM
  cases s.node <;> split <;> simp

theorem adv_le (s : St) : adv s ≤ 1 := by
  unfold adv
  repeat' split
  all_goals simp

theorem measure_lt_of_phase {s s' : St} (h : phase s'.loop < phase s.loop) : measure s' < measure s := by
  have := nodeM_le s'
  have := adv_le s'
  unfold measure
  omega

def Progress (s : St) : Prop :=
  ∃ a s' o, Allowed a ∧ runAct s a = some (s', o) ∧ Extra s' ∧ measure s' < measure s

theorem Progress.of_task {s s' : St} {o : List Obs} (t : Task) (dec : Dec) (hm : (s', o) ∈ step s t dec)
    (he : Extra s') (hlt : measure s' < measure s) : Progress s :=
  have ⟨k, hk⟩ := List.getElem?_of_mem hm
  ⟨.task t dec k, s', o, .inl ⟨_, _, _, rfl⟩, hk, he, hlt⟩

theorem resolved_node {s s' : St} {o} (h : NodeStep s .rej s' o) (hr : ∀ c ∈ s.calls, c.res.isSome = true) :
    ∀ c ∈ s'.calls, c.res.isSome = true := by
  cases h with
  | onlineSub | birthStart =>
    exact fun c hc => (List.mem_append.1 hc).elim (hr c) fun h => by cases List.mem_singleton.1 h; rfl
  | _ => exact hr

/-- with a message waiting, or away from `idle`, a node step whose call the client refuses at once lowers `nodeM` -/
theorem nodeM_lt {s s' : St} {o} (h : NodeStep s .rej s' o) (hc : s.cs.isSome = true ∨ s.node ≠ .idle) :
    nodeM s' < nodeM s := by
  cases h <;> simp_all [nodeM]

/-- a queued `client_state` message is taken by the node task, or the node task has another step to take first,
provided it is neither parked in `on_ncmd` nor waiting for an answer that is not there -/
theorem node_ready {s : St} (hi : Inv s) (hcb : s.nodeCbPark = false)
    (hw : ∀ id, nodeWait s.node = some id → ∃ ok, callRes s id = some ok) (hcs : s.cs.isSome = true)
    (hnd : s.loop ≠ .done) (dec : Dec) : ∃ s' o, NodeStep s dec s' o := by
  cases hn : s.node with
  | idle =>
    obtain ⟨m, hc⟩ := Option.isSome_iff_exists.1 hcs
    cases m with
    | online =>
      cases hst : s.stopping with
      | true => exact ⟨_, _, .onlineStopping hn hc hst⟩
      | false =>
        cases ho : s.online with
        | true => exact ⟨_, _, .onlineDup hn hc hst ho⟩
        | false => exact ⟨_, _, .onlineSub hn hc hst ho⟩
    | offline o =>
      cases ho : s.online with
      | true => exact ⟨_, _, .offline o hn hc ho⟩
      | false => exact ⟨_, _, .offlineDup o hn hc ho⟩
    | stopped => exact ⟨_, _, .stopped hn hc⟩
  | waitSub id => obtain ⟨ok, hok⟩ := hw id (hn ▸ rfl); exact ⟨_, _, .subResolved id ok hn hok⟩
  | waitNb id bt f => obtain ⟨ok, hok⟩ := hw id (hn ▸ rfl); exact ⟨_, _, .nbResolved id bt f ok hn hok⟩
  | subDone ok => cases ok; exact ⟨_, _, .subFailed hn⟩; exact ⟨_, _, .subOk hn⟩
  | birthStart bt f => exact ⟨_, _, .birthStart bt f hn⟩
  | nbDone ok bt f => cases ok; exact ⟨_, _, .nbFailed bt f hn⟩; exact ⟨_, _, .nbOk bt f hn⟩
  | inCb rb =>
    cases rb with
    | false => exact ⟨_, _, .cbNoRebirth hn hcb⟩
    | true =>
      by_cases hc : s.wall - s.lastRebirthReq < s.cooldown
      · exact ⟨_, _, .cbCooldown hn hcb hc⟩
      · cases hb : s.birthed with
        | true => exact ⟨_, _, .cbRebirth hn hcb hc hb⟩
        | false => exact ⟨_, _, .cbUnbirthed hn hcb hc hb⟩
  | done => exact absurd (hi.ndone hn) hnd

theorem progress_node {s : St} (hi : Inv s) (he : Extra s) (hcs : s.cs.isSome = true) (hnd : s.loop ≠ .done) :
    Progress s := by
  obtain ⟨s', o, h⟩ := node_ready hi he.nocb (fun id hid => callRes_some he.resolved (hi.wait_lt id hid)) hcs hnd .rej
  have hlt := nodeM_lt h (.inl hcs)
  have hres := resolved_node h he.resolved
  refine .of_task .node .rej h.mem ?_ ?_ <;> rw [h.frame]
  · exact ⟨hres, he.nocb, he.stop, he.started⟩
  · simp only [measure, adv, nodeM] at hlt ⊢
    omega

/-- while the shutdown still polls for the Offline: the timer fires, or time passes until it does -/
theorem progress_timed {s : St} (hi : Inv s) (he : Extra s) (hc : s.cs = none) (ht : timed s.loop = true) :
    Progress s := by
  obtain ⟨dl, hdl⟩ := Option.isSome_iff_exists.1 (hi.dl_some ht)
  by_cases hle : dl ≤ s.wall
  · have hp : PollingOffline s.loop ∧ phase s.loop = 4 := by
      cases hl : s.loop <;> rw [hl] at ht <;> cases ht <;> simp [PollingOffline]
    exact .of_task .loopTimeout .acc (TimeoutStep.force dl hdl hle hp.1 hc).mem ⟨he.resolved, he.nocb, nofun, nofun⟩
      (measure_lt_of_phase (by rw [hp.2]; simp))
  · refine ⟨.stim (.advance (dl - s.wall)), _, _, .inr ⟨_, rfl⟩, rfl, ⟨he.resolved, he.nocb, he.stop, he.started⟩, ?_⟩
    have : dl ≤ s.wall + (dl - s.wall) := by omega
    simp [measure, adv, hdl, nodeM, this, hle]

/-- awaiting a will reply with `client_state` empty: the node task has taken the message, so the reply is there -/
theorem reply_ready {s : St} (hi : Inv s) (hc : s.cs = none) {o : Nat} (hw : willAw s.loop = some o) :
    ∃ r, reply? s o = some r :=
  reply?_isSome_of_mem ((hi.aw_reply o hw).resolve_left fun h => nomatch hc.symm.trans h)

/-- with `client_state` empty and the stop signalled, the event loop outside `poll_until_offline` has a step that
brings it nearer to `done` and leaves the stop signal where the main loop will find it -/
theorem loop_ready {s : St} (hi : Inv s) (hc : s.cs = none) (hst : mainPc s.loop = true → s.stop = true)
    (hs : s.loop ≠ .start) (hnd : s.loop ≠ .done) (ht : timed s.loop = false) :
    ∃ s' o, LoopStep s s' o ∧ phase s'.loop < phase s.loop ∧ s'.loop ≠ .start ∧
      (mainPc s'.loop = true → s'.stop = true) := by
  cases hl : s.loop with
  | start => exact absurd hl hs
  | done => exact absurd hl hnd
  | sel => exact ⟨_, _, .stopReq (.inl hl) (hst (by rw [hl]; rfl)), by simp, nofun, nofun⟩
  | polling => exact ⟨_, _, .stopReq (.inr hl) (hst (by rw [hl]; rfl)), by simp, nofun, nofun⟩
  | sendCs m =>
    have h := hst (by rw [hl]; rfl)
    cases m with
    | online => exact ⟨_, _, .sendCs _ hl hc nofun, by simp, nofun, fun _ => h⟩
    | offline o => exact ⟨_, _, .sendCsOffline o hl hc, by simp, nofun, fun _ => h⟩
    | stopped => exact absurd hl hi.sendcs_ns
  | awaitWill o =>
    have h := hst (by rw [hl]; rfl)
    obtain ⟨r, hr⟩ := reply_ready hi hc (o := o) (by rw [hl]; rfl)
    cases r with
    | some bd => exact ⟨_, _, .will o bd hl hr, by simp, nofun, fun _ => h⟩
    | none => exact ⟨_, _, .willDropped o hl hr, by simp, nofun, fun _ => h⟩
  | stopCheck | stopPolling | stopSendCs | stopAwaitWill => rw [hl] at ht; cases ht
  | forceSendCs o => exact ⟨_, _, .forceSendCs o hl hc, by simp, nofun, nofun⟩
  | forceAwaitWill o =>
    obtain ⟨r, hr⟩ := reply_ready hi hc (o := o) (by rw [hl]; rfl)
    cases r with
    | some bd => exact ⟨_, _, .lastWill o bd (.inr hl) hr, by simp, nofun, nofun⟩
    | none => exact ⟨_, _, .lastWillDropped o (.inr hl) hr, by simp, nofun, nofun⟩
  | sendStopped => exact ⟨_, _, .sendStopped hl hc, by simp, nofun, nofun⟩

theorem progress {s : St} (hi : Inv s) (he : Extra s) (hnd : s.loop ≠ .done) : Progress s := by
  cases hc : s.cs with
  | some _ => exact progress_node hi he (by rw [hc]; rfl) hnd
  | none =>
    cases ht : timed s.loop with
    | true => exact progress_timed hi he hc ht
    | false =>
      obtain ⟨s', o, h, hph, hs', hst'⟩ := loop_ready hi hc he.stop he.started hnd ht
      refine .of_task .loop .acc h.mem ⟨?_, ?_, hst', hs'⟩ (measure_lt_of_phase hph) <;> rw [h.frame]
      · exact he.resolved
      · exact he.nocb

theorem terminate {s : St} (hi : Inv s) (he : Extra s) :
    ∃ sched s' tr', (∀ a ∈ sched, Allowed a) ∧ runActs s sched = some (s', tr') ∧ s'.loop = .done :=
  extend_by_measure (p := Allowed) (I := fun s => Inv s ∧ Extra s) (T := (·.loop = .done)) (m := measure)
    (fun _ ⟨hi, he⟩ hd =>
      let ⟨a, s1, o, ha, hr, he1, hlt⟩ := progress hi he hd
      ⟨[a], s1, o, fun _ hb => List.mem_singleton.1 hb ▸ ha, runActs_single hr, ⟨Inv_runAct hi hr, he1⟩, hlt⟩)
    ⟨hi, he⟩

end Srad.Eon.P20
