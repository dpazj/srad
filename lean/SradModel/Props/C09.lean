/-
C09 — Resequencer releases messages in order, once, and loses none.
Messages are tagged with the sequence number they arrived with (`Nat × α`, first component
the number), so that "the payload that arrived with that number" can be stated.
-/
import SradModel.Proofs.Reseq

namespace Srad.Reseq

/-! ### Part 1: windowed streams; contiguous runs as the special case -/

/-- **Promptness for unbounded streams (the resequencer half of C05).** A duplicate-free stream
of any length, delivered in any order that keeps fewer than 256 numbers outstanding
(`WindowOk`), sequence numbers wrapping as often as it takes: after the whole delivery exactly
the messages `0 .. mex` (everything whose predecessors have all arrived) have been released,
in order, each once; the resequencer expects `(e + mex) % 256` next, and it is back in `Good`
with an empty buffer iff nothing beyond `mex` has arrived. Applied to every prefix of a
delivery this says each message is released in the very step in which its last predecessor
arrives. -/
theorem C09_prompt {α : Type} (e : Nat) (p : Nat → α) (arr : List Nat)
    (he : e < 256) (hnodup : arr.Nodup) (hwin : WindowOk arr) :
    let r := feed ({ buf := [], next := e, mode := .good } : St (Nat × α)) (arr.map (runMsg e p))
    r.2.1 = (List.range (mexOf arr)).map (runMsg e p) ∧ r.2.2 = false ∧
    r.1.next = (e + mexOf arr) % 256 ∧
    (∀ m, m ∈ r.1.buf.map Prod.snd ↔ ∃ i ∈ arr, mexOf arr < i ∧ m = runMsg e p i) ∧
    (r.1.mode = .good ↔ ∀ i ∈ arr, i < mexOf arr) := by
  obtain ⟨s, hfeed, hlt, hw, hnext, hinv, hmem⟩ :=
    feed_take e p arr hnodup hwin arr.length (Nat.le_refl _)
  rw [List.take_length] at hlt hw hnext hmem
  rw [List.take_length, Nat.mod_eq_of_lt he] at hfeed
  have hk := (mexOf_spec arr).2
  intro r
  have hr : r = (s, (List.range (mexOf arr)).map (runMsg e p), false) := hfeed
  rw [hr]
  refine ⟨rfl, rfl, hnext, fun m => (hmem m).trans ⟨?_, ?_⟩, hinv.mode_good_iff.trans ⟨?_, ?_⟩⟩
  · rintro ⟨i, hiA, hki, hmi⟩
    exact ⟨i, hiA, Nat.lt_of_le_of_ne hki (fun h => hk (h ▸ hiA)), hmi⟩
  · rintro ⟨i, hiA, hki, hmi⟩
    exact ⟨i, hiA, Nat.le_of_lt hki, hmi⟩
  · refine fun hb i hiA => Nat.lt_of_not_le fun hc => ?_
    have := (hmem (runMsg e p i)).mpr ⟨i, hiA, hc, rfl⟩
    simp [hb] at this
  · refine fun hall => List.eq_nil_iff_forall_not_mem.mpr fun x hx => ?_
    obtain ⟨i, hiA, hki, _⟩ := (hmem x.2).mp (List.mem_map_of_mem hx)
    exact absurd (hall i hiA) (Nat.not_lt.mpr hki)

/-- **C09 (first sentence).** For every start value `e`, every length `n ≤ 256`, every payload
assignment and every arrival order `arr` that is a permutation of `0..n-1`, feeding the run
`(e+i) % 256 ↦ p i` (drained after each arrival until `drain` stops returning messages)
releases exactly the run, in sequence order, each message once, ends with an empty buffer in
state `Good` expecting `(e+n) % 256`, and the drain loop never needs more than
`buffer length + 1` calls. -/
theorem C09_contiguous {α : Type} (e n : Nat) (p : Nat → α) (arr : List Nat)
    (he : e < 256) (hn : n ≤ 256) (hperm : arr.Perm (List.range n)) :
    feed ({ buf := [], next := e, mode := .good } : St (Nat × α)) (arr.map (runMsg e p))
      = ({ buf := [], next := (e + n) % 256, mode := .good },
         (List.range n).map (runMsg e p), false) := by
  have hmemA : ∀ i, i ∈ arr ↔ i < n := fun i => by rw [hperm.mem_iff, List.mem_range]
  have hwin : WindowOk arr := by
    intro m hm
    have : arr[m] < n := (hmemA _).mp (List.getElem_mem hm)
    omega
  have hmex : mexOf arr = n :=
    mexOf_eq arr n (fun i hi => (hmemA i).mpr hi) (fun h => Nat.lt_irrefl _ ((hmemA n).mp h))
  have h := C09_prompt e p arr he (hperm.nodup_iff.mpr List.nodup_range) hwin
  simp only [hmex] at h
  obtain ⟨h1, h2, h3, h4, h5⟩ := h
  have hmode := h5.mpr (fun i hi => (hmemA i).mp hi)
  generalize feed ({ buf := [], next := e, mode := .good } : St (Nat × α))
      (arr.map (runMsg e p)) = r at *
  obtain ⟨⟨buf, next, mode⟩, rel, ro⟩ := r
  have hbuf := (List.map_eq_nil_iff (f := Prod.snd)).mp (List.eq_nil_iff_forall_not_mem.mpr
    fun m hm => by
      obtain ⟨i, hi, hni, _⟩ := (h4 m).mp hm
      exact absurd ((hmemA i).mp hi) (Nat.not_lt.mpr (Nat.le_of_lt hni)))
  simp only at h1 h2 h3 hmode hbuf
  rw [h1, h2, h3, hmode, hbuf]

/-! ### Part 2: arbitrary input -/

/-- The invariant holds in every state reachable by any sequence of well-formed calls
(`process` / `drain` / `reset` / `set_next_sequence` with `u8` arguments). -/
theorem C09_reachable_inv {α : Type} (ops : List (Op α)) (hwf : ∀ o ∈ ops, o.WF) :
    Inv (runOps init ops).1 :=
  runOps_inv init ops init_inv hwf

/-- `drain` never trips its `assert!` in a reachable state. -/
theorem C09_drain_no_panic {α : Type} (ops : List (Op α)) (hwf : ∀ o ∈ ops, o.WF) :
    (drain (runOps init ops).1).2 ≠ DrainRes.panic := by
  rcases drain_spec _ (C09_reachable_inv ops hwf) with ⟨_, _, _, _, hd, _⟩ | ⟨_, hd⟩ <;> rw [hd]
  · nofun
  · split <;> nofun

/-- **Never out of order, always the payload that arrived with that number.** In a reachable
state, a call that releases a message releases one that arrived with exactly the number that
was expected before the call, and advances the expected number by one (mod 256); a call
that releases nothing and is not `reset`/`set_next_sequence` leaves the expected number
unchanged. Hence between two `reset`/`set_next_sequence` calls the released numbers are
consecutive: no repeat, no inversion, no gap. -/
theorem C09_release_in_order {α : Type} (ops : List (Op α)) (hwf : ∀ o ∈ ops, o.WF)
    (o : Op α) (ho : o.WF) :
    let s := (runOps init ops).1
    let r := stepOp s o
    (∀ m, r.2 = Ev.released m → m.1 = s.next ∧ r.1.next = (s.next + 1) % 256) ∧
    ((∀ m, r.2 ≠ Ev.released m) → (∀ n, o ≠ Op.setNext n) → o ≠ Op.reset → r.1.next = s.next) :=
  step_release_in_order _ o (C09_reachable_inv ops hwf) ho

/-- **Conservation (no loss, no duplication, no invention).** For every sequence of calls, the
messages handed to `process` are, as a multiset, exactly: those released, those reported as
duplicates, those cleared by `reset`, and those still in the buffer. In particular nothing is
released twice and nothing that was not an input is released. -/
theorem C09_conservation {α : Type} (ops : List (Op α)) (hwf : ∀ o ∈ ops, o.WF) :
    (inputsOf ops).Perm
      (releasedOf (runOps init ops).2 ++ dupsOf (runOps init ops).2 ++
       clearedOf (runOps init ops).2 ++ (runOps init ops).1.buf.map Prod.snd) :=
  -- holds for ill-formed arguments as well
  have _ := hwf
  runOps_conservation_gen init ops

/-- **A redelivered copy of a message that is still waiting is reported duplicate.** In every
reachable state - whatever mixture of `process` / `drain` / `reset` / `set_next_sequence` calls led
to it, drained or not, the expected number wrapped past 255 since buffering began or not - if a
message that arrived with number `seq` is still in the buffer, then `process seq` neither releases
the new copy nor files it beside the first one: the answer is `DuplicateMessageSequence` and the
state is unchanged (so the number is not released twice and the waiting message is not stranded). -/
theorem C09_copy_of_waiting_is_duplicate {α : Type} (ops : List (Op α)) (hwf : ∀ o ∈ ops, o.WF)
    (seq : Nat) (p q : α) (k : Nat) (hw : (k, (seq, q)) ∈ (runOps init ops).1.buf) :
    stepOp (runOps init ops).1 (Op.proc seq p) = ((runOps init ops).1, Ev.dup (seq, p)) := by
  have hinv := C09_reachable_inv ops hwf
  rcases process_spec _ seq p hinv (hinv.num_lt hw) with ⟨_, hp⟩ | ⟨hno, _⟩ | ⟨hno, _⟩
  · rw [stepOp_proc, hp]
  · exact absurd rfl (hno _ hw)
  · exact absurd rfl (hno _ hw)

/-! ### Non-vacuity: concrete runs that meet the hypotheses (these are tests, not the claim) -/

/-- a wrapping run: start 250, twenty messages, reversed arrival order -/
example :
    feed ({ buf := [], next := 250, mode := .good } : St (Nat × Nat))
        (((List.range 20).reverse).map (runMsg 250 (fun i => 1000 + i)))
      = ({ buf := [], next := 14, mode := .good },
         (List.range 20).map (runMsg 250 (fun i => 1000 + i)), false) := by decide

/-- a stream that satisfies `WindowOk` although it is longer than 256 and never lets the buffer
empty before its end: 2,4,1,6,3,… (first 12 shown by evaluation) -/
example : mexOf [1, 3, 0, 5, 2] = 4 := by decide
example : (feed ({ buf := [], next := 254, mode := .good } : St (Nat × Nat))
    ([1, 3, 0, 5, 2].map (runMsg 254 (fun i => i)))).2.1 = (List.range 4).map (runMsg 254 (fun i => i)) := by decide

/-- a reachable state that is in `ReSequencing` with a non-empty buffer -/
example : (runOps (init : St (Nat × Nat)) [Op.proc 2 7, Op.proc 1 6]).1.buf.length = 2 := by decide

/-- the hypothesis of `C09_copy_of_waiting_is_duplicate` is met after `set_next_sequence(255); process(1);
process(255); process(0)` (no drain): number 1 is expected and still waiting -/
example : (2, ((1 : Nat), (7 : Nat))) ∈ (runOps (init : St (Nat × Nat))
    [Op.setNext 255, Op.proc 1 7, Op.proc 255 8, Op.proc 0 9]).1.buf ∧
    (runOps (init : St (Nat × Nat)) [Op.setNext 255, Op.proc 1 7, Op.proc 255 8, Op.proc 0 9]).1.next = 1 := by
  decide

end Srad.Reseq
