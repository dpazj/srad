/-
Helper lemmas for C16 (host event loop, M10). Core Lean only.
-/
import SradModel.Model.HostLoopSpec

namespace Srad.HostLoop

theorem lastWill_nil : lastWill [] = none := rfl
theorem birthOut_nil : birthOut [] = false := rfl

theorem lastWill_snoc_will (tr : List Eff) (t : Str) (ts : Nat) :
    lastWill (tr ++ [.setWill t ts]) = some ts := by
  simp [lastWill, lastWillRev]

theorem lastWill_snoc_sub (tr : List Eff) (fs : List Str) :
    lastWill (tr ++ [.subscribe fs]) = lastWill tr := by
  simp [lastWill, lastWillRev]

theorem lastWill_snoc_pub (tr : List Eff) (t : Str) (o : Bool) (ts : Nat) (x : Bool) :
    lastWill (tr ++ [.publishState t o ts x]) = lastWill tr := by
  simp [lastWill, lastWillRev]

theorem lastWill_snoc_disc (tr : List Eff) : lastWill (tr ++ [.disconnect]) = lastWill tr := by
  simp [lastWill, lastWillRev]

theorem birthOut_snoc_will (tr : List Eff) (t : Str) (ts : Nat) :
    birthOut (tr ++ [.setWill t ts]) = false := by
  simp [birthOut, birthOutRev]

theorem birthOut_snoc_sub (tr : List Eff) (fs : List Str) :
    birthOut (tr ++ [.subscribe fs]) = birthOut tr := by
  simp [birthOut, birthOutRev]

theorem birthOut_snoc_birth (tr : List Eff) (t : Str) (ts : Nat) (x : Bool) :
    birthOut (tr ++ [.publishState t true ts x]) = true := by
  simp [birthOut, birthOutRev]

theorem birthOut_snoc_death (tr : List Eff) (t : Str) (ts : Nat) (x : Bool) :
    birthOut (tr ++ [.publishState t false ts x]) = birthOut tr := by
  simp [birthOut, birthOutRev]

theorem birthOut_snoc_disc (tr : List Eff) : birthOut (tr ++ [.disconnect]) = birthOut tr := by
  simp [birthOut, birthOutRev]

theorem append_two {α} (tr : List α) (a b : α) : tr ++ [a, b] = (tr ++ [a]) ++ [b] := by simp

/-! `lastWillRev` and `birthOutRev` look for the first registration of a will; `birthOutRev` asks
whether a birth comes before it. Both are read through `List.find?`. -/

theorem lastWillRev_eq_some (l : List Eff) (w : Nat) :
    lastWillRev l = some w ↔ ∃ t, l.find? Eff.isWill = some (.setWill t w) := by
  induction l with
  | nil => simp [lastWillRev]
  | cons e l ih => cases e <;> simp [lastWillRev, Eff.isWill, ih]

theorem lastWillRev_iff (l : List Eff) (w : Nat) :
    lastWillRev l = some w ↔
      ∃ pre t post, l = pre ++ Eff.setWill t w :: post ∧ ∀ e ∈ pre, e.isWill = false := by
  simp only [lastWillRev_eq_some, List.find?_eq_some_iff_append, Eff.isWill, true_and,
    Bool.not_eq_true']
  exact ⟨fun ⟨t, a, b, h⟩ => ⟨a, t, b, h⟩, fun ⟨a, t, b, h⟩ => ⟨t, a, b, h⟩⟩

theorem lastWillRev_append (a b : List Eff) :
    lastWillRev (a ++ b) = (lastWillRev a).or (lastWillRev b) := by
  induction a with
  | nil => simp [lastWillRev]
  | cons x a ih => cases x <;> simp [lastWillRev, ih]

def Eff.isBirth : Eff → Bool
  | .publishState _ true _ _ => true
  | _ => false

theorem birthOutRev_eq (l : List Eff) :
    birthOutRev l = (l.find? fun e => e.isWill || e.isBirth).any Eff.isBirth := by
  induction l with
  | nil => rfl
  | cons e l ih =>
    rw [List.find?_cons]
    cases e with
    | publishState t o ts x => cases o <;> first | exact ih | rfl
    | setWill => rfl
    | _ => exact ih

theorem birthOutRev_iff (l : List Eff) :
    birthOutRev l = true ↔
      ∃ pre t ts x post, l = pre ++ Eff.publishState t true ts x :: post ∧
        ∀ e ∈ pre, e.isWill = false := by
  constructor
  · -- the first will or birth is a birth
    rw [birthOutRev_eq, Option.any_eq_true]
    rintro ⟨b, hb, hbirth⟩
    obtain ⟨-, pre, post, rfl, hpre⟩ := List.find?_eq_some_iff_append.1 hb
    cases b with
    | publishState t o ts x =>
      cases o
      · cases hbirth
      · exact ⟨pre, t, ts, x, post, rfl, fun e he => (by simpa using hpre e he : _ ∧ _).1⟩
    | _ => cases hbirth
  · rintro ⟨pre, t, ts, x, post, rfl, hp⟩
    induction pre with
    | nil => rfl
    | cons e pre ih =>
      have := ih fun a ha => hp a (List.mem_cons_of_mem _ ha)
      have he := hp e (List.mem_cons_self ..)
      cases e with
      | publishState t o ts x => cases o <;> simp [birthOutRev, this]
      | setWill => cases he
      | _ => simpa [birthOutRev] using this

/-- a split of the reversed list is a split of the list, mirrored -/
theorem exists_split_reverse {α β : Type} {l : List α} {f : β → α} {Q : α → Prop} :
    (∃ pre y post, l.reverse = pre ++ f y :: post ∧ ∀ e ∈ pre, Q e) ↔
      ∃ pre y post, l = pre ++ f y :: post ∧ ∀ e ∈ post, Q e := by
  constructor
  · rintro ⟨pre, y, post, h, hp⟩
    exact ⟨post.reverse, y, pre.reverse, by simpa using congrArg List.reverse h, by simpa using hp⟩
  · rintro ⟨pre, y, post, rfl, hp⟩
    exact ⟨post.reverse, y, pre.reverse, by simp, by simpa using hp⟩

/-- **Declarative reading of `birthOut`**: some `{online:true}` publish in the trace is followed
by no will registration. -/
theorem birthOut_iff (tr : List Eff) :
    birthOut tr = true ↔
      ∃ pre t ts x post, tr = pre ++ Eff.publishState t true ts x :: post ∧
        ∀ e ∈ post, e.isWill = false := by
  unfold birthOut
  rw [birthOutRev_iff]
  have h := exists_split_reverse (l := tr) (Q := (·.isWill = false))
    (f := fun q : Str × Nat × Bool => Eff.publishState q.1 true q.2.1 q.2.2)
  exact ⟨fun ⟨a, t, ts, x, b, e⟩ =>
      (h.1 ⟨a, (t, ts, x), b, e⟩).elim fun a ⟨q, b, e⟩ => ⟨a, q.1, q.2.1, q.2.2, b, e⟩,
    fun ⟨a, t, ts, x, b, e⟩ =>
      (h.2 ⟨a, (t, ts, x), b, e⟩).elim fun a ⟨q, b, e⟩ => ⟨a, q.1, q.2.1, q.2.2, b, e⟩⟩

/-- **Declarative reading of `lastWill`**: `w` is the timestamp of a will registration that is
followed by no other will registration. -/
theorem lastWill_iff (tr : List Eff) (w : Nat) :
    lastWill tr = some w ↔
      ∃ pre t post, tr = pre ++ Eff.setWill t w :: post ∧ ∀ e ∈ post, e.isWill = false := by
  unfold lastWill
  rw [lastWillRev_iff]
  exact exists_split_reverse (f := fun t => Eff.setWill t w)

theorem monRun_append (own : Str) (m : Mon) (a b : List Eff) :
    monRun own m (a ++ b) = (monRun own m a).bind fun m' => monRun own m' b := by
  induction a generalizing m with
  | nil => simp [monRun]
  | cons e a ih =>
    simp only [List.cons_append, monRun]
    cases monStep own m e with
    | none => simp
    | some m' => simpa using ih m'

/-- an accepted run through `a ++ e :: b` passes a monitor state before `e` and one after it -/
theorem monRun_split {own : Str} {m m' : Mon} {a b : List Eff} {e : Eff}
    (h : monRun own m (a ++ e :: b) = some m') :
    ∃ m1 m2, monRun own m a = some m1 ∧ monStep own m1 e = some m2 ∧ monRun own m2 b = some m' := by
  rw [monRun_append] at h
  cases h1 : monRun own m a with
  | none => simp [h1] at h
  | some m1 =>
    simp only [h1, Option.bind_some, monRun] at h
    cases h2 : monStep own m1 e with
    | none => simp [h2] at h
    | some m2 => exact ⟨m1, m2, rfl, h2, by simpa [h2] using h⟩

theorem monRun_cons {own : Str} {m m' : Mon} {e : Eff} {t : List Eff}
    (h : monRun own m (e :: t) = some m') :
    ∃ m1, monStep own m e = some m1 ∧ monRun own m1 t = some m' := by
  obtain ⟨_, m1, h0, h1, h2⟩ := monRun_split (a := []) h
  cases h0; exact ⟨m1, h1, h2⟩

/-- `monStep` in rule form: when the monitor accepts an effect, and what it does then -/
theorem monStep_eq_some {own : Str} {m m' : Mon} {e : Eff} : monStep own m e = some m' ↔
    match e with
    | .setWill t ts => (t = own ∧ m.phase ≠ .subscribed) ∧ ⟨some ts, .idle⟩ = m'
    | .subscribe _ => (m.phase = .idle ∧ m.will.isSome = true) ∧ { m with phase := .subscribed } = m'
    | .publishState t true ts x =>
      (t = own ∧ x = false ∧ m.will = some ts ∧ m.phase ≠ .idle) ∧ { m with phase := .born } = m'
    | .publishState t false _ x => (t = own ∧ x = true ∧ m.phase ≠ .subscribed) ∧ m = m'
    | .disconnect => m.phase ≠ .subscribed ∧ m = m' := by
  cases e with
  | publishState t o ts x => cases o <;> simp [monStep]
  | _ => simp [monStep]

theorem monStep_will {own : Str} {m m' : Mon} {e : Eff} (h : monStep own m e = some m') :
    m'.will = (lastWillRev [e]).or m.will := by
  have h := monStep_eq_some.1 h
  cases e with
  | publishState t o ts x => cases o <;> obtain ⟨-, rfl⟩ := h <;> rfl
  | _ => obtain ⟨-, rfl⟩ := h; rfl

/-- the monitor holds the will the trace registered last, or else the one it started with -/
theorem monRun_will (own : Str) (m m' : Mon) (tr : List Eff) (h : monRun own m tr = some m') :
    m'.will = (lastWill tr).or m.will := by
  induction tr generalizing m with
  | nil => cases h; rfl
  | cons e tr ih =>
    obtain ⟨m1, hs, h⟩ := monRun_cons h
    rw [ih m1 h, monStep_will hs, ← Option.or_assoc]
    simp [lastWill, lastWillRev_append]

theorem monRun_back_to_idle (own : Str) (m m' : Mon) (tr : List Eff)
    (h : monRun own m tr = some m') (h0 : m.phase ≠ .idle) (h1 : m'.phase = .idle) :
    ∃ e ∈ tr, e.isWill = true := by
  induction tr generalizing m with
  | nil => cases h; exact absurd h1 h0
  | cons e tr ih =>
    obtain ⟨m1, hs, h⟩ := monRun_cons h
    have hs := monStep_eq_some.1 hs
    have next : m1.phase ≠ .idle → ∃ x ∈ e :: tr, x.isWill = true := fun hm1 =>
      (ih m1 h hm1).imp fun x hx => ⟨List.mem_cons_of_mem _ hx.1, hx.2⟩
    cases e with
    | setWill t ts => exact ⟨_, List.mem_cons_self .., rfl⟩
    | subscribe fs => exact absurd hs.1.1 h0
    | publishState t o ts x =>
      cases o <;> exact next (by obtain ⟨-, rfl⟩ := hs; first | exact h0 | nofun)
    | disconnect => exact next (hs.2 ▸ h0)

/-- what a trace says: the will registered last is `w`, a birth has gone out since iff `p`, and
the monitor has accepted the trace and stands accordingly -/
def Reads (own : Str) (tr : List Eff) (w : Nat) (p : Bool) : Prop :=
  lastWill tr = some w ∧ birthOut tr = p ∧
    monRun own Mon.init tr = some ⟨some w, if p then .born else .idle⟩

theorem monRun_snoc (own : Str) (tr eff : List Eff) (m : Mon)
    (h : monRun own Mon.init tr = some m) :
    monRun own Mon.init (tr ++ eff) = monRun own m eff := by
  rw [monRun_append, h]; rfl

theorem Reads.will {own : Str} {tr : List Eff} {w : Nat} {p : Bool} (h : Reads own tr w p) (now : Nat) :
    Reads own (tr ++ [.setWill own now]) now false :=
  ⟨lastWill_snoc_will .., birthOut_snoc_will .., by
    rw [monRun_snoc _ _ _ _ h.2.2]; cases p <;> simp [monRun, monStep]⟩

theorem Reads.session {own : Str} {tr : List Eff} {w : Nat} (h : Reads own tr w false) (fs : List Str) :
    Reads own (tr ++ [.subscribe fs, .publishState own true w false]) w true :=
  ⟨by rw [append_two, lastWill_snoc_pub, lastWill_snoc_sub, h.1],
    by rw [append_two, birthOut_snoc_birth],
    by rw [monRun_snoc _ _ _ _ h.2.2]; simp [monRun, monStep]⟩

theorem Reads.answer {own : Str} {tr : List Eff} {w : Nat} (h : Reads own tr w true) :
    Reads own (tr ++ [.publishState own true w false]) w true :=
  ⟨by rw [lastWill_snoc_pub, h.1], birthOut_snoc_birth ..,
    by rw [monRun_snoc _ _ _ _ h.2.2]; simp [monRun, monStep]⟩

theorem Reads.offlinePub {own : Str} {tr : List Eff} {w : Nat} {p : Bool} (h : Reads own tr w p)
    (now : Nat) : Reads own (tr ++ [.publishState own false now true]) w p :=
  ⟨by rw [lastWill_snoc_pub, h.1], by rw [birthOut_snoc_death, h.2.1],
    by rw [monRun_snoc _ _ _ _ h.2.2]; cases p <;> simp [monRun, monStep]⟩

theorem Reads.cancel {own : Str} {tr : List Eff} {w : Nat} {p : Bool} (h : Reads own tr w p)
    (now : Nat) : Reads own (tr ++ [.publishState own false now true, .disconnect]) w p := by
  have h1 := h.offlinePub now
  rw [append_two]
  exact ⟨by rw [lastWill_snoc_disc, h1.1], by rw [birthOut_snoc_disc, h1.2.1],
    by rw [monRun_snoc _ _ _ _ h1.2.2]; cases p <;> simp [monRun, monStep]⟩

structure Inv (own : Str) (s : St) (tr : List Eff) : Prop where
  reads : Reads own tr s.willTs s.published
  on : s.online = s.published
  drain : s.draining = true → s.online = true
  pend : s.pending = true → s.draining = true

theorem Inv.will {own : Str} {s : St} {tr : List Eff} (h : Inv own s tr) : lastWill tr = some s.willTs :=
  h.reads.1
theorem Inv.born {own : Str} {s : St} {tr : List Eff} (h : Inv own s tr) : birthOut tr = s.published :=
  h.reads.2.1

theorem new_eq {host : Str} {now : Nat} {s : St} {e : List Eff} (h : new host now = some (s, e)) :
    s = { willTs := now } ∧ e = [.setWill (stateHostTopic host) now] := by
  unfold new at h
  split at h
  · cases h
  · cases h; exact ⟨rfl, rfl⟩

/-- Every branch of `step` is one of the effect lists above (or none) together with a change of
flags; the branch is found by evaluating `step` on the flags. -/
theorem step_inv (cfg : SubCfg) (host : Str) (s : St) (tr : List Eff) (i : In) (now : Nat)
    (h : Inv (stateHostTopic host) s tr) :
    Inv (stateHostTopic host) (step cfg host s i now).1 (tr ++ (step cfg host s i now).2.1) := by
  obtain ⟨hr, hon, hdr, hpe⟩ := h
  obtain ⟨on, pub, w, dr, pe⟩ := s
  simp only at hr hon hdr hpe
  subst hon
  have silent : Inv (stateHostTopic host) ⟨on, on, w, dr, pe⟩ (tr ++ []) := by
    rw [List.append_nil]; exact ⟨hr, rfl, hdr, hpe⟩
  cases i with
  | timeout =>
    cases dr
    · exact silent
    · cases hdr rfl; cases pe
      · exact ⟨by simpa [step, endDrain] using hr, rfl, nofun, nofun⟩
      · exact ⟨by simpa [step, endDrain, takeShutdown] using hr, rfl, fun _ => rfl, nofun⟩
  | cancel =>
    cases dr
    · cases hpe' : pe
      · cases on
        · exact ⟨hr.cancel now, rfl, nofun, nofun⟩
        · exact ⟨hr.cancel now, rfl, fun _ => rfl, nofun⟩
      · exact absurd (hpe hpe') nofun
    · cases hdr rfl; cases pe
      · exact ⟨hr.cancel now, rfl, fun _ => rfl, fun _ => rfl⟩
      · exact ⟨hr.offlinePub now, rfl, fun _ => rfl, fun _ => rfl⟩
  | ev e =>
    cases dr
    · have hpe' : pe = false := by cases pe <;> simp_all
      subst hpe'
      cases e with
      | other => exact silent
      | online =>
        cases on
        · exact ⟨hr.session _, rfl, nofun, nofun⟩
        · exact silent
      | offline =>
        cases on
        · exact silent
        · exact ⟨hr.will now, rfl, nofun, nofun⟩
      | state h' o ts =>
        by_cases hc : (on && h' == host && !o) = true
        · simp only [Bool.and_eq_true, Bool.not_eq_true', beq_iff_eq] at hc
          obtain ⟨⟨rfl, rfl⟩, rfl⟩ := hc
          have : step cfg h' ⟨true, true, w, false, false⟩ (.ev (.state h' false ts)) now =
              (⟨true, true, w, false, false⟩, [.publishState (stateHostTopic h') true w false], []) := by
            simp [step, handleEvent]
          rw [this]
          exact ⟨hr.answer, rfl, nofun, nofun⟩
        · have : step cfg host ⟨on, on, w, false, false⟩ (.ev (.state h' o ts)) now =
              (⟨on, on, w, false, false⟩, [], []) := by
            cases on <;> cases o <;> simp_all [step, handleEvent]
          rw [this]; exact silent
    · cases hdr rfl
      cases e with
      | offline =>
        cases pe
        · exact ⟨hr.will now, rfl, nofun, nofun⟩
        · exact ⟨hr.will now, rfl, nofun, nofun⟩
      | _ => exact silent

theorem exec_append (cfg : SubCfg) (host : Str) (s : St) (a b : List Step) :
    exec cfg host s (a ++ b) =
      ((exec cfg host (exec cfg host s a).1 b).1,
       (exec cfg host s a).2.1 ++ (exec cfg host (exec cfg host s a).1 b).2.1,
       (exec cfg host s a).2.2 ++ (exec cfg host (exec cfg host s a).1 b).2.2) := by
  induction a generalizing s with
  | nil => simp [exec]
  | cons x a ih => simp [exec, ih, List.append_assoc]

/-- A history is construction followed by steps: what construction establishes and every step of
the history keeps holds of the state reached and the trace so far. -/
theorem history_induct {cfg : SubCfg} {host : Str} {now0 : Nat} {P : St → List Eff → Prop}
    {steps : List Step} (h0 : P { willTs := now0 } [.setWill (stateHostTopic host) now0])
    (hs : ∀ s tr, ∀ x ∈ steps, P s tr →
      P (step cfg host s x.inp x.now).1 (tr ++ (step cfg host s x.inp x.now).2.1))
    {s : St} {tr : List Eff} {r : List Ret} (h : history cfg host now0 steps = some (s, tr, r)) :
    P s tr := by
  unfold history at h
  cases hn : new host now0 with
  | none => simp [hn] at h
  | some p =>
    obtain ⟨s0, e0⟩ := p
    simp only [hn, Option.some.injEq, Prod.mk.injEq] at h
    obtain ⟨rfl, rfl, rfl⟩ := h
    obtain ⟨rfl, rfl⟩ := new_eq hn
    generalize ({ willTs := now0 } : St) = s at h0 ⊢
    generalize [Eff.setWill (stateHostTopic host) now0] = tr at h0 ⊢
    induction steps generalizing s tr with
    | nil => simpa [exec] using h0
    | cons x xs ih =>
      have := ih (fun s tr y hy => hs s tr y (List.mem_cons_of_mem _ hy)) _ _
        (hs s tr x (List.mem_cons_self ..) h0)
      simpa [exec, List.append_assoc] using this

theorem history_inv (cfg : SubCfg) (host : Str) (now0 : Nat) (steps : List Step)
    (s : St) (tr : List Eff) (r : List Ret)
    (h : history cfg host now0 steps = some (s, tr, r)) : Inv (stateHostTopic host) s tr :=
  history_induct ⟨⟨rfl, rfl, by simp [monRun, monStep, Mon.init]⟩, rfl, nofun, nofun⟩
    (fun s tr x _ hi => step_inv cfg host s tr x.inp x.now hi) h

/-- the state a history reaches, read off its trace: online = birth stored = a birth has gone out
since the last will, whose timestamp is the state's; the loop drains only while online -/
theorem history_state {cfg : SubCfg} {host : Str} {now0 : Nat} {steps : List Step} {s : St}
    {tr : List Eff} {r : List Ret} (h : history cfg host now0 steps = some (s, tr, r)) :
    ∃ w dr pe, lastWill tr = some w ∧ s = ⟨birthOut tr, birthOut tr, w, dr, pe⟩ ∧
      (dr = true → birthOut tr = true) := by
  have hi := history_inv cfg host now0 steps s tr r h
  obtain ⟨on, pub, w, dr, pe⟩ := s
  have h2 := hi.born; have h3 := hi.on
  simp only at h2 h3
  subst h3 h2
  exact ⟨w, dr, pe, hi.will, rfl, hi.drain⟩

theorem history_isSome (cfg : SubCfg) (host : Str) (now0 : Nat) (steps : List Step) :
    (history cfg host now0 steps).isSome = validName host := by
  unfold history new
  cases validName host <;> simp

theorem levels_ne_nil (s : Str) : levels s ≠ [] := by
  induction s with
  | nil => simp [levels]
  | cons c cs ih =>
    simp only [levels]
    split
    · simp
    · split <;> simp

theorem levels_append_slash (a b : Str) : levels (a ++ '/' :: b) = levels a ++ levels b := by
  induction a with
  | nil => simp [levels]
  | cons c a ih =>
    simp only [List.cons_append, levels]
    split
    · simp [ih]
    · rw [ih]
      cases hl : levels a with
      | nil => exact absurd hl (levels_ne_nil a)
      | cons l ls => simp

theorem levels_noSlash (s : Str) (h : '/' ∉ s) : levels s = [s] := by
  induction s with
  | nil => rfl
  | cons c cs ih =>
    simp only [List.mem_cons, not_or] at h
    simp only [levels]
    rw [if_neg (fun hc => h.1 hc.symm), ih h.2]

theorem matchLv_hash (ts : List Str) : matchLv [['#']] ts = true := by
  simp [matchLv]

theorem matchLv_refl (ls : List Str) : matchLv ls ls = true := by
  induction ls with
  | nil => rfl
  | cons l ls ih =>
    simp only [matchLv]
    split
    · rfl
    · simp [ih]

theorem matchLv_prefix (xs fs ts : List Str) (h : matchLv fs ts = true) :
    matchLv (xs ++ fs) (xs ++ ts) = true := by
  induction xs with
  | nil => simpa using h
  | cons x xs ih =>
    simp only [List.cons_append, matchLv]
    split
    · rfl
    · simp [ih]

theorem matchLv_plus (fs : List Str) (t : Str) (ts : List Str)
    (h : matchLv fs ts = true) : matchLv (['+'] :: fs) (t :: ts) = true := by
  simp only [matchLv]
  split
  · rfl
  · simp [h]

theorem levels_spbv : levels spbv = [spbv] := by decide


theorem levels_full : levels Topic.full.render = [spbv, ['#']] := by decide

theorem levels_group (g : Str) :
    levels (Topic.group g).render = [spbv] ++ levels g ++ [['+'], ['#']] := by
  show levels (spbv ++ '/' :: (g ++ '/' :: (['+'] ++ '/' :: ['#']))) = _
  rw [levels_append_slash, levels_append_slash, levels_append_slash, levels_spbv]
  simp [levels]

theorem levels_nodeFilter (g n : Str) :
    levels (Topic.node g n).render = [spbv] ++ levels g ++ [['+']] ++ levels n ++ [['#']] := by
  have : (Topic.node g n).render = spbv ++ '/' :: (g ++ '/' :: (['+'] ++ '/' :: (n ++ '/' :: ['#']))) := by
    simp [Topic.render]
  rw [this]
  rw [levels_append_slash, levels_append_slash, levels_append_slash, levels_append_slash,
    levels_spbv]
  simp [levels]

theorem levels_nodeTopic (g v n : Str) :
    levels (nodeTopic g v n) = [spbv] ++ levels g ++ levels v ++ levels n := by
  have : nodeTopic g v n = spbv ++ '/' :: (g ++ '/' :: (v ++ '/' :: n)) := by
    simp [nodeTopic]
  rw [this]
  rw [levels_append_slash, levels_append_slash, levels_append_slash, levels_spbv]
  simp

theorem levels_deviceTopic (g v n d : Str) :
    levels (deviceTopic g v n d) = [spbv] ++ levels g ++ levels v ++ levels n ++ levels d := by
  have : deviceTopic g v n d = spbv ++ '/' :: (g ++ '/' :: (v ++ '/' :: (n ++ '/' :: d))) := by
    simp [deviceTopic]
  rw [this]
  rw [levels_append_slash, levels_append_slash, levels_append_slash, levels_append_slash,
    levels_spbv]
  simp

theorem levels_stateHostTopic (h : Str) :
    levels (stateHostTopic h) = [spbv, stateLit] ++ levels h := by
  show levels (spbv ++ '/' :: (stateLit ++ '/' :: h)) = _
  rw [levels_append_slash, levels_append_slash, levels_spbv]
  have : levels stateLit = [stateLit] := by decide
  simp [this]

theorem full_matches (rest : List Str) :
    matchLv (levels Topic.full.render) ([spbv] ++ rest) = true := by
  rw [levels_full]
  simp [matchLv]

theorem group_matches (g : Str) (x : Str) (rest : List Str) :
    matchLv (levels (Topic.group g).render) ([spbv] ++ levels g ++ (x :: rest)) = true := by
  rw [levels_group, List.append_assoc, List.append_assoc]
  apply matchLv_prefix
  apply matchLv_prefix
  apply matchLv_plus
  exact matchLv_hash _

theorem node_matches (g n : Str) (x : Str) (rest : List Str) :
    matchLv (levels (Topic.node g n).render) ([spbv] ++ levels g ++ [x] ++ levels n ++ rest)
      = true := by
  rw [levels_nodeFilter]
  simp only [List.append_assoc]
  apply matchLv_prefix
  apply matchLv_prefix
  show matchLv (['+'] :: (levels n ++ [['#']])) (x :: (levels n ++ rest)) = true
  apply matchLv_plus
  apply matchLv_prefix
  exact matchLv_hash _


theorem step_subscribe (cfg : SubCfg) (host : Str) (s : St) (i : In) (now : Nat) (fs : List Str)
    (h : Eff.subscribe fs ∈ (step cfg host s i now).2.1) : fs = subscribed cfg host := by
  obtain ⟨on, pub, w, dr, pe⟩ := s
  cases i with
  | timeout => cases dr <;> simp_all [step, endDrain, takeShutdown]
  | cancel => cases dr <;> cases pe <;> simp_all [step, takeShutdown]
  | ev e =>
    cases e with
    | other => cases dr <;> simp_all [step, handleEvent]
    | state h' o ts =>
      cases dr <;> cases pub <;> cases o <;> by_cases hh : h' = host <;>
        simp_all [step, handleEvent]
    | online =>
      cases dr <;> cases on <;> simp_all [step, handleEvent, handleOnline, subscribed]
    | offline =>
      cases dr <;> cases on <;>
        simp_all [step, handleEvent, handleOffline, updateLastWill, endDrain, takeShutdown]

theorem history_subscribe (cfg : SubCfg) (host : Str) (now0 : Nat) (steps : List Step)
    (s : St) (tr : List Eff) (r : List Ret)
    (h : history cfg host now0 steps = some (s, tr, r)) (fs : List Str)
    (hm : Eff.subscribe fs ∈ tr) : fs = subscribed cfg host :=
  history_induct (P := fun _ tr => Eff.subscribe fs ∈ tr → fs = subscribed cfg host) (by simp)
    (fun s tr x _ ih hm =>
      (List.mem_append.1 hm).elim ih (step_subscribe cfg host s x.inp x.now fs)) h hm

theorem step_no_cancel (cfg : SubCfg) (host : Str) (s : St) (i : In) (now : Nat)
    (hs : s.draining = false ∧ s.pending = false) (hi : i ≠ In.cancel) :
    (step cfg host s i now).1.draining = false ∧ (step cfg host s i now).1.pending = false := by
  obtain ⟨on, pub, w, dr, pe⟩ := s
  simp only at hs
  obtain ⟨rfl, rfl⟩ := hs
  cases i with
  | timeout => simp [step]
  | cancel => exact absurd rfl hi
  | ev e =>
    cases e with
    | other => simp [step, handleEvent]
    | state h' o ts =>
      cases o <;> cases pub <;> by_cases hh : h' = host <;> simp [step, handleEvent, hh]
    | online => cases on <;> simp [step, handleEvent, handleOnline]
    | offline => cases on <;> simp [step, handleEvent, handleOffline, updateLastWill]

theorem accepted_birth (own : Str) (tr pre post : List Eff) (t : Str) (ts : Nat) (x : Bool)
    (h : Accepted own tr) (hs : tr = pre ++ Eff.publishState t true ts x :: post) :
    t = own ∧ x = false ∧ lastWill pre = some ts := by
  obtain ⟨m, hm, -⟩ := h
  subst hs
  obtain ⟨m1, m2, h1, h2, -⟩ := monRun_split hm
  obtain ⟨⟨ht, hx, hw, -⟩, -⟩ := monStep_eq_some.1 h2
  rw [monRun_will own _ m1 pre h1] at hw
  exact ⟨ht, hx, by simpa [Mon.init] using hw⟩

theorem accepted_between (own : Str) (tr a mid post : List Eff) (f1 f2 : List Str)
    (h : Accepted own tr) (hs : tr = a ++ Eff.subscribe f1 :: (mid ++ Eff.subscribe f2 :: post)) :
    ∃ e ∈ mid, e.isWill = true := by
  obtain ⟨m, hm, -⟩ := h
  subst hs
  obtain ⟨m1, m2, -, h2, hm⟩ := monRun_split hm
  obtain ⟨m3, m4, h3, h4, -⟩ := monRun_split hm
  obtain ⟨-, rfl⟩ := monStep_eq_some.1 h2
  exact monRun_back_to_idle own _ m3 mid h3 nofun (monStep_eq_some.1 h4).1.1

theorem accepted_after_subscribe (own : Str) (tr a rest : List Eff) (fs : List Str)
    (h : Accepted own tr) (hs : tr = a ++ Eff.subscribe fs :: rest) :
    ∃ ts rest', rest = Eff.publishState own true ts false :: rest' := by
  obtain ⟨m, hm, hfin⟩ := h
  subst hs
  obtain ⟨m1, m2, -, h2, hm⟩ := monRun_split hm
  obtain ⟨-, rfl⟩ := monStep_eq_some.1 h2
  -- the monitor stands in `subscribed`: the trace cannot end here, and only a birth is accepted
  cases rest with
  | nil => cases hm; exact absurd rfl hfin
  | cons e rest' =>
    obtain ⟨m3, h3, -⟩ := monRun_cons hm
    have h3 := monStep_eq_some.1 h3
    cases e with
    | publishState t o ts x =>
      cases o
      · exact absurd rfl h3.1.2.2
      · obtain ⟨⟨rfl, rfl, -⟩, -⟩ := h3; exact ⟨ts, rest', rfl⟩
    | setWill t ts => exact absurd rfl h3.1.2
    | subscribe f => cases h3.1.1
    | disconnect => exact absurd rfl h3.1

theorem inv_accepted (own : Str) (s : St) (tr : List Eff) (h : Inv own s tr) : Accepted own tr :=
  ⟨_, h.reads.2.2, by cases s.published <;> nofun⟩

/-- Completeness of a table with the rows narrowed to the configuration, then to the prefix, before
the last input is looked for: evaluated this way the kernel compares a row with 15 cells, not 324. -/
theorem tableComplete_eq (t : List Row) : tableComplete t =
    [0, 1, 2].all fun c => tablePrefixes.all fun p => allInK.all fun i =>
      thirdCancel p i || ((t.filter (·.cfg = c)).filter (·.pre = p)).any (·.inp = i) := by
  simp only [tableComplete, List.any_filter, Bool.and_assoc]

end Srad.HostLoop
