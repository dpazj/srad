/-
C01 — Edge node emits no data outside a birthed session.
-/
import SradModel.Proofs.EonC01

namespace Srad.Eon
open Srad.Eon.P01

/-- **No data outside a birthed session.** In every execution no NDATA, DBIRTH, DDATA or DDEATH
is handed over before an NBIRTH of the current connection has been accepted, while a node
(re)birth is in flight (from the moment it starts until its NBIRTH is accepted), or after the
loss of the connection has been processed (a new will registered), until the next NBIRTH is
accepted. -/
theorem C01_gate (cd : Nat) (acts : List Act) (s : St) (tr : List Obs)
    (h : runActs (init cd) acts = some (s, tr)) : gateOk false none tr = true := by
  exact (reaches_inv ⟨acts, h⟩).1

/-- on every connection the first hand-over after the subscriptions is the NBIRTH (the NDEATH and
disconnect of a cancel excepted) -/
theorem C01_first_after_subscribe (cd : Nat) (acts : List Act) (s : St) (tr : List Obs)
    (h : runActs (init cd) acts = some (s, tr)) : firstAfterSubOk false tr = true := by
  exact (reaches_inv ⟨acts, h⟩).2.1

/-- every seq-bearing hand-over in the log was made while the node was online and birthed, and
`birthed` implies `online` -/
theorem C01_data_only_when_birthed (cd : Nat) (acts : List Act) (s : St) (tr : List Obs)
    (h : runActs (init cd) acts = some (s, tr)) :
    (∀ c ∈ s.calls, c.kind.bearsSeq = true → c.gOnline = true ∧ c.gBirthed = true) ∧
    (s.birthed = true → s.online = true) := by
  obtain ⟨-, -, hw, hi⟩ := reaches_inv ⟨acts, h⟩
  exact ⟨hi.log_ok, hw.inv.birthed_online⟩

/-- **A publish in any of those states returns an error and emits nothing**: a node-handle
publish of a non-empty batch taken while the node is not (online and birthed) ends with an error
result, hands nothing over and leaves the shared state untouched -/
theorem C01_node_publish_refused (s : St) (j : Nat) (isTry : Bool) (n : Nat) (dec : Dec) (k : Nat)
    (s' : St) (o : List Obs) (hn : 0 < n)
    (hu : s.ucalls.find? (·.j == j) = some { j := j, kind := .pub .node isTry n, pc := .start })
    (hgate : ¬ (s.online = true ∧ s.birthed = true))
    (h : (step s (.user j) dec)[k]? = some (s', o)) :
    (o = [.ures j .offline] ∨ o = [.ures j .unbirthed]) ∧ s'.calls = s.calls ∧ s'.seq = s.seq := by
  rcases publish_gate hn hu (List.mem_of_getElem? h) with hr | ⟨ho, hb, -⟩
  · exact hr
  · exact absurd ⟨ho, hb⟩ hgate

/-- the same through a device handle; additionally refused when the device is not birthed in the
current node birth -/
theorem C01_device_publish_refused (s : St) (j d : Nat) (isTry : Bool) (n : Nat) (dec : Dec) (k : Nat)
    (s' : St) (o : List Obs) (hn : 0 < n)
    (hu : s.ucalls.find? (·.j == j) = some { j := j, kind := .pub (.dev d) isTry n, pc := .start })
    (hgate : ¬ (s.online = true ∧ s.birthed = true) ∨
             (∀ x, findDev d s.devs = some x → x.flag = false ∨ x.epoch ≠ s.epoch))
    (h : (step s (.user j) dec)[k]? = some (s', o)) :
    (o = [.ures j .offline] ∨ o = [.ures j .unbirthed]) ∧ s'.calls = s.calls ∧ s'.seq = s.seq := by
  rcases publish_gate hn hu (List.mem_of_getElem? h) with hr | ⟨ho, hb, hd⟩
  · exact hr
  · obtain ⟨x, hx, hf, he⟩ := hd d rfl
    rcases hgate with hg | hg
    · exact absurd ⟨ho, hb⟩ hg
    · rcases hg x hx with h' | h'
      · rw [hf] at h'; cases h'
      · exact absurd he h'

end Srad.Eon
