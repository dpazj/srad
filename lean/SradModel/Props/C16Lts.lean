/-
C16 (concurrent half) — the host's STATE certificate and will under every schedule.
Property theorems only (helper lemmas: `SradModel/Proofs/HostLoopLts.lean`; the scanners are
defined in `SradModel/Model/HostLoopLtsSpec.lean`).

Setting. `Model/HostLoopLts` is the event loop of `srad-app/src/eventloop.rs` as a labelled
transition system: the event-loop task takes one ready `select!` branch per step, every spawned
session / answer task makes one client call per step, every `AppClient::cancel()` is a task of
three steps; the client accepts, rejects or parks each call (a step parameter) and resolves parked
calls whenever it likes; events, cancels, clock settings and time arrive at any moment.
`Reaches s tr` = state `s` is reached with observation trace `tr` by construction at some clock
reading followed by ANY list of such actions. All theorems are for every `Reaches s tr`, i.e. for
all interleavings, all client decisions, all stimuli, any clock (not even monotone). The subscription
configuration and the host id do not influence the LTS (they only render filters and topics).

The trace contains what the doubles of the harness see (`will`, `sub`, `stateOn`, `stateOff`,
`disc`, `resolved`, `polled`, `event`), echoes of stimuli (`clock`, `cancelReq`) and three ghost
observations for moments no trait object sees (`spawn`, `flagSet`, `dropped`).
-/
import SradModel.Proofs.HostLoopLts

namespace Srad.HostLoopLts
open Srad.HostLoop (Str SubCfg)

/-- **Going offline registers a fresh will before anything else is returned.** In every
execution every will registration carries the clock reading of that very moment (so it differs
from the previous will whenever the clock moved), and every `Offline` that `poll` returns is
directly preceded by such a registration — hence before `poll` returns the next `Online`. This
holds also when the Offline is processed before the session task of the Online before it has
subscribed, published or stored the flag. -/
theorem C16L_fresh_will_on_offline (s : St) (tr : List Obs) (h : Reaches s tr) :
    freshWillOk 0 false tr = true := by
  obtain ⟨now0, acts, o, hr, rfl⟩ := h
  have := fresh_mono _ _ (fresh_keeps.runActs (fun _ => rfl) hr)
  simpa [initObs, freshWillOk, init] using this

/-- **Every STATE birth carries the will timestamp captured at its Online.** For every task `k`:
when it is spawned (by the Online that `poll` returns, or by an answered own `{online:false}`) it
captures the timestamp of the will registered at that moment, and every `{online:true}` STATE it
ever hands over — however late, e.g. after its subscribe was parked across a reconnect — carries
exactly that timestamp. -/
theorem C16L_birth_matches_session_will (s : St) (tr : List Obs) (h : Reaches s tr) (k : Nat) :
    birthTsOk k none none tr = true := by
  obtain ⟨now0, acts, o, hr, rfl⟩ := h
  have := (ts_keeps k).runActs (fun _ => rfl) hr
  simpa [initObs, birthTsOk, init] using this

/-- **The stronger reading fails under back-pressure (negative result).** "Every STATE birth
carries the timestamp of the will registered when it is handed over" is false for some execution:
the client parks the first session's `subscribe_many`, the host goes offline (fresh will 120) and
online again, then the parked call is resolved — the first session publishes `{online:true,
timestamp:100}` on a connection whose registered will carries 120. (The harness reproduces this
schedule on the real code: corpus/hll/stale-session-after-reconnect.json.) -/
theorem C16L_stale_birth_possible :
    ∃ s tr, Reaches s tr ∧ birthIsRegisteredWillOk none tr = false := by
  have h : (runActs (init 100)
      [.stim (.ev .online), .task .loopEvent .acc, .task (.task 0) .park, .stim (.clock 120),
       .stim (.ev .offline), .stim (.ev .online), .task .loopEvent .acc, .task .loopEvent .acc,
       .stim (.resolve 0 true), .task (.task 0) .acc, .task (.task 0) .acc]).any
      (fun r => birthIsRegisteredWillOk none (initObs 100 ++ r.2) == false) = true := by decide
  revert h
  cases hr : runActs (init 100) _ with
  | none => intro h; simp at h
  | some r =>
    intro h
    exact ⟨r.1, initObs 100 ++ r.2, ⟨100, _, r.2, hr, rfl⟩, by simpa using h⟩

/-- **Subscribe before birth.** For every task `k`: a session task hands over `subscribe_many`
first and exactly once, and its STATE birth only after that call has returned (accepted, rejected,
or parked and later resolved) — never before, never while it is parked. Answer tasks do not
subscribe. -/
theorem C16L_subscribe_before_birth (s : St) (tr : List Obs) (h : Reaches s tr) (k : Nat) :
    subBeforeBirthOk k .unborn tr = true := by
  obtain ⟨now0, acts, o, hr, rfl⟩ := h
  have := (sbb_keeps k).runActs (fun _ => rfl) hr
  simpa [initObs, subBeforeBirthOk, init, subPhase] using this

/-- **An own `{online:false}` STATE is answered iff the birth has gone out.** Reading the trace
with `flag` = "a session task has stored `published_online_state` and no will has been registered
since": every poll of an own `{online:false}` STATE is followed at once by the spawn of an answer
task carrying the registered will's timestamp if `flag` holds (by `dropped` if the loop is inside
the shutdown drain), and by no spawn if it does not; an answer task is never spawned otherwise.
(By `C16L_birth_matches_session_will` the answer then publishes exactly that timestamp.) -/
theorem C16L_own_offline_answered_iff_published (s : St) (tr : List Obs) (h : Reaches s tr) :
    ownOffOk false 0 false tr = true := by
  obtain ⟨now0, acts, o, hr, rfl⟩ := h
  have := own_keeps.runActs (fun _ => by simp [ownOffOk]) hr
  simpa [initObs, ownOffOk, init] using this

/-- **"Its birth has gone out".** For every task `k`: `published_online_state` is stored by the
task (`flagSet k`) only after its STATE birth has been handed over and has returned — accepted,
rejected (the code ignores the result) or parked and later resolved; never while it is parked.
Together with `C16L_own_offline_answered_iff_published`: an own `{online:false}` is answered only
once some session's birth has gone out and no Offline has been processed since. -/
theorem C16L_flag_only_after_birth_returned (s : St) (tr : List Obs) (h : Reaches s tr) (k : Nat) :
    flagAfterBirthOk k .notYet tr = true := by
  obtain ⟨now0, acts, o, hr, rfl⟩ := h
  have := (fab_keeps k).runActs (fun _ => rfl) hr
  simpa [initObs, flagAfterBirthOk, init, bphaseOf] using this

/-- **Cancel publishes `{online:false}` and disconnects.** In every execution every offline
STATE belongs to a requested cancel, is a `try_` publish (never parks) and carries the clock
reading of that moment; every disconnect follows the offline STATE of its cancel and never parks;
and the numbers add up: cancels requested = offline STATEs handed over + cancel tasks that have
not started, offline STATEs = disconnects + cancel tasks between the two (waiting for the
capacity-1 shutdown channel or about to disconnect). When no cancel task is left, every cancel has
published its offline STATE and disconnected. -/
theorem C16L_cancel_offline_then_disconnect (s : St) (tr : List Obs) (h : Reaches s tr) :
    cancelOk 0 0 0 tr = true ∧
    nStateOff tr + s.cStart = nCancelReq tr ∧
    nDisc tr + s.cSend + s.cDisc = nStateOff tr := by
  obtain ⟨now0, acts, o, hr, rfl⟩ := h
  have h1 := cancel_keeps.runActs (fun _ => rfl) hr
  have h2 := counts_runActs acts (init now0) s o hr
  have e1 : nStateOff (initObs now0 ++ o) = nStateOff o := by
    simp [nStateOff, initObs, Obs.isStateOff]
  have e2 : nCancelReq (initObs now0 ++ o) = nCancelReq o := by
    simp [nCancelReq, initObs, Obs.isCancelReq]
  have e3 : nDisc (initObs now0 ++ o) = nDisc o := by
    simp [nDisc, initObs, Obs.isDisc]
  have h3 : (init now0).cStart = 0 ∧ (init now0).cSend = 0 ∧ (init now0).cDisc = 0 := ⟨rfl, rfl, rfl⟩
  obtain ⟨h4, h5, h6⟩ := h3
  rw [h4, h5, h6] at h2
  refine ⟨by simpa [initObs, cancelOk, init] using h1, ?_, ?_⟩
  · rw [e1, e2]; omega
  · rw [e1, e3]; omega

/-- **Quiescent delivery under the accept-all client is the sequential model.** From every
quiescent LTS state (`QS`: nothing queued, every task finished, no cancel in flight) and for every
input of `Model/HostLoop` (an event, `cancel`, the 1 s timeout) with its clock reading — except a
third `cancel` while two are outstanding, which the sequential model does not follow — the
schedule `sched` (clock, the input, the loop, then the spawned task / the cancel task, every call
accepted) runs, ends in a state that is again quiescent (`QS`, and no task of the LTS is enabled),
and its observations are exactly what `HostLoop.step` computes: same abstract state, same effects
(`effs`), same returned `AppEvent`s (`rets`). -/
theorem C16L_quiescent_refines_sequential (cfg : SubCfg) (host : Str) (s : St) (hq : QS s)
    (i : HostLoop.In) (now : Nat)
    (hi : ¬ (i = .cancel ∧ s.drain.isSome = true ∧ s.shut = true)) :
    acceptAll (sched host s i now) = true ∧
    ∃ s' o, runActs s (sched host s i now) = some (s', o) ∧ QS s' ∧ quiescent s' = true ∧
      HostLoop.step cfg host (absSt s) i now = (absSt s', effs cfg host o, rets o) := by
  refine ⟨sched_acceptAll host s i now, ?_⟩
  obtain ⟨s', o, hr, hq', hst⟩ := (refine_step cfg host s hq i now hi).elim
  exact ⟨s', o, hr, hq', qs_quiescent hq', hst⟩

/-- **Every history of the sequential model is an execution of the LTS** (so the C16 theorems
about `HostLoop.history` speak about real schedules): for a valid host id and any list of steps
without a third outstanding cancel there is a reachable, quiescent LTS state whose trace projects
to exactly the history's effects and returned events, with every client decision "accept". -/
theorem C16L_sequential_histories_are_executions (cfg : SubCfg) (host : Str) (now0 : Nat)
    (steps : List HostLoop.Step) (hv : HostLoop.validName host = true)
    (hn : noThirdCancel cfg host { willTs := now0 } steps) :
    ∃ s tr, Reaches s tr ∧ quiescent s = true ∧
      HostLoop.history cfg host now0 steps = some (absSt s, effs cfg host tr, rets tr) := by
  obtain ⟨acts, s', o, hr, -, hq, he⟩ := refine_exec cfg host steps (init now0) (qs_init now0) (by
    simpa [absSt, init] using hn)
  refine ⟨s', initObs now0 ++ o, ⟨now0, acts, o, hr, rfl⟩, qs_quiescent hq, ?_⟩
  have ha : absSt (init now0) = { willTs := now0 } := by simp [absSt, init]
  rw [ha] at he
  simp [HostLoop.history, HostLoop.new, HostLoop.updateLastWill, hv, he, effs, rets, initObs, effOf, retOf,
    List.filterMap_cons]

/-! ### non-vacuity (tests, not the claim) -/

/-- Online and Offline queued back to back: the loop handles both before the session task runs.
The will is refreshed (110) although no birth had gone out; the birth then goes out with the
timestamp captured at its Online (100) and the flag is stored while the host is offline. -/
example :
    runActs (init 100)
      [.stim (.clock 110), .stim (.ev .online), .stim (.ev .offline), .task .loopEvent .acc,
       .task .loopEvent .acc, .task (.task 0) .acc, .task (.task 0) .acc, .task (.task 0) .acc]
    = some ({ online := false, willTs := 110, flag := true, now := 110, nCalls := 2, tasks := [{ session := true, ts := 100, pc := .done }] },
        [.clock 110, .polled .online, .spawn 0 true 100, .event .online, .polled .offline, .will 110,
         .event .offline, .sub 0 0 .acc, .stateOn 0 1 100 .acc, .flagSet 0]) := by decide

/-- a parked subscribe across a reconnect, the stale birth, an answered own offline STATE with a
rejected publish, a cancel while online, an own offline STATE dropped by the drain, the timeout -/
example :
    (runActs (init 100)
      [.stim (.ev .online), .task .loopEvent .acc, .task (.task 0) .park, .stim (.clock 120),
       .stim (.ev .offline), .stim (.ev .online), .task .loopEvent .acc, .task .loopEvent .acc,
       .stim (.resolve 0 true), .task (.task 0) .acc, .task (.task 0) .acc, .task (.task 0) .acc,
       .stim (.ev (.state true false)), .task .loopEvent .acc, .task (.task 2) .rej,
       .stim .cancel, .task .cancelStart .acc, .task .cancelSend .acc, .task .loopShutdown .acc,
       .task .cancelDisc .acc, .stim (.ev (.state true false)), .task .loopEvent .acc,
       .stim (.adv 1000), .task .loopTimeout .acc]).map (·.2)
    = some [.polled .online, .spawn 0 true 100, .event .online, .sub 0 0 .park, .clock 120,
        .polled .offline, .will 120, .event .offline, .polled .online, .spawn 1 true 120, .event .online,
        .resolved 0 true, .stateOn 0 1 100 .acc, .flagSet 0, .polled (.state true false),
        .spawn 2 false 120, .stateOn 2 2 120 .rej, .cancelReq, .stateOff 3 120 .acc, .disc 4 .acc,
        .polled (.state true false), .dropped, .event .cancelled] := by decide

/-- the scanners are not trivially true: a trace in which Offline is returned without a will
registration (the seeded change to `handle_offline`) is refused, and so are a birth with another
timestamp than the captured one, a birth while the subscribe is parked, an unanswered own offline
STATE with the flag set, and a disconnect without an offline STATE -/
example :
    freshWillOk 0 false [.clock 100, .will 100, .polled .online, .spawn 0 true 100, .event .online,
      .polled .offline, .event .offline] = false ∧
    birthTsOk 0 none none [.will 100, .spawn 0 true 100, .will 110, .stateOn 0 1 110 .acc] = false ∧
    subBeforeBirthOk 0 .unborn [.spawn 0 true 100, .sub 0 0 .park, .stateOn 0 1 100 .acc] = false ∧
    ownOffOk false 0 false [.will 100, .flagSet 0, .polled (.state true false), .polled .junk] = false ∧
    cancelOk 0 0 0 [.cancelReq, .disc 0 .acc] = false ∧
    flagAfterBirthOk 0 .notYet [.spawn 0 true 100, .sub 0 0 .acc, .stateOn 0 1 100 .park, .flagSet 0] = false := by decide

/-- a quiescent state with the loop draining and a second `Shutdown` pending satisfies `QS`
(the hypotheses of the refinement theorem are satisfiable in the drain, too) -/
example : QS { online := true, drain := some 1500, shut := true, vt := 500, horizon := 500 } :=
  qs_mk rfl (by simp) ⟨rfl, rfl, rfl⟩ (by simp) (by simp) (by simp) (by simp)

end Srad.HostLoopLts
