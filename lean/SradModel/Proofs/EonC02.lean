/- C02 — `seqOk` as a monitor: its state is the number expected next, which `Inv` ties to `seq`. -/
import SradModel.Proofs.EonRules

namespace Srad.Eon

namespace P02

def seqNext (exp : Option Nat) : Obs → Option Nat
  | .call _ k _ _ _ _ _ =>
    if k == .nbirth then some 1 else if k.bearsSeq then exp.map fun e => (e + 1) % 256 else exp
  | _ => exp

theorem seqOk_monitor : IsMonitor seqOk seqNext where
  nil _ := rfl
  cons exp o t := by
    cases o with
    | call id k d sq bd it dec => cases k <;> cases exp <;> first | rfl | exact cons_check _ _
    | _ => rfl

/-- `inNbirth`: an accepted NBIRTH sets `birthed`; by then a number is expected -/
def Inv (s : St) (exp : Option Nat) : Prop :=
  s.seq < 256 ∧ s.bdseq < 256 ∧
    ((exp = none ∧ s.birthed = false ∧ s.node.inNbirth = false) ∨ exp = some ((s.seq + 1) % 256))

theorem inv_init (cd : Nat) : Inv (init cd) none := ⟨Nat.zero_lt_succ _, Nat.zero_lt_succ _, .inl ⟨rfl, rfl, rfl⟩⟩

theorem Inv.handed {s : St} {exp : Option Nat} (hI : Inv s exp) (hb : s.birthed = true) :
    exp = some ((s.seq + 1) % 256) ∧
      ∀ s' : St, s'.seq = (s.seq + 1) % 256 → s'.bdseq = s.bdseq → Inv s' (some ((s'.seq + 1) % 256)) := by
  obtain ⟨-, h2, ⟨-, h, -⟩ | h⟩ := hI
  · rw [hb] at h; cases h
  · exact ⟨h, fun s' hq hbd => ⟨hq ▸ Nat.mod_lt _ (by decide), hbd ▸ h2, .inr rfl⟩⟩

theorem Inv.keep {s s' : St} {exp : Option Nat} (hI : Inv s exp) (hq : s'.seq = s.seq) (hbd : s'.bdseq = s.bdseq)
    (h : s.birthed = false → s.node.inNbirth = false → s'.birthed = false ∧ s'.node.inNbirth = false) : Inv s' exp :=
  ⟨hq ▸ hI.1, hbd ▸ hI.2.1, hI.2.2.imp (fun ⟨h1, h2, h3⟩ => ⟨h1, h h2 h3⟩) (hq ▸ ·)⟩

theorem carries (a : Nat) (rest : Bool) : ((some a == some a) && rest) = rest := by
  rw [beq_self_eq_true, Bool.true_and]

theorem devBirth_ok {s s' : St} {x bt req dec o exp} (h : DevBirth s x bt req dec s' o) (hI : Inv s exp) :
    seqOk exp o = true ∧ Inv s' (o.foldl seqNext exp) := by
  cases h with
  | handed _ _ _ _ hb =>
    obtain ⟨rfl, hI'⟩ := hI.handed hb
    exact ⟨carries _ _, hI' _ rfl rfl⟩
  | _ => exact ⟨rfl, hI⟩

theorem devDeath_ok {s s' : St} {x pub td dec o exp} (h : DevDeath s x pub td dec s' o) (hI : Inv s exp) :
    seqOk exp o = true ∧ Inv s' (o.foldl seqNext exp) := by
  cases h with
  | handed _ _ _ hb =>
    obtain ⟨rfl, hI'⟩ := hI.handed hb
    exact ⟨carries _ _, hI' _ rfl rfl⟩
  | _ => exact ⟨rfl, hI⟩

theorem step_ok {s s' : St} {o exp} (hI : Inv s exp) (h : Step s s' o) :
    seqOk exp o = true ∧ Inv s' (o.foldl seqNext exp) := by
  cases h with
  | stim x h => cases h <;> exact ⟨rfl, hI⟩
  | loop h =>
    cases h with
    | polled e rest s' _ _ hh => cases hh <;> exact ⟨rfl, hI⟩
    | _ => exact ⟨rfl, hI⟩
  | timeout h => cases h <;> exact ⟨rfl, hI⟩
  | node dec h =>
    cases h with
    | birthStart => exact ⟨rfl, Nat.zero_lt_succ _, hI.2.1, .inr rfl⟩
    | offline => exact ⟨rfl, hI.1, Nat.mod_lt _ (by decide), hI.2.2.imp (fun h => ⟨h.1, rfl, h.2.2⟩) id⟩
    | onlineSub => exact ⟨rfl, hI.keep rfl rfl fun hb _ => ⟨hb, by cases outcome false dec <;> rfl⟩⟩
    | _ => exact ⟨rfl, hI.keep rfl rfl (by simp_all [NodePc.inNbirth])⟩
  | dev u dec h =>
    induction h using DevStep.split with
    | birth h => exact devBirth_ok h hI
    | death h => exact devDeath_ok h hI
    | quiet | cb => exact ⟨rfl, hI⟩
  | user j dec h =>
    cases h with
    | pubNode _ _ _ _ _ _ _ _ hb | pubDev _ _ _ _ _ _ _ _ _ _ hb =>
      obtain ⟨rfl, hI'⟩ := hI.handed hb
      generalize outcome _ dec = r
      exact ⟨by cases r <;> exact carries _ _, by cases r <;> exact hI' _ rfl rfl⟩
    | _ => exact ⟨rfl, hI⟩

theorem runActs_ok {cd : Nat} {acts : List Act} {s : St} {tr : List Obs}
    (h : runActs (init cd) acts = some (s, tr)) : seqOk none tr = true ∧ ∃ exp, Inv s exp :=
  (seqOk_monitor.runActs step_ok (inv_init cd) h).imp_right fun hI => ⟨_, hI⟩

end P02

end Srad.Eon
