/-
Helper lemmas for C14: each loop / macro of metrics.rs in the form "succeeds with `x` iff the input
is well-formed (`Model/AdmitSpec.lean`) and `x` carries its fields".
-/
import SradModel.Model.AdmitSpec
import SradModel.Proofs.Codec

namespace Srad.Admit
open Srad.Codec Srad.Codec.DT

theorem ok_exists_iff {ε α} {r : Except ε α} {W : Prop} {R : α → Prop}
    (h : ∀ x, r = .ok x ↔ W ∧ R x) (hex : W → ∃ x, R x) : (∃ x, r = .ok x) ↔ W :=
  ⟨fun ⟨x, hx⟩ => ((h x).1 hx).1, fun hw => (hex hw).imp fun x hx => (h x).2 ⟨hw, hx⟩⟩

theorem error_exists_iff {ε α} {r : Except ε α} {W : Prop} {R : α → Prop}
    (h : ∀ x, r = .ok x ↔ W ∧ R x) (hex : W → ∃ x, R x) : (∃ e, r = .error e) ↔ ¬ W := by
  rw [← ok_exists_iff h hex]
  cases r <;> simp

theorem validDatatype_iff (c : Nat) : ValidDatatype c ↔ DT.ofCode c ≠ none := by
  rw [Ne, ofCode_none_iff, ValidDatatype, Nat.not_lt]

theorem pointwise_nil_left {α β} {R : α → β → Prop} {r : List β} : Pointwise R [] r ↔ r = [] :=
  ⟨fun h => by cases h; rfl, fun h => h ▸ .nil⟩

theorem pointwise_cons_left {α β} {R : α → β → Prop} {a : α} {l : List α} {r : List β} :
    Pointwise R (a :: l) r ↔ ∃ b t, r = b :: t ∧ R a b ∧ Pointwise R l t := by
  constructor
  · intro h; cases h with | cons h1 h2 => exact ⟨_, _, rfl, h1, h2⟩
  · rintro ⟨b, t, rfl, h1, h2⟩; exact .cons h1 h2

theorem pointwise_exists {α β} {R : α → β → Prop} (l : List α) (h : ∀ a ∈ l, ∃ b, R a b) :
    ∃ r, Pointwise R l r := by
  induction l with
  | nil => exact ⟨[], .nil⟩
  | cons a t ih =>
    obtain ⟨b, hb⟩ := h a (by simp)
    obtain ⟨r, hr⟩ := ih (fun x hx => h x (by simp [hx]))
    exact ⟨b :: r, .cons hb hr⟩

theorem pointwise_length {α β} {R : α → β → Prop} {l : List α} {r : List β}
    (h : Pointwise R l r) : l.length = r.length := by
  induction h with
  | nil => rfl
  | cons _ _ ih => simp [ih]

theorem loop_ok_iff {α β ε} {F : List α → Except ε (List β)} {Ok : α → Prop} {R : α → β → Prop}
    (hnil : F [] = .ok [])
    (hcons : ∀ x t r, F (x :: t) = .ok r ↔ ∃ b r', (Ok x ∧ R x b) ∧ F t = .ok r' ∧ r = b :: r')
    (ms : List α) (r : List β) : F ms = .ok r ↔ (∀ m ∈ ms, Ok m) ∧ Pointwise R ms r := by
  induction ms generalizing r with
  | nil => simp [hnil, pointwise_nil_left, eq_comm]
  | cons x t ih =>
    simp only [hcons, ih, pointwise_cons_left, List.forall_mem_cons]
    constructor
    · rintro ⟨b, r', ⟨hx, hb⟩, ⟨ht, hr'⟩, rfl⟩; exact ⟨⟨hx, ht⟩, b, r', rfl, hb, hr'⟩
    · rintro ⟨⟨hx, ht⟩, b, r', rfl, hb, hr'⟩; exact ⟨b, r', ⟨hx, hb⟩, ⟨ht, hr'⟩, rfl⟩

theorem decodePropVal_ne_none_iff (v : PropVal) : decodePropVal v ≠ none ↔ PropValOk v := by
  rcases v with ⟨ty, isNull, value⟩
  simp only [decodePropVal, PropValOk, validDatatype_iff]
  rcases value with _ | x <;> rcases isNull with _ | _ | _ <;> rcases ty with _ | t <;> simp <;>
    cases DT.ofCode t <;> simp

theorem decodePairs_ne_none_iff (ks : List Bytes) (vs : List PropVal) (acc : List (Bytes × DPropVal))
    (hlen : ks.length = vs.length) :
    decodePairs ks vs acc ≠ none ↔ ∀ v ∈ vs, PropValOk v := by
  induction ks generalizing vs acc with
  | nil =>
    cases vs with
    | nil => simp [decodePairs]
    | cons v vs => simp at hlen
  | cons k ks ih =>
    cases vs with
    | nil => simp at hlen
    | cons v vs =>
      simp only [List.length_cons, Nat.add_right_cancel_iff] at hlen
      simp only [decodePairs, List.forall_mem_cons]
      rw [← decodePropVal_ne_none_iff v]
      cases decodePropVal v with
      | none => simp
      | some d => simpa using ih vs _ hlen

/-! ### `bdseq_from_payload_metrics` -/

theorem fromProto_i64_iff (v : PV) (n : Nat) : fromProto .i64 v = .ok (.n n) ↔ v = .long n := by
  cases v <;> simp [fromProto]

theorem toI64_range (n : Nat) (h : n < 2 ^ 64) : ¬ (toI64 n > 255 ∨ toI64 n < 0) ↔ n ≤ 255 := by
  unfold toI64
  split <;> omega

/-- "the first metric named bdSeq holds a LongValue ≤ 255", computed with `List.find?` -/
def bdSeqB (ms : List Metric) : Option Nat :=
  match ms.find? (fun m => m.name == some BDSEQ) with
  | some m =>
    match m.value with
    | some (.long b) => if b ≤ 255 then some b else none
    | _ => none
  | none => none

theorem bdSeqB_iff (ms : List Metric) (b : Nat) : bdSeqB ms = some b ↔ HasBdSeq ms b := by
  unfold bdSeqB HasBdSeq
  constructor
  · intro h
    rcases hf : ms.find? (fun m => m.name == some BDSEQ) with _ | m
    · simp [hf] at h
    · rw [hf] at h
      obtain ⟨hp, pre, post, heq, hpre⟩ := List.find?_eq_some_iff_append.1 hf
      refine ⟨pre, m, post, heq, ?_, by simpa using hp, ?_⟩
      · intro x hx; simpa using hpre x hx
      · rcases hv : m.value with _ | v
        · simp [hv] at h
        · cases v <;> simp [hv] at h
          obtain ⟨h1, h2⟩ := h
          subst h2; exact ⟨rfl, h1⟩
  · rintro ⟨pre, m, post, heq, hpre, hn, hv, hb⟩
    have hf : ms.find? (fun m => m.name == some BDSEQ) = some m :=
      List.find?_eq_some_iff_append.2 ⟨by simp [hn], pre, post, heq, fun x hx => by simpa using hpre x hx⟩
    simp [hf, hv, hb]

/-- the loop of `bdseq_from_payload_metrics` is that search: `i64::try_from` accepts exactly a
`LongValue`, and for a `u64` the signed range test `0..=255` is `≤ 255`, where `as u8` changes
nothing -/
theorem bdseqFromMetrics_eq (ms : List Metric) (hty : LongsAreU64 ms) :
    bdseqFromMetrics ms = bdSeqB ms := by
  induction ms with
  | nil => rfl
  | cons x t ih =>
    have ih : bdseqFromMetrics t = bdSeqB t := ih (fun m hm => hty m (by simp [hm]))
    unfold bdSeqB at ih ⊢
    rw [bdseqFromMetrics, List.find?_cons]
    rcases hn : x.name with _ | name
    · simpa using ih
    · by_cases hne : name = BDSEQ
      · subst hne
        rcases hv : x.value with _ | v
        · simp [hv]
        · cases v with
          | long n =>
            have hr := toI64_range n (hty x (by simp) n hv)
            by_cases h : toI64 n > 255 ∨ toI64 n < 0
            · have hgt : ¬ n ≤ 255 := fun hle => hr.2 hle h
              simp [fromProto, hv, h, hgt]
            · have hle : n ≤ 255 := hr.1 h
              simp [fromProto, hv, h, hle, Nat.mod_eq_of_lt (show n < 256 by omega)]
          | _ => simp [fromProto, hv]
      · simpa [hne, beq_false_of_ne hne] using ih

theorem bdseq_iff (ms : List Metric) (hty : LongsAreU64 ms) (b : Nat) :
    bdseqFromMetrics ms = some b ↔ HasBdSeq ms b := by
  rw [bdseqFromMetrics_eq ms hty, bdSeqB_iff]
section
variable {π : Type} (decodePS : PSet → Option π)

theorem getD_false (b : Option Bool) : b.getD false = (b == some true) := by
  cases b with | none => rfl | some v => cases v <;> rfl

theorem detailsOf_iff (m : Metric) (d : Details π) :
    DetailsOf decodePS m d ↔ ∃ ts, m.timestamp = some ts ∧
      ⟨m.value, m.properties.bind decodePS, m.metadata, ts,
        m.isHistorical == some true, m.isTransient == some true⟩ = d := by
  rcases d with ⟨dv, dp, dm, dts, dh, dtr⟩
  simp only [DetailsOf, Details.mk.injEq]
  constructor
  · rintro ⟨h1, h2, h3, h4, h5, h6⟩; exact ⟨dts, h1, h2.symm, h6.symm, h3.symm, rfl, h4.symm, h5.symm⟩
  · rintro ⟨ts, h1, h2, h6, h3, rfl, h4, h5⟩; exact ⟨h1, h2.symm, h3.symm, h4.symm, h5.symm, h6.symm⟩

theorem metricDetails_ok_iff (m : Metric) (d : Details π) :
    metricDetails decodePS m = .ok d ↔ MetricOk decodePS m ∧ DetailsOf decodePS m d := by
  rw [detailsOf_iff]
  rcases m with ⟨name, alias, ts, dt, hist, trans, isNull, mta, props, value⟩
  simp only [metricDetails, MetricOk, getD_false]
  -- the checks in the order the macro makes them; a failed one ends the case
  rcases ts with _ | ts
  · simp
  rcases value with _ | v
  · rcases isNull with _ | _ | _
    · simp
    · simp
    · rcases props with _ | ps
      · simp
      · rcases h : decodePS ps with _ | dp <;> simp [h]
  · rcases props with _ | ps
    · simp
    · rcases h : decodePS ps with _ | dp <;> simp [h]

theorem detailsOf_exists (m : Metric) (hok : MetricOk decodePS m) :
    ∃ d : Details π, DetailsOf decodePS m d := by
  obtain ⟨ts, hts⟩ := Option.ne_none_iff_exists'.1 hok.1
  exact ⟨_, (detailsOf_iff decodePS m _).2 ⟨ts, hts, rfl⟩⟩

/-! ### `get_metric_birth_details_from_birth_metrics` -/

theorem birthOf_exists (m : Metric) (hok : BirthMetricOk decodePS m) :
    ∃ x : BirthDetails × Details π, BirthOf decodePS m x := by
  obtain ⟨hn, ⟨c, hc, hv⟩, hm⟩ := hok
  obtain ⟨d, hd⟩ := detailsOf_exists decodePS m hm
  obtain ⟨name, hname⟩ := Option.ne_none_iff_exists'.1 hn
  obtain ⟨dt, hdt⟩ := Option.ne_none_iff_exists'.1 ((validDatatype_iff c).1 hv)
  exact ⟨(⟨name, m.alias, dt⟩, d), hname, rfl, by rw [hc, (ofCode_eq_some_iff c dt).1 hdt], hd⟩

theorem birthOf_iff (x : Metric) (b : BirthDetails × Details π) :
    BirthMetricOk decodePS x ∧ BirthOf decodePS x b ↔
      x.name = some b.1.name ∧ b.1.alias = x.alias ∧
      (∃ c, x.datatype = some c ∧ DT.ofCode c = some b.1.datatype) ∧
      metricDetails decodePS x = .ok b.2 := by
  simp only [BirthMetricOk, BirthOf, metricDetails_ok_iff, validDatatype_iff, ofCode_eq_some_iff]
  constructor
  · rintro ⟨⟨_, _, hm⟩, hn, ha, hd, hb⟩; exact ⟨hn, ha, ⟨_, hd, rfl⟩, hm, hb⟩
  · rintro ⟨hn, ha, ⟨c, hd, rfl⟩, hm, hb⟩
    exact ⟨⟨by simp [hn], ⟨_, hd, by simp [ofCode_code]⟩, hm⟩, hn, ha, hd, hb⟩

theorem birthMetrics_cons_ok_iff (x : Metric) (t : List Metric) (r : List (BirthDetails × Details π)) :
    birthMetrics decodePS (x :: t) = .ok r ↔
      ∃ b r', (BirthMetricOk decodePS x ∧ BirthOf decodePS x b) ∧
        birthMetrics decodePS t = .ok r' ∧ r = b :: r' := by
  simp only [birthOf_iff]
  rw [birthMetrics]
  constructor
  · intro h
    rcases h1 : x.datatype with _ | c <;> simp only [h1, reduceCtorEq] at h
    rcases h2 : DT.ofCode c with _ | dt <;> simp only [h2, reduceCtorEq] at h
    rcases h3 : x.name with _ | name <;> simp only [h3, reduceCtorEq] at h
    rcases h4 : metricDetails decodePS x with e | d <;> simp only [h4, reduceCtorEq] at h
    rcases h5 : birthMetrics decodePS t with e | r' <;> simp only [h5, reduceCtorEq] at h
    exact ⟨(⟨name, x.alias, dt⟩, d), r', ⟨rfl, rfl, ⟨c, rfl, h2⟩, rfl⟩, rfl, (Except.ok.inj h).symm⟩
  · rintro ⟨b, r', ⟨h1, h2, ⟨c, h3, h4⟩, h5⟩, h6, rfl⟩
    simp only [h1, ← h2, h3, h4, h5, h6]

theorem birthMetrics_ok_iff (ms : List Metric) (r : List (BirthDetails × Details π)) :
    birthMetrics decodePS ms = .ok r ↔
      (∀ m ∈ ms, BirthMetricOk decodePS m) ∧ Pointwise (BirthOf decodePS) ms r :=
  loop_ok_iff (F := birthMetrics decodePS) rfl (birthMetrics_cons_ok_iff decodePS) ms r

/-! ### `get_metric_id_and_details_from_payload_metrics` -/

theorem metricId_ok_iff (m : Metric) (id : MId) :
    metricId m = .ok id ↔ (m.name ≠ none ∨ m.alias ≠ none) ∧ IdOf m id := by
  unfold IdOf metricId
  rcases m.alias with _ | a <;> rcases m.name with _ | n <;> simp [eq_comm]

theorem dataOf_exists (m : Metric) (hok : DataMetricOk decodePS m) :
    ∃ x : MId × Details π, DataOf decodePS m x := by
  obtain ⟨d, hd⟩ := detailsOf_exists decodePS m hok.2
  obtain ⟨id, hid⟩ : ∃ id, metricId m = .ok id := by
    unfold metricId; rcases hok.1 with h | h <;> revert h <;> cases m.alias <;> cases m.name <;> simp
  exact ⟨(id, d), ((metricId_ok_iff m id).1 hid).2, hd⟩

theorem dataOf_iff (x : Metric) (b : MId × Details π) :
    DataMetricOk decodePS x ∧ DataOf decodePS x b ↔
      metricId x = .ok b.1 ∧ metricDetails decodePS x = .ok b.2 := by
  rw [metricId_ok_iff, metricDetails_ok_iff]
  exact and_and_and_comm

theorem dataMetrics_cons_ok_iff (x : Metric) (t : List Metric) (r : List (MId × Details π)) :
    dataMetrics decodePS (x :: t) = .ok r ↔
      ∃ b r', (DataMetricOk decodePS x ∧ DataOf decodePS x b) ∧
        dataMetrics decodePS t = .ok r' ∧ r = b :: r' := by
  simp only [dataOf_iff]
  rw [dataMetrics]
  constructor
  · intro h
    rcases h1 : metricId x with e | id <;> simp only [h1, reduceCtorEq] at h
    rcases h2 : metricDetails decodePS x with e | d <;> simp only [h2, reduceCtorEq] at h
    rcases h3 : dataMetrics decodePS t with e | r' <;> simp only [h3, reduceCtorEq] at h
    exact ⟨(id, d), r', ⟨rfl, rfl⟩, rfl, (Except.ok.inj h).symm⟩
  · rintro ⟨b, r', ⟨h1, h2⟩, h3, rfl⟩
    simp only [h1, h2, h3]

theorem dataMetrics_ok_iff (ms : List Metric) (r : List (MId × Details π)) :
    dataMetrics decodePS ms = .ok r ↔
      (∀ m ∈ ms, DataMetricOk decodePS m) ∧ Pointwise (DataOf decodePS) ms r :=
  loop_ok_iff (F := dataMetrics decodePS) rfl (dataMetrics_cons_ok_iff decodePS) ms r

theorem seqTsMetrics_iff {β} {F : Except MErr (List β)} {All : Prop} {PW : List β → Prop}
    (hF : ∀ r, F = .ok r ↔ All ∧ PW r) (p : Payload) (xs xt : Nat) (xm : List β) :
    (∃ s, p.seq = some s ∧ xs = s % 256) ∧ p.timestamp = some xt ∧ F = .ok xm ↔
      (p.seq ≠ none ∧ p.timestamp ≠ none ∧ All) ∧
        (∃ s, p.seq = some s ∧ xs = s % 256) ∧ p.timestamp = some xt ∧ PW xm := by
  rw [hF]
  constructor
  · rintro ⟨⟨s, hs, h⟩, ht, ha, hp⟩
    exact ⟨⟨by simp [hs], by simp [ht], ha⟩, ⟨s, hs, h⟩, ht, hp⟩
  · rintro ⟨⟨_, _, ha⟩, hs, ht, hp⟩
    exact ⟨hs, ht, ha, hp⟩

/-- the body `TryFrom<Payload>` has for DBIRTH, NDATA and DDATA: seq, timestamp, then the metrics
loop `F`; `mk` is the constructor of the admitted record -/
def seqTsMetrics {α β} (mk : Nat → Nat → List β → α) (p : Payload) (F : Except MErr (List β)) :
    Except PErr α :=
  match p.seq with
  | none => .error .missingSeq
  | some s =>
    match p.timestamp with
    | none => .error .missingTimestamp
    | some timestamp =>
      match F with
      | .error e => .error (.metric e)
      | .ok md => .ok (mk (s % 256) timestamp md)

theorem seqTsMetrics_ok_iff {α β} {mk : Nat → Nat → List β → α}
    (hinj : ∀ {a b c a' b' c'}, mk a b c = mk a' b' c' → a = a' ∧ b = b' ∧ c = c')
    {p : Payload} {F : Except MErr (List β)} {All : Prop} {PW : List β → Prop}
    (hF : ∀ r, F = .ok r ↔ All ∧ PW r) (xs xt : Nat) (xm : List β) :
    seqTsMetrics mk p F = .ok (mk xs xt xm) ↔
      (p.seq ≠ none ∧ p.timestamp ≠ none ∧ All) ∧
        (∃ s, p.seq = some s ∧ xs = s % 256) ∧ p.timestamp = some xt ∧ PW xm := by
  rw [← seqTsMetrics_iff hF, seqTsMetrics]
  constructor
  · intro h
    rcases h1 : p.seq with _ | s <;> simp only [h1, reduceCtorEq] at h
    rcases h2 : p.timestamp with _ | ts <;> simp only [h2, reduceCtorEq] at h
    rcases h3 : F with e | md <;> simp only [h3, reduceCtorEq] at h
    obtain ⟨rfl, rfl, rfl⟩ := hinj (Except.ok.inj h)
    exact ⟨⟨s, rfl, rfl⟩, rfl, rfl⟩
  · rintro ⟨⟨s, h1, h⟩, h2, h3⟩
    simp only [h1, h2, h3, ← h]

theorem ndataTryFrom_eq (p : Payload) :
    ndataTryFrom decodePS p = seqTsMetrics NData.mk p (dataMetrics decodePS p.metrics) := by
  unfold ndataTryFrom seqTsMetrics
  cases p.seq <;> cases p.timestamp <;> cases dataMetrics decodePS p.metrics <;> rfl

theorem ddataTryFrom_eq (p : Payload) :
    ddataTryFrom decodePS p = seqTsMetrics DData.mk p (dataMetrics decodePS p.metrics) := by
  unfold ddataTryFrom seqTsMetrics
  cases p.seq <;> cases p.timestamp <;> cases dataMetrics decodePS p.metrics <;> rfl

theorem dbirthTryFrom_eq (p : Payload) :
    dbirthTryFrom decodePS p = seqTsMetrics DBirth.mk p (birthMetrics decodePS p.metrics) := by
  unfold dbirthTryFrom seqTsMetrics
  cases p.seq <;> cases p.timestamp <;> cases birthMetrics decodePS p.metrics <;> rfl

theorem seqTs_exists {p : Payload} (hs : p.seq ≠ none) (ht : p.timestamp ≠ none) :
    ∃ xs xt, (∃ s, p.seq = some s ∧ xs = s % 256) ∧ p.timestamp = some xt := by
  obtain ⟨s, hs⟩ := Option.ne_none_iff_exists'.1 hs
  obtain ⟨t, ht⟩ := Option.ne_none_iff_exists'.1 ht
  exact ⟨_, t, ⟨s, hs, rfl⟩, ht⟩

theorem birthOf_all_exists {ms : List Metric} (h : ∀ m ∈ ms, BirthMetricOk decodePS m) :
    ∃ r, Pointwise (BirthOf decodePS) ms r :=
  pointwise_exists ms fun m hm => birthOf_exists decodePS m (h m hm)

theorem dataOf_all_exists {ms : List Metric} (h : ∀ m ∈ ms, DataMetricOk decodePS m) :
    ∃ r, Pointwise (DataOf decodePS) ms r :=
  pointwise_exists ms fun m hm => dataOf_exists decodePS m (h m hm)

theorem nbirth_exists {p : Payload} (h : WfNBirth decodePS p) :
    ∃ x : NBirth π, p.timestamp = some x.timestamp ∧ HasBdSeq p.metrics x.bdseq ∧
      Pointwise (BirthOf decodePS) p.metrics x.metrics := by
  obtain ⟨_, ht, ⟨b, hb⟩, hm⟩ := h
  obtain ⟨ts, ht⟩ := Option.ne_none_iff_exists'.1 ht
  obtain ⟨r, hr⟩ := birthOf_all_exists decodePS hm
  exact ⟨⟨b, ts, r⟩, ht, hb, hr⟩

theorem ndeath_exists {p : Payload} (h : WfNDeath p) : ∃ x : NDeath, HasBdSeq p.metrics x.bdseq :=
  h.elim fun b hb => ⟨⟨b⟩, hb⟩

theorem ndata_exists {p : Payload} (h : WfData decodePS p) :
    ∃ x : NData π, (∃ s, p.seq = some s ∧ x.seq = s % 256) ∧ p.timestamp = some x.timestamp ∧
      Pointwise (DataOf decodePS) p.metrics x.metrics := by
  obtain ⟨xs, xt, hs, ht⟩ := seqTs_exists h.1 h.2.1
  obtain ⟨r, hr⟩ := dataOf_all_exists decodePS h.2.2
  exact ⟨⟨xs, xt, r⟩, hs, ht, hr⟩

theorem ddata_exists {p : Payload} (h : WfData decodePS p) :
    ∃ x : DData π, (∃ s, p.seq = some s ∧ x.seq = s % 256) ∧ p.timestamp = some x.timestamp ∧
      Pointwise (DataOf decodePS) p.metrics x.metrics := by
  obtain ⟨xs, xt, hs, ht⟩ := seqTs_exists h.1 h.2.1
  obtain ⟨r, hr⟩ := dataOf_all_exists decodePS h.2.2
  exact ⟨⟨xs, xt, r⟩, hs, ht, hr⟩

theorem dbirth_exists {p : Payload} (h : WfDBirth decodePS p) :
    ∃ x : DBirth π, (∃ s, p.seq = some s ∧ x.seq = s % 256) ∧ p.timestamp = some x.timestamp ∧
      Pointwise (BirthOf decodePS) p.metrics x.metrics := by
  obtain ⟨xs, xt, hs, ht⟩ := seqTs_exists h.1 h.2.1
  obtain ⟨r, hr⟩ := birthOf_all_exists decodePS h.2.2
  exact ⟨⟨xs, xt, r⟩, hs, ht, hr⟩

theorem ddeath_exists {p : Payload} (h : WfDDeath p) :
    ∃ x : DDeath, (∃ s, p.seq = some s ∧ x.seq = s % 256) ∧ p.timestamp = some x.timestamp := by
  obtain ⟨xs, xt, hs, ht⟩ := seqTs_exists h.1 h.2
  exact ⟨⟨xs, xt⟩, hs, ht⟩

/-! ### what `poll` makes of a message: the verdict of the validator its verb selects, surfaced -/

/-- how `handle_event` surfaces a validator's verdict: the event made of the admitted object, or
`InvalidPayload` with the sender and the error -/
def surface {α} (id : NodeId) (dev : Option Bytes) (ev : α → AppEvent π) :
    Except PErr α → Option (AppEvent π)
  | .ok x => some (ev x)
  | .error e => some (.invalidPayload ⟨id, dev, e⟩)

/-- `v`: the verdict; `none` when the verb has no validator and the message is skipped -/
theorem poll_eq_some {α} {v : Option (Except PErr α)} {id : NodeId} {dev : Option Bytes}
    {ev : α → AppEvent π} {e : AppEvent π} :
    v.bind (surface id dev ev) = some e ↔
      (∃ x, v = some (.ok x) ∧ e = ev x) ∨
      (∃ err, v = some (.error err) ∧ e = .invalidPayload ⟨id, dev, err⟩) := by
  rcases v with _ | err | x <;> simp [surface, eq_comm]

theorem map_eq_ok {α β : Type} {r : Except PErr α} {f : α → β} {y : β} :
    r.map f = .ok y ↔ ∃ x, r = .ok x ∧ y = f x := by
  cases r <;> simp [Except.map, eq_comm]

theorem map_eq_error {α β : Type} {r : Except PErr α} {f : α → β} {e : PErr} :
    r.map f = .error e ↔ r = .error e := by
  cases r <;> simp [Except.map]

section
variable {α : Type} {v : Option (Except PErr α)} {W : Prop} {R : α → Prop}
  (h : ∀ x, v = some (.ok x) ↔ W ∧ R x) (hex : W → ∃ x, R x)
include h hex

/-- a verdict is an error exactly when there is a validator and the payload is not well-formed -/
theorem verdict_error_iff : (∃ e, v = some (.error e)) ↔ v ≠ none ∧ ¬ W := by
  rcases v with _ | e | x
  · simp
  · have : ¬ W := fun hw => by obtain ⟨x, hx⟩ := hex hw; exact absurd ((h x).2 ⟨hw, hx⟩) (by simp)
    simp [this]
  · simp [((h x).1 rfl).1]

theorem poll_invalid_iff {id : NodeId} {dev : Option Bytes} {ev : α → AppEvent π}
    (hev : ∀ x d, ev x ≠ .invalidPayload d) (d : ErrDetails) :
    v.bind (surface id dev ev) = some (.invalidPayload d) ↔
      v ≠ none ∧ ¬ W ∧ d.nodeId = id ∧ d.device = dev ∧ v = some (.error d.error) := by
  rw [poll_eq_some]
  rcases d with ⟨di, dd, de⟩
  constructor
  · rintro (⟨x, _, hc⟩ | ⟨err, he, hc⟩)
    · exact absurd hc.symm (hev x _)
    · cases hc
      have := (verdict_error_iff h hex).1 ⟨_, he⟩
      exact ⟨this.1, this.2, rfl, rfl, he⟩
  · rintro ⟨_, _, rfl, rfl, he⟩; exact .inr ⟨de, he, rfl⟩

theorem poll_total (id : NodeId) (dev : Option Bytes) (ev : α → AppEvent π) :
    (¬ v ≠ none → v.bind (surface id dev ev) = none) ∧
    (v ≠ none → W → ∃ x, v.bind (surface id dev ev) = some (ev x)) ∧
    (v ≠ none → ¬ W → ∃ e, v.bind (surface id dev ev) = some (.invalidPayload ⟨id, dev, e⟩)) := by
  refine ⟨fun hs => by rw [Classical.not_not.1 hs]; rfl, fun _ hw => ?_, fun hs hw => ?_⟩
  · obtain ⟨x, hx⟩ := hex hw
    exact ⟨x, by rw [(h x).2 ⟨hw, hx⟩]; rfl⟩
  · obtain ⟨e, he⟩ := (verdict_error_iff h hex).2 ⟨hs, hw⟩
    exact ⟨e, by rw [he]; rfl⟩

end

/-- one verb's share of a verdict: the validator's fact `h`, wrapped in the event constructor -/
theorem verb_ok_iff {α β} {r : Except PErr α} {W Q : Prop} {R : α → Prop} {ctor : α → β} {ev : β}
    (h : ∀ x, r = .ok x ↔ W ∧ R x) (hQ : Q ↔ ∃ x, ev = ctor x ∧ R x) :
    (∃ x, r = .ok x ∧ ev = ctor x) ↔ W ∧ Q := by
  rw [hQ]
  constructor
  · rintro ⟨x, hx, he⟩; exact ⟨((h x).1 hx).1, x, he, ((h x).1 hx).2⟩
  · rintro ⟨hw, x, he, hr⟩; exact ⟨x, (h x).2 ⟨hw, hr⟩, he⟩

/-- the validator `AppNodeEvent::try_from` selects, its result as a node event -/
def nodeVerdict (k : Kind) (p : Payload) : Option (Except PErr (NodeEvent π)) :=
  match k with
  | .birth => some ((nbirthTryFrom decodePS p).map .birth)
  | .death => some ((ndeathTryFrom p).map .death)
  | .data => some ((ndataTryFrom decodePS p).map .data)
  | _ => none

theorem handleNode_eq (id : NodeId) (k : Kind) (p : Payload) :
    handleNode decodePS id k p =
      (nodeVerdict decodePS k p).bind (surface id none fun e => .node id e) := by
  cases k <;> simp only [handleNode, nodeEventTryFrom, nodeVerdict, Option.bind_some, Option.bind_none]
  · cases nbirthTryFrom decodePS p <;> rfl
  · cases ndeathTryFrom p <;> rfl
  · cases ndataTryFrom decodePS p <;> rfl

theorem nodeVerdict_ne_none (k : Kind) (p : Payload) :
    nodeVerdict decodePS k p ≠ none ↔ Supported k := by
  cases k <;> simp [nodeVerdict, Supported]

theorem nodeVerdict_error (k : Kind) (p : Payload) (e : PErr) :
    nodeVerdict decodePS k p = some (.error e) ↔
      (k = .birth ∧ nbirthTryFrom decodePS p = .error e) ∨ (k = .death ∧ ndeathTryFrom p = .error e) ∨
      (k = .data ∧ ndataTryFrom decodePS p = .error e) := by
  cases k <;> simp [nodeVerdict, map_eq_error]

theorem nodeEventOf_exists {k : Kind} {p : Payload} (hw : WfNode decodePS k p) :
    ∃ ev, NodeEventOf decodePS k p ev := by
  cases k
  · obtain ⟨x, hx⟩ := nbirth_exists decodePS hw; exact ⟨.birth x, rfl, hx⟩
  · obtain ⟨x, hx⟩ := ndeath_exists hw; exact ⟨.death x, rfl, hx⟩
  · exact hw.elim
  · obtain ⟨x, hx⟩ := ndata_exists decodePS hw; exact ⟨.data x, rfl, hx⟩
  · exact hw.elim

/-- the validator `AppDeviceEvent::try_from` selects, its result as a device event -/
def deviceVerdict (k : Kind) (p : Payload) : Option (Except PErr (DeviceEvent π)) :=
  match k with
  | .birth => some ((dbirthTryFrom decodePS p).map .birth)
  | .death => some ((ddeathTryFrom p).map .death)
  | .data => some ((ddataTryFrom decodePS p).map .data)
  | _ => none

theorem handleDevice_eq (id : NodeId) (name : Bytes) (k : Kind) (p : Payload) :
    handleDevice decodePS id name k p =
      (deviceVerdict decodePS k p).bind (surface id (some name) fun e => .device id name e) := by
  cases k <;>
    simp only [handleDevice, deviceEventTryFrom, deviceVerdict, Option.bind_some, Option.bind_none]
  · cases dbirthTryFrom decodePS p <;> rfl
  · cases ddeathTryFrom p <;> rfl
  · cases ddataTryFrom decodePS p <;> rfl

theorem deviceVerdict_ne_none (k : Kind) (p : Payload) :
    deviceVerdict decodePS k p ≠ none ↔ Supported k := by
  cases k <;> simp [deviceVerdict, Supported]

theorem deviceVerdict_error (k : Kind) (p : Payload) (e : PErr) :
    deviceVerdict decodePS k p = some (.error e) ↔
      (k = .birth ∧ dbirthTryFrom decodePS p = .error e) ∨ (k = .death ∧ ddeathTryFrom p = .error e) ∨
      (k = .data ∧ ddataTryFrom decodePS p = .error e) := by
  cases k <;> simp [deviceVerdict, map_eq_error]

theorem deviceEventOf_exists {k : Kind} {p : Payload} (hw : WfDevice decodePS k p) :
    ∃ ev, DeviceEventOf decodePS k p ev := by
  cases k
  · obtain ⟨x, hx⟩ := dbirth_exists decodePS hw; exact ⟨.birth x, rfl, hx⟩
  · obtain ⟨x, hx⟩ := ddeath_exists hw; exact ⟨.death x, rfl, hx⟩
  · exact hw.elim
  · obtain ⟨x, hx⟩ := ddata_exists decodePS hw; exact ⟨.data x, rfl, hx⟩
  · exact hw.elim

end
/-! ### decision procedures for the declarative conditions (used to evaluate them on the
regenerated table with `decide +kernel`) -/

instance decHasBdSeq (ms : List Metric) : Decidable (∃ b, HasBdSeq ms b) :=
  decidable_of_iff ((bdSeqB ms).isSome = true) (by
    rw [Option.isSome_iff_exists]
    exact exists_congr (fun b => bdSeqB_iff ms b))

instance decExistsSome {α} (o : Option α) (P : α → Prop) [DecidablePred P] :
    Decidable (∃ c, o = some c ∧ P c) :=
  match o with
  | none => isFalse (by simp)
  | some c => if h : P c then isTrue ⟨c, rfl, h⟩ else isFalse (by simpa using h)

instance decForallSome {α} (o : Option α) (P : α → Prop) [DecidablePred P] :
    Decidable (∀ x, o = some x → P x) :=
  match o with
  | none => isTrue (by simp)
  | some x => if h : P x then isTrue (by simpa using h) else isFalse (by simpa using h)

instance : DecidablePred ValidDatatype := fun c => inferInstanceAs (Decidable (c ≤ 34))

section
variable {π : Type} [DecidableEq π] (decodePS : PSet → Option π)

instance (m : Metric) : Decidable (MetricOk decodePS m) :=
  inferInstanceAs (Decidable (m.timestamp ≠ none ∧ (m.value ≠ none ∨ m.isNull = some true) ∧
    (∀ ps, m.properties = some ps → decodePS ps ≠ none)))
instance (m : Metric) : Decidable (BirthMetricOk decodePS m) :=
  inferInstanceAs (Decidable (m.name ≠ none ∧ (∃ c, m.datatype = some c ∧ ValidDatatype c) ∧ MetricOk decodePS m))
instance (m : Metric) : Decidable (DataMetricOk decodePS m) :=
  inferInstanceAs (Decidable ((m.name ≠ none ∨ m.alias ≠ none) ∧ MetricOk decodePS m))
instance (p : Payload) : Decidable (WfNBirth decodePS p) :=
  inferInstanceAs (Decidable (p.seq = some 0 ∧ p.timestamp ≠ none ∧ (∃ b, HasBdSeq p.metrics b) ∧
    ∀ m ∈ p.metrics, BirthMetricOk decodePS m))
instance (p : Payload) : Decidable (WfNDeath p) :=
  inferInstanceAs (Decidable (∃ b, HasBdSeq p.metrics b))
instance (p : Payload) : Decidable (WfDBirth decodePS p) :=
  inferInstanceAs (Decidable (p.seq ≠ none ∧ p.timestamp ≠ none ∧ ∀ m ∈ p.metrics, BirthMetricOk decodePS m))
instance (p : Payload) : Decidable (WfDDeath p) :=
  inferInstanceAs (Decidable (p.seq ≠ none ∧ p.timestamp ≠ none))
instance (p : Payload) : Decidable (WfData decodePS p) :=
  inferInstanceAs (Decidable (p.seq ≠ none ∧ p.timestamp ≠ none ∧ ∀ m ∈ p.metrics, DataMetricOk decodePS m))
instance (k : Kind) (p : Payload) : Decidable (WfNode decodePS k p) :=
  match k with
  | .birth => inferInstanceAs (Decidable (WfNBirth decodePS p))
  | .death => inferInstanceAs (Decidable (WfNDeath p))
  | .data => inferInstanceAs (Decidable (WfData decodePS p))
  | .cmd => isFalse (fun h => h)
  | .other => isFalse (fun h => h)
instance (k : Kind) (p : Payload) : Decidable (WfDevice decodePS k p) :=
  match k with
  | .birth => inferInstanceAs (Decidable (WfDBirth decodePS p))
  | .death => inferInstanceAs (Decidable (WfDDeath p))
  | .data => inferInstanceAs (Decidable (WfData decodePS p))
  | .cmd => isFalse (fun h => h)
  | .other => isFalse (fun h => h)
instance (k : Kind) : Decidable (Supported k) :=
  inferInstanceAs (Decidable (k = .birth ∨ k = .death ∨ k = .data))
end

/-- "well-formed for its type" for a table row -/
def WfRow (device : Bool) (k : Kind) (p : Payload) : Prop :=
  if device then WfDevice decodePSet k p else WfNode decodePSet k p

instance (device : Bool) (k : Kind) (p : Payload) : Decidable (WfRow device k p) :=
  if h : device then by unfold WfRow; rw [if_pos h]; infer_instance
  else by unfold WfRow; rw [if_neg h]; infer_instance

end Srad.Admit
