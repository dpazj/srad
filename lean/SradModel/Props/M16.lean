/-
M16 — `SimpleMetricManager` (srad-eon/src/metric_manager/simple.rs) as a state machine:
supporting model, theorems only. Model: `Model/SimpleMgr.lean`; vocabulary (`Inv`, `route`,
`birthMetricOf`, `IdShape`, `Used`, `withToken`, `toSimple`): `Model/SimpleMgrSpec.lean`; helper
lemmas: `Proofs/SimpleMgr.lean`.

Quantification: every theorem holds for an arbitrary handle type `H`, arbitrary hash
`h : Name → Nat`, build parameters `cfg`, clock readings, an arbitrary `BirthInitializer` state
`bi` the manager is handed (node: bdSeq / Rebirth / template definitions already inside; device:
empty; anything else), an arbitrary `HashMap` iteration order (`order`), arbitrary `update`
closures, arbitrary command messages — and for every state reachable from
`SimpleMetricManager::new()` by ANY sequence of operations (`M16_invariant_reachable` lifts the
invariant `Inv` over all histories by induction; the theorems below that take `Inv s` therefore
hold in every reachable state).
-/
import SradModel.Proofs.SimpleMgr
import SradModel.Model.Derive

namespace Srad.SimpleMgr
open Srad.Birth Srad.Codec

variable {H : Type}

/-- After ANY sequence of `register_metric` / `initialise_birth` (any initializer, any iteration
order, panicking or not) / `update` / `publish_metrics` / `on_ncmd` / `init` calls on a new
manager: names are pairwise distinct and, as long as no birth panicked, the tokens the entries
hold are pairwise distinct and `cmd_lookup` is exactly the map (current token id ↦ entry) over the
entries that have a command handler and a token. -/
theorem M16_invariant_reachable (ops : List (Op H)) : Inv (run ({} : St H) ops) :=
  run_inv ops Inv.empty

/-- the invariant is inductive: every single operation preserves it from any state -/
theorem M16_invariant_step (s : St H) (op : Op H) (hi : Inv s) : Inv (step s op) :=
  step_inv op hi

/-- no two entries hold the same token: a metric id of the latest birth names ONE metric -/
theorem M16_current_id_unique (s : St H) (hi : Inv s) (hd : s.dead = false) (e₁ e₂ : Entry)
    (h₁ : e₁ ∈ s.metrics) (h₂ : e₂ ∈ s.metrics) (id : MetricId)
    (t₁ : e₁.token = some id) (t₂ : e₂.token = some id) : e₁ = e₂ :=
  nodup_filterMap_inj (·.token) s.metrics (hi.tokens hd) e₁ h₁ e₂ h₂ id t₁ t₂

/-- a new name is accepted: the entry holds the builder's value, alias flag and handler flag, has
no token yet; nothing else changes -/
theorem M16_register_fresh (s : St H) (n : Name) (ty : STy) (v : SV) (a c : Bool)
    (hd : s.dead = false) (hn : n ∉ s.metrics.map (·.name)) :
    register s n ty v a c =
      .ok ({ s with metrics := s.metrics ++
              [{ name := n, ty := ty, value := v, useAlias := a, hasCb := c }] }, true) := by
  unfold register
  simp [hd, hn]

/-- a duplicate registration returns `None` and changes NOTHING, whatever type, value, alias flag
or handler the second builder carries -/
theorem M16_register_duplicate (s : St H) (n : Name) (ty : STy) (v : SV) (a c : Bool)
    (hd : s.dead = false) (hn : n ∈ s.metrics.map (·.name)) :
    register s n ty v a c = .ok (s, false) := by
  unfold register
  simp [hd, hn]

/-! ### `initialise_birth` -/

/-- A birth that does not panic, from any reachable state: the loop visits a permutation of the
registered entries (`toks` pairs each with the id of its new token); the initializer gains exactly
one metric per entry, in iteration order, each with the entry's name, `T`'s datatype, the birth's
clock reading, the entry's CURRENT value, and an alias iff `use_alias` (`IdShape` / `birthMetricOf`);
the ids are pairwise distinct and new to the initializer. Afterwards every entry holds the token of
THIS birth and `cmd_lookup` has been rebuilt from scratch: exactly the ids of this birth of the
entries with a handler. -/
theorem M16_birth_contents (cfg : Cfg) (h : Name → Nat) (now : Nat) (order : List Name)
    (bi bi' : Init PV) (s : St H) (hi : Inv s)
    (hb : (initialiseBirth cfg h now order bi s).bi = some bi') :
    ∃ toks : List (Entry × MetricId),
      toks.map (·.1) = arrange s.metrics order ∧ (toks.map (·.1)).Perm s.metrics ∧
      bi'.metrics = bi.metrics ++ toks.map (fun p => birthMetricOf now p.1 p.2) ∧
      (∀ p ∈ toks, IdShape p.1 p.2) ∧ (toks.map (·.2)).Nodup ∧
      (∀ id ∈ toks.map (·.2), ¬ Used bi id) ∧
      ((initialiseBirth cfg h now order bi s).st.metrics).Perm (toks.map withToken) ∧
      (initialiseBirth cfg h now order bi s).st.lookup = cmdPairs toks ∧
      (initialiseBirth cfg h now order bi s).st.handle = s.handle ∧
      (initialiseBirth cfg h now order bi s).st.dead = false := by
  obtain ⟨hd, toks, g, hp, hst⟩ := initialiseBirth_ok hi hb
  refine ⟨toks, g.ents, hp, g.metrics, g.shape, g.nodup, g.fresh, ?_, ?_, ?_, ?_⟩
  · rw [hst]; exact setTokens_perm hi.names hp
  · rw [hst]
  · rw [hst]
  · rw [hst]; exact hd

/-- … read per metric: every registered metric appears in every birth EXACTLY ONCE, with its
current value and its alias flag -/
theorem M16_birth_every_metric_once (cfg : Cfg) (h : Name → Nat) (now : Nat) (order : List Name)
    (bi bi' : Init PV) (s : St H) (hi : Inv s)
    (hb : (initialiseBirth cfg h now order bi s).bi = some bi') (e : Entry) (he : e ∈ s.metrics) :
    ∃ id, IdShape e id ∧
      (bi'.metrics.drop bi.metrics.length).filter (fun m => decide (m.name = some e.name)) =
        [birthMetricOf now e id] := by
  obtain ⟨toks, _, hp, hm, hshape, _, _, _⟩ := M16_birth_contents cfg h now order bi bi' s hi hb
  have hkeys := toks_keys_nodup hi.names hp
  obtain ⟨p, hpm, hpe⟩ := List.mem_map.mp (hp.mem_iff.mpr he)
  refine ⟨p.2, hpe ▸ hshape p hpm, ?_⟩
  -- among metrics with pairwise distinct names, filtering by a member's name leaves that member
  rw [hm, List.drop_left, List.filter_map, ← hpe]
  exact congrArg _ (filter_key_of_mem (fun q : Entry × MetricId => some q.1.name)
    (List.pairwise_map.2 ((List.pairwise_map.1 hkeys).imp fun h hc => h (Option.some.inj hc))) hpm)

/-- after a birth that did not panic, every entry holds a token, and it is the id of the metric
this very birth wrote for it -/
theorem M16_birth_tokens (cfg : Cfg) (h : Name → Nat) (now : Nat) (order : List Name)
    (bi bi' : Init PV) (s : St H) (hi : Inv s)
    (hb : (initialiseBirth cfg h now order bi s).bi = some bi') :
    ∀ e' ∈ (initialiseBirth cfg h now order bi s).st.metrics,
      ∃ e ∈ s.metrics, ∃ id, e' = { e with token := some id } ∧ IdShape e id ∧
        birthMetricOf now e id ∈ bi'.metrics := by
  obtain ⟨toks, _, hp, hm, hshape, _, _, hperm, _⟩ := M16_birth_contents cfg h now order bi bi' s hi hb
  intro e' he'
  obtain ⟨p, hpm, rfl⟩ := List.mem_map.mp (hperm.mem_iff.mp he')
  refine ⟨p.1, hp.mem_iff.mp (List.mem_map.mpr ⟨p, hpm, rfl⟩), p.2, rfl, hshape p hpm, ?_⟩
  rw [hm]
  exact List.mem_append_right _ (List.mem_map.mpr ⟨p, hpm, rfl⟩)

/-- `initialise_birth` of this model IS `Birth.runSimple`, the model C11 uses for a
SimpleMetricManager (`C11_simple_node_birth`, `C11_simple_device_birth`, `C11_cmd_lookup` apply):
same initializer afterwards, same ids, `cmd_lookup` = `Birth.cmdLookup`; and it panics exactly
when `runSimple` does. -/
theorem M16_birth_is_runSimple (cfg : Cfg) (h : Name → Nat) (now : Nat) (order : List Name)
    (bi : Init PV) (s : St H) (hd : s.dead = false) :
    (∀ bi', (initialiseBirth cfg h now order bi s).bi = some bi' →
      ∃ ids, runSimple cfg h now bi ((arrange s.metrics order).map toSimple) = .ok (bi', ids) ∧
        (initialiseBirth cfg h now order bi s).st.lookup =
          cmdLookup ((arrange s.metrics order).map toSimple) ids) ∧
    ((initialiseBirth cfg h now order bi s).bi = none ↔
      runSimple cfg h now bi ((arrange s.metrics order).map toSimple) = .panic) := by
  have hv := birthGo_view (cfg := cfg) (h := h) (now := now) (arrange s.metrics order) bi
  obtain ⟨b, toks, fail, hgo, heq⟩ := initialiseBirth_cases cfg h now order bi s
  rw [heq]
  rw [hgo] at hv
  simp only [hd, Bool.false_eq_true, if_false]
  cases fail with
  | none =>
    have g := birthGo_ok (arrange s.metrics order) bi (by rw [hgo])
    rw [hgo] at g
    rw [hv.2]
    refine ⟨fun bi' hb => ?_, by simp⟩
    cases hb
    exact ⟨_, rfl, by rw [collect_eq_self (cmdPairs_keys_nodup g.nodup), cmdPairs_cmdLookup, g.ents]⟩
  | some n => rw [hv.2]; exact ⟨fun bi' hb => (by cases hb), by simp⟩

/-- a birth that panics (an entry the initializer refuses: `.unwrap()`) leaves the manager
poisoned, and the entry at which it panicked too; `cmd_lookup` and the handle are as before, no
name is lost -/
theorem M16_birth_panic_poisons (cfg : Cfg) (h : Name → Nat) (now : Nat) (order : List Name)
    (bi : Init PV) (s : St H) (hd : s.dead = false)
    (hb : (initialiseBirth cfg h now order bi s).bi = none) :
    (initialiseBirth cfg h now order bi s).st.dead = true ∧
    (initialiseBirth cfg h now order bi s).st.lookup = s.lookup ∧
    (initialiseBirth cfg h now order bi s).st.handle = s.handle ∧
    (initialiseBirth cfg h now order bi s).st.metrics.map (·.name) = s.metrics.map (·.name) ∧
    ∃ n ∈ s.metrics.map (·.name), ∀ e ∈ (initialiseBirth cfg h now order bi s).st.metrics,
      e.name = n → e.poisoned = true := by
  obtain ⟨b, toks, fail, hgo, heq⟩ := initialiseBirth_cases cfg h now order bi s
  rw [heq] at hb ⊢
  simp only [hd, Bool.false_eq_true, if_false] at hb ⊢
  cases fail with
  | none => cases hb
  | some n =>
    refine ⟨rfl, rfl, rfl, by simp only [poison_names, setTokens_names], n, ?_, ?_⟩
    · have hv := birthGo_view (cfg := cfg) (h := h) (now := now) (arrange s.metrics order) bi
      rw [hgo] at hv
      obtain ⟨e, he, rfl⟩ := List.mem_map.mp hv.1
      have hin : e ∈ s.metrics := by
        unfold arrange at he
        obtain ⟨nm, _, hfind⟩ := List.mem_filterMap.mp he
        exact List.mem_of_find?_eq_some hfind
      exact List.mem_map.mpr ⟨e, hin, rfl⟩
    · intro e he hn
      simp only [poison, List.mem_map] at he
      obtain ⟨x, _, rfl⟩ := he
      by_cases hx : x.name = n
      · simp [hx]
      · simp [hx] at hn

/-! ### `cmd_lookup`, and which handler a command metric reaches -/

/-- In every reachable state `cmd_lookup.get(id)` is the entry that has a handler and whose
CURRENT token is `id` — nothing else. In particular an id of an earlier birth that no entry with a
handler holds any more does not route, and an id that moved to another entry routes to THAT
entry. -/
theorem M16_lookup_exact (s : St H) (hi : Inv s) (hd : s.dead = false) (id : MetricId) :
    hmGet s.lookup id =
      (s.metrics.find? (fun e => e.hasCb && decide (e.token = some id))).map (·.name) :=
  lookup_exact hi hd id

/-- ids that are not the current token of an entry with a handler — ids of earlier births, ids of
metrics without handler, the name of an aliased metric, unknown ids — are not in `cmd_lookup` -/
theorem M16_old_ids_do_not_route (s : St H) (hi : Inv s) (hd : s.dead = false) (id : MetricId)
    (hno : ∀ e ∈ s.metrics, e.hasCb = true → e.token ≠ some id) : hmGet s.lookup id = none := by
  rw [lookup_exact hi hd id, find?_current_none hno]; rfl

/-- `on_ncmd` / `on_dcmd` meets its specification in every reachable state: the handler calls
are, in command order, for each command metric at most one call — `route`: the handler of the
entry whose current token id equals the metric's id, with the converted value. -/
theorem M16_command_spec (s : St H) (hi : Inv s) (ms : List CmdMetric) :
    command s ms = if s.dead then .panic else .ok (ms.filterMap (route s)) := by
  unfold command
  cases hd : s.dead
  · simp only [Bool.false_eq_true, if_false]
    rw [callbacks_eq_route hi hd]
  · rfl

/-- what `route` is, spelled out: a call happens iff some entry with a handler holds the command
metric's id as its current token (there is at most one: `M16_current_id_unique`), and the value
is null (the handler gets `None`) or converts to the entry's type (the handler gets the
converted value); the call is that entry's handler. -/
theorem M16_route_iff (s : St H) (hi : Inv s) (hd : s.dead = false) (m : CmdMetric) (i : Invocation) :
    route s m = some i ↔
      ∃ e ∈ s.metrics, e.hasCb = true ∧ e.token = some m.id ∧ i.name = e.name ∧
        ((m.value = none ∧ i.value = none) ∨
         (∃ pv sv, m.value = some pv ∧ fromProto e.ty pv = .ok sv ∧ i.value = some sv)) := by
  unfold route
  cases hf : s.metrics.find? (fun e => e.hasCb && decide (e.token = some m.id)) with
  | none =>
    simp only [Option.bind_none, reduceCtorEq, false_iff]
    rintro ⟨e, he, h1, h2, _⟩
    have := List.find?_eq_none.mp hf e he
    simp [h1, h2] at this
  | some e =>
    have hem := List.mem_of_find?_eq_some hf
    have hpe := List.find?_some hf
    simp only [Bool.and_eq_true, decide_eq_true_eq] at hpe
    rw [Option.bind_some, cmdCb_eq_some_iff]
    constructor
    · rintro ⟨_, h1, h2⟩; exact ⟨e, hem, hpe.1, hpe.2, h1, h2⟩
    · rintro ⟨e', he', h1, h2, h3, h4⟩
      -- the tokens are pairwise distinct: `e'` is the entry the search found
      cases M16_current_id_unique s hi hd e' e he' hem m.id h2 hpe.2
      exact ⟨h1, h3, h4⟩

/-- nothing is invoked for a command metric whose id no entry with a handler currently holds
(unknown id, id of an earlier birth, metric without handler, wrong id form) -/
theorem M16_no_route_without_current_handler (s : St H) (m : CmdMetric)
    (hno : ∀ e ∈ s.metrics, e.hasCb = true → e.token ≠ some m.id) : route s m = none := by
  rw [route, find?_current_none hno]; rfl

/-- nothing is invoked for a value that does not convert to the metric's type — the handler is
NOT called with `None` -/
theorem M16_unconvertible_invokes_nothing (e : Entry) (pv : PV)
    (hne : ∀ sv, fromProto e.ty pv ≠ .ok sv) : cmdCb e (some pv) = none := by
  cases hc : cmdCb e (some pv) with
  | none => rfl
  | some i =>
    obtain ⟨_, _, ⟨h, _⟩ | ⟨_, sv, h, hf, _⟩⟩ := (cmdCb_eq_some_iff e _ i).1 hc
    · cases h
    · cases h; exact absurd hf (hne sv)

/-- a null command value reaches the handler as `None`, whatever the type -/
theorem M16_null_invokes_with_none (e : Entry) (hc : e.hasCb = true) :
    cmdCb e none = some ⟨e.name, none⟩ := by
  unfold cmdCb; simp [hc]

/-- the calls are a subsequence image of the command metrics: at most one per metric, in order -/
theorem M16_command_at_most_once_in_order (s : St H) (hi : Inv s) (hd : s.dead = false)
    (ms : List CmdMetric) :
    callbacks s ms = ms.filterMap (route s) ∧ (callbacks s ms).length ≤ ms.length := by
  rw [callbacks_eq_route hi hd]
  exact ⟨rfl, List.length_filterMap_le _ _⟩

/-- the command path changes nothing in the manager (`step`): the handlers are the only effect -/
theorem M16_command_pure (s : St H) (ms : List CmdMetric) : step s (.command ms) = s := rfl

/-! ### `update` and `publish_metric(s)` -/

/-- `metric.update(f)` in any state with pairwise distinct names (every reachable one): the value
becomes `f value`, nothing else changes anywhere; a publish metric is produced IFF the entry holds
a token, and it carries that token's id, the NEW value and the clock reading -/
theorem M16_update_spec (now : Nat) (s : St H) (hnd : (s.metrics.map (·.name)).Nodup) (e : Entry)
    (he : e ∈ s.metrics) (hp : e.poisoned = false) (f : SV → SV) :
    update now s e.name f =
      .ok ({ s with metrics := s.metrics.map fun x =>
                if x.name = e.name then { x with value := f x.value } else x },
           e.token.map fun id => ⟨id, some (toProto e.ty (f e.value)), now⟩) := by
  unfold update
  rw [find?_key_of_mem (fun x : Entry => x.name) hnd he]
  simp [hp, createPublish]

/-- … and the entry afterwards is the entry before with the new value -/
theorem M16_update_value (now : Nat) (s s' : St H) (hnd : (s.metrics.map (·.name)).Nodup) (e : Entry)
    (he : e ∈ s.metrics) (f : SV → SV) (pm : Option PM)
    (hu : update now s e.name f = .ok (s', pm)) :
    { e with value := f e.value } ∈ s'.metrics ∧ s'.lookup = s.lookup ∧ s'.handle = s.handle ∧
    s'.dead = s.dead ∧ (pm.isSome ↔ e.token.isSome) := by
  unfold update at hu
  rw [find?_key_of_mem (fun x : Entry => x.name) hnd he] at hu
  cases hp : e.poisoned with
  | true => simp [hp] at hu
  | false =>
    simp only [hp, Bool.false_eq_true, if_false, R.ok.injEq, Prod.mk.injEq] at hu
    obtain ⟨rfl, rfl⟩ := hu
    refine ⟨List.mem_map.mpr ⟨e, he, by simp [hp]⟩, rfl, rfl, rfl, ?_⟩
    cases e.token <;> simp

/-- publishing before `init`: `Err(UnBirthed)`, and nothing is handed to anybody -/
theorem M16_publish_before_init (s : St H) (hd : s.dead = false) (hh : s.handle = none)
    (pms : List (Option PM)) : publish s pms = .ok .noHandle := by
  unfold publish; simp [hd, hh]

/-- with a handle: exactly the publish metrics that exist (the results of `update` on entries
without token are filtered out) go to `handle.publish_metrics`, in the order given -/
theorem M16_publish_hands_over (s : St H) (hd : s.dead = false) (h : H) (hh : s.handle = some h)
    (pms : List (Option PM)) : publish s pms = .ok (.handed h (pms.filterMap id)) := by
  unfold publish; simp [hd, hh]

/-- the freshest handle wins: after `init(h)` everything is handed to `h` -/
theorem M16_init_then_publish (s : St H) (hd : s.dead = false) (h : H) (pms : List (Option PM)) :
    ∃ s', init s h = .ok s' ∧ s'.metrics = s.metrics ∧ s'.lookup = s.lookup ∧
      publish s' pms = .ok (.handed h (pms.filterMap id)) := by
  refine ⟨{ s with handle := some h }, by unfold init; simp [hd], rfl, rfl, ?_⟩
  unfold publish; simp [hd]

/-- the handler of the doc example, run for a call with a value on a birthed entry of a manager
with a handle: the entry holds the received value afterwards, and one publish metric with the
entry's current token id and that value is handed to the handle -/
theorem M16_echo_handler (now : Nat) (s : St H) (hi : Inv s) (hd : s.dead = false) (h : H)
    (hh : s.handle = some h) (e : Entry) (he : e ∈ s.metrics) (hp : e.poisoned = false)
    (id : MetricId) (ht : e.token = some id) (v : SV) :
    ∃ s', echoHandler now s ⟨e.name, some v⟩ =
        (s', some (.ok (.handed h [⟨id, some (toProto e.ty v), now⟩]))) ∧
      { e with value := v } ∈ s'.metrics ∧ s'.lookup = s.lookup := by
  have hu := M16_update_spec now s hi.names e he hp (fun _ => v)
  simp only [echoHandler, hu, ht, Option.map_some]
  refine ⟨{ s with metrics := s.metrics.map fun x =>
      if x.name = e.name then { x with value := v } else x }, ?_,
    List.mem_map.mpr ⟨e, he, by rw [if_pos rfl, ht]⟩, rfl⟩
  unfold publish
  simp [hd, hh]

/-- once a birth panicked, every call that takes the manager's lock panics and changes nothing -/
theorem M16_dead_absorbing (s : St H) (hd : s.dead = true) :
    (∀ n ty v a c, register s n ty v a c = .panic) ∧
    (∀ pms, publish s pms = .panic) ∧
    (∀ ms, command s ms = .panic) ∧
    (∀ h, init s h = .panic) ∧
    (∀ cfg h now order bi, initialiseBirth cfg h now order bi s = ⟨s, none⟩) := by
  refine ⟨?_, ?_, ?_, ?_, ?_⟩
  · intro n ty v a c; unfold register; simp [hd]
  · intro pms; unfold publish; simp [hd]
  · intro ms; unfold command; simp [hd]
  · intro h; unfold init; simp [hd]
  · intro cfg h now order bi; unfold initialiseBirth; simp [hd]

/-! ### consistency with the other models -/

/-- `dtCode` is `T::default_datatype()` as modelled for the derive macro (C18) -/
theorem M16_dtCode_is_default_datatype (ty : STy) : dtCode ty = (Srad.Derive.dtOf ty).code := by
  cases ty <;> decide

/-- no scalar type is of datatype Template: `register_metric` never refuses a SimpleMetricManager
entry for its datatype (a refusal is always a name clash or an alias overflow) -/
theorem M16_dtCode_ne_template (ty : STy) : dtCode ty ≠ dtTemplate := by
  cases ty <;> decide

/-! ### non-vacuity (tests, not the claim) -/

section Examples

def exH : Name → Nat := fun n => if n = [1] then 7 else if n = [2] then 7 else 40
def exCfg : Cfg := ⟨true, true, true⟩
def exBi : Init PV := { obj := 0, registry := [] }
/-- a device's initializer (id 3): same names, other aliases -/
def exBiDev : Init PV := { obj := 3, registry := [] }

/-- register [1] (u8, alias, handler), [2] (string, by name, handler), [3] (bool, alias, no
handler), [1] again (refused); birth; update [1]; register [4] (alias, handler); init -/
def exOps : List (Op Nat) :=
  [ .register [1] .u8 (.n 5) true true,
    .register [2] .string (.s [0x61]) false true,
    .register [3] .bool (.b false) true false,
    .register [1] .string (.s []) false false,
    .birth exCfg exH 100 [[2], [1], [3]] exBi,
    .update 101 [1] (fun _ => .n 9),
    .register [4] .u8 (.n 1) true true,
    .init 77 ]

def exSt : St Nat := run {} exOps

example : exSt.metrics.map (fun e => (e.name, e.value, e.token)) =
    [([1], .n 9, some (.alias 7)), ([2], .s [0x61], some (.name [2])),
     ([3], .b false, some (.alias 40)), ([4], .n 1, none)] := by decide +kernel

example : exSt.lookup = [(.name [2], [2]), (.alias 7, [1])] ∧ exSt.handle = some 77 ∧
    exSt.dead = false := by decide +kernel

/-- the birth wrote the three metrics in iteration order with their current values -/
example : ((initialiseBirth exCfg exH 100 [[2], [1], [3]] exBi (run {} (exOps.take 4))).bi.map
      (·.metrics)) =
    some [ { name := some [2], datatype := some 12, timestamp := some 100,
             value := some (.user (.str [0x61])) },
           { name := some [1], alias := some 7, datatype := some 5, timestamp := some 100,
             value := some (.user (.int 5)) },
           { name := some [3], alias := some 40, datatype := some 11, timestamp := some 100,
             value := some (.user (.bool false)) } ] := by decide +kernel

/-- commands: alias of [1] with an int (converted, low byte), with a string (skipped), null
(handler gets None); [2] by name; [3] has no handler; [4] has no token yet; unknown alias; the NAME
of the aliased [1] -/
example : command exSt
      [⟨.alias 7, some (.int 300)⟩, ⟨.alias 7, some (.str [])⟩, ⟨.alias 7, none⟩,
       ⟨.name [2], some (.str [0x62])⟩, ⟨.alias 40, some (.bool true)⟩, ⟨.alias 41, some (.int 1)⟩,
       ⟨.alias 99, none⟩, ⟨.name [1], some (.int 1)⟩] =
    .ok [⟨[1], some (.n 44)⟩, ⟨[1], none⟩, ⟨[2], some (.s [0x62])⟩] := by decide +kernel

/-- a rebirth in another iteration order with the colliding name [2]… here [1] and [2] collide
(both hash to 7) once [2] is aliased too: the ids depend on the order, and after a rebirth the
OLD id of one metric routes to the OTHER -/
def exOps2 : List (Op Nat) :=
  [ .register [1] .u8 (.n 5) true true,
    .register [2] .u8 (.n 6) true true,
    .birth exCfg exH 100 [[1], [2]] exBi ]

example : (run {} exOps2).lookup = [(.alias 7, [1]), (.alias 8, [2])] ∧
    (run (run {} exOps2) [.birth exCfg exH 200 [[2], [1]] exBi]).lookup =
      [(.alias 7, [2]), (.alias 8, [1])] := by decide +kernel

example : command (run (run {} exOps2) [.birth exCfg exH 200 [[2], [1]] exBi])
    [⟨.alias 7, some (.int 1)⟩] = .ok [⟨[2], some (.n 1)⟩] := by decide +kernel

/-- the same manager birthed by a device with id 3: other aliases; the node-birth ids are gone -/
example : (run (run {} exOps2) [.birth exCfg exH 300 [[1], [2]] exBiDev]).lookup =
      [(.alias (3 * two32 + 7), [1]), (.alias (3 * two32 + 8), [2])] ∧
    command (run (run {} exOps2) [.birth exCfg exH 300 [[1], [2]] exBiDev])
      [⟨.alias 7, some (.int 1)⟩, ⟨.alias (3 * two32 + 7), some (.int 2)⟩] =
      .ok [⟨[1], some (.n 2)⟩] := by decide +kernel

/-- update before any birth: no publish metric; after: one with the token's id and the new value;
publishing without handle hands nothing over, with handle the tokenless results are filtered -/
example : (match update 5 (run {} (exOps.take 3)) [1] (fun _ => .n 6) with
      | .ok (_, pm) => pm.isNone | .panic => false) = true ∧
    (match update 5 exSt [1] (fun _ => .n 6) with
      | .ok (_, some pm) => decide (pm.id = .alias 7 ∧ pm.value = some (.int 6) ∧ pm.ts = 5)
      | _ => false) = true ∧
    (match publish (run {} (exOps.take 7)) [none, some ⟨.alias 7, some (.int 6), 5⟩] with
      | .ok .noHandle => true | _ => false) = true ∧
    (match publish exSt [none, some ⟨.alias 7, some (.int 6), 5⟩, none] with
      | .ok (.handed 77 [pm]) => decide (pm.id = .alias 7)
      | _ => false) = true := by decide +kernel

/-- a node manager with an entry named bdSeq: the initializer already holds that name, the birth
panics, the manager is dead, the entry poisoned; everything on the manager panics afterwards -/
def exBiNode : Init PV := { obj := 0, registry := [], names := [rebirthName, bdSeqName] }

example :
    let s := run ({} : St Nat) [.register [1] .u8 (.n 5) true true,
      .register bdSeqName .i64 (.n 0) true false, .birth exCfg exH 100 [] exBiNode]
    s.dead = true ∧ s.metrics.map (·.poisoned) = [false, true] ∧
    (match register s [9] .u8 (.n 0) true false with | .panic => true | _ => false) = true ∧
    (match update 1 s bdSeqName id with | .panic => true | _ => false) = true ∧
    (match update 1 s [1] id with | .ok _ => true | _ => false) = true := by decide +kernel

/-- the hypotheses of the theorems are satisfiable: the example state is reachable, alive, has a
handle, entries with and without token / handler -/
example : Inv exSt := M16_invariant_reachable exOps

end Examples

end Srad.SimpleMgr
