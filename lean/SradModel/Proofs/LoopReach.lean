/-
Behind `Props/C08Reach.lean`: the delivery phases of `settle` from EVERY reachable state of the closed
loop, not only from a quiet one; the host only knows registered devices (`NamesIn`: what is in flight and
the host's table name devices of a set the node's operations keep); a record in step that holds a disabled
device birthed is stuck.
-/
import SradModel.Proofs.Loop
import SradModel.Model.LoopSched2

namespace Srad.Loop
open Srad Srad.Host

instance (h : Host.St) (n : Node) : Decidable (InStep h n) := by unfold InStep; infer_instance

/-- the clause "every device the host knows is stale or enabled" of `InSync`, `InSyncView`, `syncUpTo`,
`calmPoint` and `safe`, read as a statement -/
theorem onlyEnabled_iff (D : List (Nat × Life)) (E : List Nat) :
    (D.all fun p => decide (p.2 = Life.stale) || E.contains p.1) = true ↔ ∀ d, (d, Life.birthed) ∈ D → d ∈ E := by
  rw [List.all_eq_true]
  constructor
  · intro h d hd; simpa using h _ hd
  · intro h p hp
    obtain ⟨d, l⟩ := p
    cases l with
    | stale => simp
    | birthed => simp [h d hp]

/-! ## the phases of `settle` are fault-free schedules -/

theorem run_append (a b : List Action) : ∀ s : Sys, s.run (a ++ b) = (s.run a).run b := by
  induction a with
  | nil => intro s; rfl
  | cons x t ih => intro s; exact ih (s.step x)

def hostUp (s : Sys) : Sys := if s.hostConn then s else s.step .hostConnect
def nodeUp (s : Sys) : Sys := if s.nodeConn then s else (s.step (.advance 1)).step .nodeConnect

theorem reconnect_eq (s : Sys) : Sys.reconnect s = nodeUp (hostUp s) := rfl

theorem Action.ff_cases {motive : (a : Action) → a.ff = true → Prop}
    (deliver : motive (.deliver 0) rfl) (deliverNcmd : motive .deliverNcmd rfl)
    (advance : ∀ k, motive (.advance k) rfl) (publishNode : motive .publishNode rfl)
    (publishDev : ∀ d, motive (.publishDev d) rfl) (hostConnect : motive .hostConnect rfl)
    (nodeConnect : motive .nodeConnect rfl) (a : Action) (ha : a.ff = true) : motive a ha := by
  cases a with
  | deliver k =>
    cases k with
    | zero => exact deliver
    | succ k => cases ha
  | deliverNcmd => exact deliverNcmd
  | advance k => exact advance k
  | publishNode => exact publishNode
  | publishDev d => exact publishDev d
  | hostConnect => exact hostConnect
  | nodeConnect => exact nodeConnect
  | enable _ | disable _ | manualRebirth | duplicate _ | drop _ | dropNcmd | nodeDisconnect | hostDisconnect =>
    cases ha

def FRun (s t : Sys) : Prop := ∃ acts : List Action, FaultFree acts = true ∧ s.run acts = t

theorem FRun.refl (s : Sys) : FRun s s := ⟨[], rfl, rfl⟩

theorem FRun.trans {a b c : Sys} (h1 : FRun a b) (h2 : FRun b c) : FRun a c := by
  obtain ⟨x, hxa, hx⟩ := h1
  obtain ⟨y, hya, hy⟩ := h2
  refine ⟨x ++ y, ?_, by rw [run_append, hx, hy]⟩
  simp only [FaultFree, List.all_append, Bool.and_eq_true] at hxa hya ⊢
  exact ⟨hxa, hya⟩

theorem FRun.step (s : Sys) (a : Action) (ha : a.ff = true := by rfl) : FRun s (s.step a) :=
  ⟨[a], by simpa [FaultFree] using ha, rfl⟩

theorem FRun.of_run (s : Sys) (σ : List Action) (h : FaultFree σ = true) : FRun s (s.run σ) := ⟨σ, h, rfl⟩

theorem deliverAll_frun : ∀ (k : Nat) (s : Sys), FRun s (Sys.deliverAll k s) := by
  intro k
  induction k with
  | zero => intro s; exact FRun.refl s
  | succ k ih => intro s; exact (FRun.step s _).trans (ih _)

theorem drainNet_frun : ∀ (f : Nat) (s : Sys), FRun s (Sys.drainNet f s) := by
  intro f
  induction f with
  | zero => intro s; exact deliverAll_frun _ s
  | succ f ih =>
    intro s
    show FRun s (if (Sys.deliverAll s.toHost.length s).toNode = 0 then _ else _)
    split
    · exact deliverAll_frun _ s
    · exact (deliverAll_frun _ s).trans (((FRun.step _ _).trans (FRun.step _ _)).trans (ih _))

theorem drain_frun (s : Sys) : FRun s (Sys.drain s) := drainNet_frun _ s

theorem reconnect_frun (s : Sys) : FRun s (Sys.reconnect s) := by
  rw [reconnect_eq]
  have h1 : FRun s (hostUp s) := by
    unfold hostUp
    split
    · exact FRun.refl s
    · exact FRun.step s _
  refine h1.trans ?_
  unfold nodeUp
  split
  · exact FRun.refl _
  · exact (FRun.step _ _).trans (FRun.step _ _)

theorem timerPhase_frun (s : Sys) : FRun s (Sys.timerPhase s) := by
  unfold Sys.timerPhase
  split
  · exact FRun.step s _
  · exact FRun.refl s

theorem foldl_frun (L : List Nat) : ∀ s : Sys, FRun s (L.foldl (fun s d => s.step (.publishDev d)) s) := by
  induction L with
  | nil => intro s; exact FRun.refl s
  | cons d t ih => intro s; exact (FRun.step s _).trans (ih _)

theorem pubAll_frun (s : Sys) : FRun s (Sys.pubAll s) := by
  unfold Sys.pubAll
  exact ((FRun.step _ _).trans (FRun.step _ _)).trans (foldl_frun _ _)

/-- the state after the two delivery phases of a settling round: reconnect, deliver everything
(NCMDs and the births they cause included), let a running reorder timeout expire, deliver -/
def Sys.firstPhase (s : Sys) : Sys := Sys.drain (Sys.timerPhase (Sys.drain (Sys.reconnect s)))

theorem round_eq (s : Sys) : (Sys.round s).1 = Sys.drain (Sys.pubAll (Sys.firstPhase s)) := by
  simp only [Sys.round, Sys.firstPhase]

theorem firstPhase_frun (s : Sys) : FRun s (Sys.firstPhase s) :=
  (reconnect_frun s).trans ((drain_frun _).trans ((timerPhase_frun _).trans (drain_frun _)))

theorem round_frun (s : Sys) : FRun s (Sys.round s).1 := by
  rw [round_eq]
  exact (firstPhase_frun s).trans ((pubAll_frun _).trans (drain_frun _))

theorem settle_frun : ∀ (k : Nat) (s : Sys), FRun s (Sys.settle k s).1 := by
  intro k
  induction k with
  | zero => intro s; exact FRun.refl s
  | succ k ih => intro s; exact (ih s).trans (round_frun _)

/-! ## the devices a DBIRTH names -/

def RIn (N : List Nat) : RMsg → Prop
  | .dbirth d _ _ => d ∈ N
  | _ => True

def InIn (N : List Nat) : In → Prop
  | .rmsg _ _ m => RIn N m
  | _ => True

def MsgIn (N : List Nat) (m : Msg) : Prop := InIn N m.toIn

/-- name and switch of every registered device, in map order -/
def sig (n : Node) : List (Nat × Bool) := n.devs.map fun x => (x.name, x.enabled)

theorem sig_names {n n' : Node} (h : sig n' = sig n) : n'.devs.map (·.name) = n.devs.map (·.name) :=
  (names_of_switches h).1

theorem sig_enabledNames {n n' : Node} (h : sig n' = sig n) : n'.enabledNames = n.enabledNames :=
  (names_of_switches h).2

theorem enabled_mem_names (n : Node) : ∀ d ∈ n.enabledNames, d ∈ n.devs.map (·.name) := by
  intro d hd
  obtain ⟨x, hx, rfl⟩ := List.mem_map.mp hd
  exact List.mem_map_of_mem (List.mem_filter.mp hx).1

theorem MsgIn.mono {E N : List Nat} (h : ∀ d ∈ E, d ∈ N) {m : Msg} (hm : MsgIn E m) : MsgIn N m := by
  cases m <;> first | trivial | exact h _ hm

theorem msgIn_data (E : List Nat) (m : Msg) (h : (Msg.dataShape m).isSome = true) : MsgIn E m := by
  cases m <;> first | trivial | (simp [Msg.dataShape] at h)

theorem pubNode_data (ts : Nat) (n : Node) : ∀ m ∈ (n.pubNode ts).2, (Msg.dataShape m).isSome = true := by
  unfold Node.pubNode
  split
  · simp
  · intro m hm; simp only [List.mem_singleton] at hm; subst hm; rfl

theorem pubDev_data (d ts : Nat) (n : Node) : ∀ m ∈ (n.pubDev d ts).2, (Msg.dataShape m).isSome = true := by
  unfold Node.pubDev
  split
  · simp
  split
  · simp
  split
  · simp
  · intro m hm; simp only [List.mem_singleton] at hm; subst hm; rfl

/-- every DBIRTH an operation hands over names a device that is enabled afterwards -/
theorem OpOk.msgsIn {ts : Nat} {n : Node} {k : Bool} {r : Node × List Msg} (h : OpOk ts n k r) :
    ∀ m ∈ r.2, MsgIn r.1.enabledNames m := by
  intro m hm
  cases m <;> first | trivial | exact h.births _ _ _ _ hm

/-- … hence a registered one -/
theorem OpOk.msgsNames {ts : Nat} {n : Node} {k : Bool} {r : Node × List Msg} (h : OpOk ts n k r) :
    ∀ m ∈ r.2, MsgIn (n.devs.map (·.name)) m :=
  fun m hm => (h.msgsIn m hm).mono (h.names ▸ enabled_mem_names r.1)

theorem nodeBirth_birthed (rb : Bool) (ts : Nat) (n : Node) : (Node.nodeBirth rb ts n).1.birthed = true := by
  cases ho : n.online with
  | false =>
    simp only [Node.nodeBirth, birthDevs_shut rb ts n.devs { n with birthed := true, seq := 0, nextId := n.nextId + 1 }
      (by simp only [ho, Bool.false_and])]
  | true =>
    simp only [Node.nodeBirth, birthDevs_eq rb ts 0 n.nextId n.devs 1
      { n with birthed := true, seq := 0, nextId := n.nextId + 1 } ho rfl (Nat.zero_lt_succ 255) rfl rfl]

/-- the broker's view of the node's connection agrees with the node, and an online node is birthed -/
structure ConnInv (s : Sys) : Prop where
  conn : s.nodeConn = s.node.online
  birthed : s.node.online = true → s.node.birthed = true

theorem ConnInv_send {ts : Nat} {k : Bool} (s : Sys) (r : Node × List Msg) (h : ConnInv s)
    (hr : OpOk ts s.node k r) : ConnInv (s.send r.1 r.2) := by
  refine ⟨?_, ?_⟩
  · show s.nodeConn = r.1.online
    rw [hr.online]; exact h.conn
  · show r.1.online = true → r.1.birthed = true
    intro ho
    rw [hr.online] at ho
    rcases hr.birthed with hb | hb
    · rw [hb]; exact h.birthed ho
    · exact hb

theorem hostStep_node (s : Sys) (i : In) : (s.hostStep i).node = s.node ∧ (s.hostStep i).nodeConn = s.nodeConn :=
  ⟨rfl, rfl⟩

theorem ConnInv_step (s : Sys) (a : Action) (h : ConnInv s) : ConnInv (s.step a) := by
  refine Sys.step_induct s a h (fun s r _ h ho _ => ConnInv_send s r h ho.ok)
    (fun _ _ h _ => ⟨h.conn, h.birthed⟩) (fun _ _ h _ => ⟨h.conn, h.birthed⟩)
    (fun _ _ _ _ h => ⟨h.conn, h.birthed⟩) (fun s h hc => ?_) (fun s h => ?_)
  · -- the node was offline: it births
    have hoff : s.node.online = false := by rw [← h.conn]; exact hc
    have hgo : s.node.goOnline s.clock = Node.nodeBirth false s.clock { s.node with online := true } := by
      simp [Node.goOnline, hoff]
    exact ⟨(goOnline_ok s.clock s.node).online.symm, fun _ => by
      show (s.node.goOnline s.clock).1.birthed = true
      rw [hgo]; exact nodeBirth_birthed ..⟩
  · cases hon : s.node.online <;> refine ⟨?_, ?_⟩ <;> simp [Node.goOffline, hon]

theorem ConnInv_run (as : List Action) : ∀ s : Sys, ConnInv s → ConnInv (s.run as) :=
  Sys.run_induct ConnInv_step as

theorem ConnInv_init (c : Cfg) (devs : List Dev) : ConnInv (Sys.init c devs) :=
  ⟨rfl, fun h => by simp [Sys.init] at h⟩

/-! ## a rebirth cycle from any reachable host record; `drainNet` with any fuel -/

structure HostOk (h : St) (clk : Nat) : Prop where
  inv : HostInv h
  timer : TimerOk h
  birthTs : h.birthTs ≤ clk
  staleTs : h.staleTs ≤ clk

theorem LiveInv.hostOk {d : Nat} {s : Sys} (h : LiveInv d s) : HostOk s.host s.clock :=
  ⟨h.safe.hostInv, h.timer, h.birthTs, h.staleTs⟩

theorem armed_birthed (h : St) (hinv : HostInv h) (dl : Nat) (ht : h.timer = .armed dl) : h.life = .birthed := by
  cases hl : h.life with
  | birthed => rfl
  | stale =>
    have := (hinv.2.1 hl).2.1
    rw [ht] at this; cases this

theorem advance_one (d : Nat) (s : Sys) (hq : Quiet d s) (ho : HostOk s.host s.clock) :
    let X := s.step (.advance 1)
    Quiet d X ∧ X.node = s.node ∧ X.clock = s.clock + 1 ∧
    HostInv X.host ∧ X.host.birthTs ≤ s.clock ∧ X.host.staleTs ≤ s.clock + 1 ∧
    (X.toNode = s.toNode ∨ (X.toNode = s.toNode + 1 ∧ ∃ dl, s.host.timer = .armed dl)) := by
  intro X
  have hidle : s.step (.advance 1) = { s with clock := s.clock + 1 } →
      Quiet d X ∧ X.node = s.node ∧ X.clock = s.clock + 1 ∧
      HostInv X.host ∧ X.host.birthTs ≤ s.clock ∧ X.host.staleTs ≤ s.clock + 1 ∧
      (X.toNode = s.toNode ∨ (X.toNode = s.toNode + 1 ∧ ∃ dl, s.host.timer = .armed dl)) := by
    intro hX
    have hX' : X = { s with clock := s.clock + 1 } := hX
    rw [hX']
    exact ⟨⟨hq.cfg, hq.nodeConn, hq.hostConn, hq.flight, hq.node⟩, rfl, rfl, ho.inv, ho.birthTs,
      by have := ho.staleTs; simp only; omega, Or.inl rfl⟩
  have hcases : s.host.timer = .none ∨ s.host.timer = .fired ∨ ∃ dl, s.host.timer = .armed dl := by
    cases s.host.timer <;> simp
  rcases hcases with ht | ht | ⟨dl, ht⟩
  · exact hidle (advance_idle s 1 ht)
  · exact hidle (by simp [Sys.step, ht])
  · by_cases hle : dl ≤ s.clock + 1
    · have hX : X = _ := advance_fire d s 1 dl hq.cfg hq.hostConn ht hle (armed_birthed s.host ho.inv dl ht)
        (by have := ho.birthTs; omega)
      rw [hX]
      refine ⟨⟨hq.cfg, hq.nodeConn, hq.hostConn, hq.flight, hq.node⟩, rfl, rfl,
        goStale_inv _ _ ho.inv.2.2, ho.birthTs, Nat.le_refl _, Or.inr ⟨rfl, dl, ht⟩⟩
    · exact hidle (by simp [Sys.step, ht, hle])

theorem cycle_any (d : Nat) (s : Sys) (hq : Quiet d s) (hn : s.toNode ≠ 0) (ho : HostOk s.host s.clock) :
    let s1 := (s.step (.advance 1)).step .deliverNcmd
    let D := Sys.deliverAll s1.toHost.length s1
    Quiet d D ∧ D.toNode ≤ s.toNode ∧ s.toNode - 1 ≤ D.toNode ∧ SyncOk D.host D.node D.clock ∧
    (D.toNode = s.toNode → ∃ dl, s.host.timer = .armed dl) := by
  intro s1 D
  obtain ⟨a1, _, a3, a4, a5, a6, a7⟩ := advance_one d s hq ho
  have hn' : (s.step (.advance 1)).toNode ≠ 0 := by rcases a7 with h | ⟨h, _⟩ <;> omega
  obtain ⟨c1, c2, c3⟩ := cycle_core d (s.step (.advance 1)) a1 hn' a4 (by omega) (by omega)
  have c2 : D.toNode = (s.step (.advance 1)).toNode - 1 := c2
  refine ⟨c1, ?_, ?_, c3, ?_⟩
  · show D.toNode ≤ s.toNode
    rcases a7 with h | ⟨h, _⟩ <;> omega
  · show s.toNode - 1 ≤ D.toNode
    rcases a7 with h | ⟨h, _⟩ <;> omega
  · intro he
    rcases a7 with h | ⟨_, h⟩
    · exfalso
      omega
    · exact h

/-! ## the first phase, from every reachable state -/

theorem advance_frame (s : Sys) (ms : Nat) :
    (s.step (.advance ms)).node = s.node ∧ (s.step (.advance ms)).nodeConn = s.nodeConn ∧
    (s.step (.advance ms)).hostConn = s.hostConn := by
  simp only [Sys.step]
  split
  · split
    · exact ⟨rfl, rfl, rfl⟩
    · exact ⟨rfl, rfl, rfl⟩
  · exact ⟨rfl, rfl, rfl⟩

theorem reconnect_facts (s : Sys) :
    (Sys.reconnect s).hostConn = true ∧ (Sys.reconnect s).nodeConn = true ∧
    (Sys.reconnect s).node.enabledNames = s.node.enabledNames := by
  rw [reconnect_eq]
  have h1 : (hostUp s).hostConn = true ∧ (hostUp s).node = s.node := by
    unfold hostUp
    split
    · rename_i h; exact ⟨h, rfl⟩
    · exact ⟨rfl, rfl⟩
  generalize hostUp s = t at h1
  obtain ⟨h1, h2⟩ := h1
  rw [← h2]
  unfold nodeUp
  split
  · rename_i h; exact ⟨h1, h, rfl⟩
  · rename_i h
    obtain ⟨a1, a2, a3⟩ := advance_frame t 1
    generalize t.step (.advance 1) = u at a1 a2 a3
    have hc : u.nodeConn = false := by rw [a2]; simpa using h
    have hu : u.step .nodeConnect =
        { u.send (u.node.goOnline u.clock).1 (u.node.goOnline u.clock).2 with nodeConn := true } := by
      simp [Sys.step, hc]
    rw [hu]
    refine ⟨?_, rfl, ?_⟩
    · show u.hostConn = true
      rw [a3]; exact h1
    · show (u.node.goOnline u.clock).1.enabledNames = _
      rw [← a1]; exact sig_enabledNames ((goOnline_ok _ _).switches rfl)

structure Reach (d : Nat) (s : Sys) : Prop where
  live : LiveInv d s
  node : NodeInv s.node
  conn : ConnInv s

/-- every action keeps `Reach`, faults included -/
theorem Reach.run {d : Nat} {s : Sys} (h : Reach d s) (acts : List Action) : Reach d (s.run acts) :=
  ⟨LiveInv_run d acts s h.live, NodeInv_run acts s h.node, ConnInv_run acts s h.conn⟩

theorem Reach.frun {d : Nat} {s t : Sys} (h : Reach d s) (hs : FRun s t) : Reach d t := by
  obtain ⟨acts, _, rfl⟩ := hs
  exact h.run acts

theorem Reach.init (d : Nat) (devs : List Dev) (hnames : (devs.map (·.name)).Nodup)
    (hflags : ∀ x ∈ devs, x.flag = false) : Reach d (Sys.init (Sys.fullCfg d) devs) :=
  ⟨LiveInv_init d devs, NodeInv_init _ devs hnames hflags, ConnInv_init _ devs⟩

theorem reach_run (d : Nat) (devs : List Dev) (acts : List Action)
    (hnames : (devs.map (·.name)).Nodup) (hflags : ∀ x ∈ devs, x.flag = false) :
    Reach d ((Sys.init (Sys.fullCfg d) devs).run acts) :=
  (Reach.init d devs hnames hflags).run acts

theorem delivered_quiet (d : Nat) (a : Sys) (hr : Reach d a) (hh : a.hostConn = true) (hn : a.nodeConn = true)
    (hfew : a.node.enabledNames.length < 255) :
    let D := Sys.deliverAll a.toHost.length a
    Quiet d D ∧ D.toNode ≤ a.toNode + a.toHost.length ∧ HostOk D.host D.clock := by
  intro D
  have hD : D = Sys.deliverAll a.toHost.length a := rfl
  have hreach : Reach d D := hr.frun (deliverAll_frun _ a)
  rw [deliverAll_eq a.toHost a hh rfl] at hD
  have hon : a.node.online = true := by rw [← hr.conn.conn]; exact hn
  have hok : NodeOk a.node := hr.node.nodeOk hr.live.safe.bd (hr.conn.birthed hon) hfew
  refine ⟨?_, ?_, hreach.live.hostOk⟩
  · rw [hD]
    exact ⟨hr.live.safe.cfg, hn, hh, rfl, hok⟩
  · rw [hD]
    have := feed_count_le a.cfg a.clock a.toHost a.host
    simp only
    omega

theorem first_drain_aux (d : Nat) (a : Sys) (hra : Reach d a) (hh : a.hostConn = true) (hn : a.nodeConn = true)
    (hfew : a.node.enabledNames.length < 255) (f : Nat) (hf : a.toNode + a.toHost.length ≤ f) :
    Quiet d (Sys.drainNet f a) ∧ (Sys.drainNet f a).toNode ≤ 1 ∧
    HostOk (Sys.drainNet f a).host (Sys.drainNet f a).clock ∧
    ((Sys.drainNet f a).toNode ≠ 0 →
      SyncOk (Sys.drainNet f a).host (Sys.drainNet f a).node (Sys.drainNet f a).clock) ∧
    (a.toNode + a.toHost.length + 1 ≤ f → (Sys.drainNet f a).toNode = 0) := by
  have hrE : Reach d (Sys.drainNet f a) := hra.frun (drainNet_frun f _)
  obtain ⟨q0, t0, o0⟩ := delivered_quiet d a hra hh hn hfew
  by_cases h0 : (Sys.deliverAll a.toHost.length a).toNode = 0
  · -- no NCMD in flight after the first delivery
    have hE : Sys.drainNet f a = Sys.deliverAll a.toHost.length a := by
      cases f with
      | zero => rfl
      | succ f' =>
        show (if (Sys.deliverAll a.toHost.length a).toNode = 0 then _ else _) = _
        rw [if_pos h0]
    rw [hE]
    exact ⟨q0, by omega, o0, fun hne => absurd h0 hne, fun _ => h0⟩
  · cases f with
    | zero => omega
    | succ f' =>
      have hE : Sys.drainNet (f' + 1) a =
          Sys.drainNet f' (((Sys.deliverAll a.toHost.length a).step (.advance 1)).step .deliverNcmd) := by
        show (if (Sys.deliverAll a.toHost.length a).toNode = 0 then _ else _) = _
        rw [if_neg h0]
      obtain ⟨c1, c2, _, c4, _⟩ := cycle_any d _ q0 h0 o0
      obtain ⟨i1, i2, i3, i4⟩ := drainNet_gen d f' _ c1 (fun _ => c4.cyclePre)
      rw [← hE] at i1 i2 i3 i4
      -- no further cycle ran (the state is the one after the first cycle, in step), or one did
      have hsync : SyncOk (Sys.drainNet (f' + 1) a).host (Sys.drainNet (f' + 1) a).node
          (Sys.drainNet (f' + 1) a).clock := by
        apply Classical.byContradiction
        intro hn
        exact hn (i4 (fun h => hn (by rw [i3 (.inl h)]; exact c4)) (fun h => hn (by rw [i3 (.inr h)]; exact c4)))
      exact ⟨i1, by omega, hrE.live.hostOk, fun _ => hsync, fun _ => by omega⟩

/-- **`drain (reconnect s)` with any fuel `f ≥ toNode + #toHost`** (what `drain` supplies), from any
reachable state with fewer than 255 enabled devices: both sides connected, nothing in flight
towards the host, the node at rest; at most ONE NCMD is left in flight, and none if the fuel is one
more; if one is left the host is in step. -/
theorem first_drain (d : Nat) (s : Sys) (hr : Reach d s) (hfew : s.node.enabledNames.length < 255)
    (f : Nat) (hf : (Sys.reconnect s).toNode + (Sys.reconnect s).toHost.length ≤ f) :
    let E := Sys.drainNet f (Sys.reconnect s)
    Quiet d E ∧ E.toNode ≤ 1 ∧ HostOk E.host E.clock ∧
    (E.toNode ≠ 0 → SyncOk E.host E.node E.clock) ∧
    ((Sys.reconnect s).toNode + (Sys.reconnect s).toHost.length + 1 ≤ f → E.toNode = 0) := by
  obtain ⟨hh, hn, hen⟩ := reconnect_facts s
  exact first_drain_aux d _ (hr.frun (reconnect_frun s)) hh hn (by rw [hen]; exact hfew) f hf

structure Phase1 (d : Nat) (p : Sys) : Prop where
  quiet : Quiet d p
  toNode : p.toNode = 0
  pre : CyclePre p.host p.node p.clock
  good : p.host.life = .birthed → p.host.reseq.mode = .good
  timerOk : TimerOk p.host

theorem SyncOk.phase1 {d : Nat} {p : Sys} (hq : Quiet d p) (h0 : p.toNode = 0)
    (hs : SyncOk p.host p.node p.clock) : Phase1 d p :=
  ⟨hq, h0, hs.cyclePre, fun _ => by rw [hs.track.reseq], fun _ =>
    ⟨by rw [hs.track.timer]; simp, fun hm => absurd (by rw [hs.track.reseq]) hm⟩⟩

/-- **the two delivery phases of a round, from every reachable state** (fewer than 255 enabled
devices): both sides connected, nothing in flight in either direction, the node at rest, the host's
record without a timer and with nothing buffered -/
theorem firstPhase_spec (d : Nat) (s : Sys) (hr : Reach d s) (hfew : s.node.enabledNames.length < 255) :
    Phase1 d (Sys.firstPhase s) := by
  obtain ⟨q, t1, ho, hsy, _⟩ := first_drain d s hr hfew _ (Nat.le_refl _)
  have hE : Sys.drainNet ((Sys.reconnect s).toNode + (Sys.reconnect s).toHost.length) (Sys.reconnect s)
      = Sys.drain (Sys.reconnect s) := rfl
  rw [hE] at q t1 ho hsy
  unfold Sys.firstPhase
  generalize Sys.drain (Sys.reconnect s) = E at q t1 ho hsy
  by_cases h0 : E.toNode = 0
  · have hcases : E.host.timer = .none ∨ E.host.timer = .fired ∨ ∃ dl, E.host.timer = .armed dl := by
      cases E.host.timer <;> simp
    rcases hcases with ht | ht | ⟨dl, ht⟩
    · rw [timerPhase_idle E ht, drain_id d E q h0]
      exact ⟨q, h0, ⟨ho.inv, ht, ho.birthTs, ho.staleTs⟩, fun hb => ho.timer.good hb ht, ho.timer⟩
    · exfalso
      cases hl : E.host.life with
      | birthed => exact (ho.timer hl).1 ht
      | stale =>
        have := (ho.inv.2.1 hl).2.1
        rw [ht] at this; cases this
    · have ha : ArmedOk E.host E.clock :=
        ⟨armed_birthed E.host ho.inv dl ht, ho.inv, ⟨dl, ht⟩, ho.birthTs, ho.staleTs⟩
      obtain ⟨u1, u2, u3⟩ := timerPhase_spec d E q ha
      have hne : (Sys.timerPhase E).toNode ≠ 0 := by omega
      obtain ⟨b1, b2, b3⟩ := (drain_quiet d _ u1 (fun _ => u3)).2 hne
      exact b3.phase1 b1 b2
  · have hs := hsy h0
    rw [timerPhase_idle E hs.track.timer]
    obtain ⟨b1, b2, b3⟩ := (drain_quiet d E q (fun _ => hs.cyclePre)).2 h0
    exact b3.phase1 b1 b2

theorem round_reach (d : Nat) (s : Sys) (hr : Reach d s) (hfew : s.node.enabledNames.length < 255)
    (hbelow : InStep (Sys.firstPhase s).host (Sys.firstPhase s).node →
      DevsBelow (Sys.firstPhase s).host (Sys.firstPhase s).node) :
    Settled d (Sys.round s).1 := by
  have hp := firstPhase_spec d s hr hfew
  rw [round_eq]
  exact pubDrain_any d _ hp.quiet hp.toNode hp.pre hp.good hbelow

theorem settle_succ (k : Nat) (s : Sys) : Sys.settle (k + 1) s = Sys.settle k (Sys.round s).1 ∨ k = 0 := by
  cases k with
  | zero => exact Or.inr rfl
  | succ k => exact Or.inl (settle_shift s k)

theorem settle_fst_succ (s : Sys) : ∀ k, (Sys.settle (k + 1) s).1 = (Sys.settle k (Sys.round s).1).1
  | 0 => by simp only [Sys.settle]
  | k + 1 => by rw [settle_shift]

theorem settle_reach (d : Nat) (s : Sys) (hr : Reach d s) (hfew : s.node.enabledNames.length < 255)
    (hbelow : InStep (Sys.firstPhase s).host (Sys.firstPhase s).node →
      DevsBelow (Sys.firstPhase s).host (Sys.firstPhase s).node) (k : Nat) :
    Sys.InSync (Sys.settle (k + 2) s).1 (Sys.settle (k + 2) s).2 = true := by
  rw [settle_shift]
  exact (settle_more d _ (round_reach d s hr hfew hbelow) (k + 1)).2 (by omega)

/-! ## in step, but holding a device birthed that is not enabled: stuck for ever -/

/-- quiet, the host in step with the node and holding every enabled device birthed — and device
`e`, which the node has not enabled, birthed as well -/
structure Stuck (d : Nat) (p : Sys) (e : Nat) : Prop where
  quiet : Quiet d p
  toNode : p.toNode = 0
  track : Track p.host ((p.node.seq + 1) % 256)
  birthTs : p.host.birthTs ≤ p.clock
  staleTs : p.host.staleTs ≤ p.clock
  all : ∀ dv ∈ p.node.enabledNames, findDev dv p.host.devices = some .birthed
  extra : findDev e p.host.devices = some .birthed
  notEn : e ∉ p.node.enabledNames

theorem inSync_false_of_extra (s : Sys) (last : List Eff) (e : Nat)
    (h1 : findDev e s.host.devices = some .birthed) (h2 : e ∉ s.node.enabledNames) :
    Sys.InSync s last = false := by
  cases h : Sys.InSync s last with
  | false => rfl
  | true =>
    simp only [Sys.InSync, Bool.and_eq_true] at h
    exact absurd ((onlyEnabled_iff _ _).mp h.1.1.1.2 e (findDev_some_mem e _ _ h1)) h2

theorem Stuck.pub {d : Nat} {p : Sys} {e : Nat} (h : Stuck d p e) : Stuck d (Sys.drain (Sys.pubAll p)) e := by
  obtain ⟨q, z, hn, hc, hh, _⟩ := pubDrain_step d p h.quiet h.toNode h.track h.birthTs h.staleTs h.all
  generalize Sys.drain (Sys.pubAll p) = p' at q z hn hc hh ⊢
  have hfew := h.quiet.node.few
  refine ⟨q, z, ?_, ?_, ?_, ?_, ?_, ?_⟩
  · rw [hh, hn]
    refine ⟨h.track.life, ?_, h.track.timer⟩
    simp only [afterPub]
    congr 1
    omega
  · rw [hh, hc]; have := h.birthTs; simp only; omega
  · rw [hh, hc]; have := h.staleTs; simp only; omega
  · rw [hh, hn]; exact h.all
  · rw [hh]; exact h.extra
  · rw [hn]; exact h.notEn

theorem Stuck.firstPhase {d : Nat} {p : Sys} {e : Nat} (h : Stuck d p e) : Sys.firstPhase p = p := by
  unfold Sys.firstPhase
  rw [reconnect_quiet d p h.quiet, drain_id d p h.quiet h.toNode, timerPhase_idle p h.track.timer,
    drain_id d p h.quiet h.toNode]

theorem Stuck.round {d : Nat} {p : Sys} {e : Nat} (h : Stuck d p e) : Stuck d (Sys.round p).1 e := by
  rw [round_eq, h.firstPhase]
  exact h.pub

theorem Stuck.settle {d : Nat} {p : Sys} {e : Nat} (h : Stuck d p e) : ∀ k, Stuck d (Sys.settle k p).1 e := by
  intro k
  induction k with
  | zero => exact h
  | succ k ih => exact ih.round

theorem Phase1.stuck {d : Nat} {p : Sys} (hp : Phase1 d p) (hi : InStep p.host p.node)
    (hnb : ¬ DevsBelow p.host p.node) : ∃ e, Stuck d p e := by
  have hex : ∃ e, findDev e p.host.devices = some .birthed ∧ e ∉ p.node.enabledNames := by
    apply Classical.byContradiction
    intro hc
    apply hnb
    intro dv hd
    apply Classical.byContradiction
    intro hne
    exact hc ⟨dv, hd, hne⟩
  obtain ⟨e, he1, he2⟩ := hex
  obtain ⟨i1, i2, i3, i4, i5⟩ := hi
  have hbuf : p.host.reseq.buf = [] := by have := hp.pre.inv.1.2; rw [i3] at this; exact this
  exact ⟨e, hp.quiet, hp.toNode, ⟨i1, (reseq_eta _ hbuf i3).trans (by rw [i4]), i2⟩, hp.pre.birthTs,
    hp.pre.staleTs, i5, he1, he2⟩

theorem settle_stuck (d : Nat) (s : Sys) (hr : Reach d s) (hfew : s.node.enabledNames.length < 255)
    (hi : InStep (Sys.firstPhase s).host (Sys.firstPhase s).node)
    (hnb : ¬ DevsBelow (Sys.firstPhase s).host (Sys.firstPhase s).node) (k : Nat) :
    Sys.InSync (Sys.settle (k + 1) s).1 (Sys.settle (k + 1) s).2 = false := by
  obtain ⟨e, hst⟩ := (firstPhase_spec d s hr hfew).stuck hi hnb
  have hst1 : Stuck d (Sys.round s).1 e := by rw [round_eq]; exact hst.pub
  rw [settle_fst_succ]
  exact inSync_false_of_extra _ _ e (hst1.settle k).extra (hst1.settle k).notEn

/-! ## the host only knows devices the node has registered -/

/-- every device in the host's table, and every device a buffered DBIRTH names, is in `N` -/
structure DevsIn (N : List Nat) (s : St) : Prop where
  devs : ∀ d ∈ s.devices.map Prod.fst, d ∈ N
  buf : ∀ x ∈ s.reseq.buf, RIn N x.2.2

theorem DevsIn.of_eq {N : List Nat} {s t : St} (h : DevsIn N s) (h1 : t.devices.map Prod.fst = s.devices.map Prod.fst)
    (h2 : ∀ x ∈ t.reseq.buf, x ∈ s.reseq.buf) : DevsIn N t :=
  ⟨by rw [h1]; exact h.devs, fun x hx => h.buf x (h2 x hx)⟩

/-- every device in the host's table whose state satisfies `G`, and every device a buffered DBIRTH
names, is in `N`. What the host's step needs of `G`: a state that admits stale admits everything,
since the host marks devices stale without being told their names again. -/
structure TableIn (G : Life → Prop) (N : List Nat) (s : St) : Prop where
  devs : ∀ p ∈ s.devices, G p.2 → p.1 ∈ N
  buf : ∀ x ∈ s.reseq.buf, RIn N x.2.2

theorem DevsIn.table {N : List Nat} {s : St} : DevsIn N s ↔ TableIn (fun _ => True) N s :=
  ⟨fun h => ⟨fun p hp _ => h.devs _ (List.mem_map_of_mem hp), h.buf⟩,
   fun h => ⟨fun d hd => by obtain ⟨p, hp, rfl⟩ := List.mem_map.mp hd; exact h.devs p hp trivial, h.buf⟩⟩

section
variable {G : Life → Prop} (hG : G .stale → ∀ l, G l) {N : List Nat}

include hG in
theorem step_in (c : Cfg) (s : St) (i : In) (now wall : Nat) (h : TableIn G N s) (hi : InIn N i) :
    TableIn G N (step c s i now wall).1 := by
  have := step_ok (B := RIn N) (D := fun L => ∀ p ∈ L, G p.2 → p.1 ∈ N) (E := fun _ => True)
    (fun _ _ => trivial)
    (fun L hL p hp hg => by obtain ⟨q, hq, rfl⟩ := List.mem_map.mp hp; exact hL q hq (hG hg _))
    (fun s m hd hm => ⟨fun p hp hg => by
      rcases apply_mem s m p hp with hp | ⟨id, ans, rfl⟩ | ⟨hst, l, hl⟩
      · exact hd p hp hg
      · exact hm
      · exact hd (p.1, l) hl (hG (hst ▸ hg) l), fun _ _ => trivial⟩)
    c s i now wall ⟨h.buf, h.devs, nofun⟩ (by cases i <;> first | exact hi | exact fun _ => trivial)
  exact ⟨this.2.1, this.1⟩

end

theorem goOffline_sig (n : Node) : sig n.goOffline.1 = sig n := by
  unfold Node.goOffline
  split
  · rfl
  · simp [sig, List.map_map, Function.comp_def]

structure DevNames (s : Sys) : Prop where
  flight : ∀ m ∈ s.toHost, MsgIn (s.node.devs.map (·.name)) m
  host : DevsIn (s.node.devs.map (·.name)) s.host

/-- what is in flight, the host's table (the entries whose state satisfies `G`) and the DBIRTHs it
buffers name only devices of `N node`. `DevNames` is the case "every entry, the registered names",
`Safe` the case "entries held birthed, the enabled names". -/
structure NamesIn (G : Life → Prop) (N : Node → List Nat) (s : Sys) : Prop where
  flight : ∀ m ∈ s.toHost, MsgIn (N s.node) m
  host : TableIn G (N s.node) s.host

/-- kept by every action under which the node's operations keep `N` and hand over only DBIRTHs of
devices of `N` -/
theorem NamesIn.step {G : Life → Prop} {N : Node → List Nat} (hG : G .stale → ∀ l, G l) (s : Sys) (a : Action)
    (hop : ∀ ts n k r, NodeOp ts n k r → (a.keepsSwitches = true → k = true) →
      N r.1 = N n ∧ ∀ m ∈ r.2, MsgIn (N n) m)
    (hon : ∀ ts n, N (n.goOnline ts).1 = N n ∧ ∀ m ∈ (n.goOnline ts).2, MsgIn (N n) m)
    (hoff : ∀ n, N n.goOffline.1 = N n) (h : NamesIn G N s) : NamesIn G N (s.step a) := by
  have send : ∀ (s : Sys) (r : Node × List Msg), NamesIn G N s → N r.1 = N s.node →
      (∀ m ∈ r.2, MsgIn (N s.node) m) → NamesIn G N (s.send r.1 r.2) := by
    intro s r h h1 h2
    refine ⟨fun m hm => ?_, by show TableIn G (N r.1) s.host; rw [h1]; exact h.host⟩
    show MsgIn (N r.1) m
    rw [h1]
    rcases List.mem_append.mp hm with hm | hm
    · exact h.flight m hm
    · exact h2 m hm
  refine Sys.step_induct s a h (fun s r k h ho hk => send s r h (hop _ _ k r ho hk).1 (hop _ _ k r ho hk).2)
    (fun s i h hi => ⟨h.flight, step_in hG s.cfg s.host i s.clock s.clock h.host ?_⟩)
    (fun _ _ h hl => ⟨fun m hm => h.flight m (hl m hm), h.host⟩) (fun _ _ _ _ h => ⟨h.flight, h.host⟩)
    (fun s h _ => have h1 := send s _ h (hon s.clock s.node).1 (hon s.clock s.node).2; ⟨h1.flight, h1.host⟩)
    (fun s h => ?_)
  · rcases hi with rfl | rfl | ⟨m, hm, rfl⟩
    · trivial
    · trivial
    · exact h.flight m hm
  · refine ⟨fun m hm => ?_, by show TableIn G (N s.node.goOffline.1) s.host; rw [hoff]; exact h.host⟩
    show MsgIn (N s.node.goOffline.1) m
    rw [hoff]
    rcases List.mem_append.mp hm with hm | hm
    · exact h.flight m hm
    · cases List.mem_singleton.mp hm; trivial

theorem DevNames.namesIn {s : Sys} : DevNames s ↔ NamesIn (fun _ => True) (·.devs.map (·.name)) s :=
  ⟨fun h => ⟨h.flight, DevsIn.table.mp h.host⟩, fun h => ⟨h.flight, DevsIn.table.mpr h.host⟩⟩

theorem DevNames_step (s : Sys) (a : Action) (h : DevNames s) : DevNames (s.step a) :=
  DevNames.namesIn.mpr (NamesIn.step (fun _ _ => trivial) s a
    (fun _ _ _ _ ho _ => ⟨ho.ok.names, ho.ok.msgsNames⟩)
    (fun ts n => ⟨(goOnline_ok ts n).names, (goOnline_ok ts n).msgsNames⟩)
    (fun n => sig_names (goOffline_sig n)) (DevNames.namesIn.mp h))

theorem DevNames_run (as : List Action) : ∀ s : Sys, DevNames s → DevNames (s.run as) :=
  Sys.run_induct DevNames_step as

theorem DevNames_init (c : Cfg) (devs : List Dev) : DevNames (Sys.init c devs) :=
  ⟨by simp [Sys.init], ⟨by simp [Sys.init, Host.init], by simp [Sys.init, Host.init, Reseq.init]⟩⟩

theorem keeps_sig (s : Sys) (a : Action) (ha : a.keepsSwitches = true) : sig (s.step a).node = sig s.node :=
  Sys.step_induct (P := fun t => sig t.node = sig s.node) s a rfl
    (fun _ _ _ h ho hk => (ho.ok.switches (hk ha)).trans h) (fun _ _ h _ => h) (fun _ _ h _ => h)
    (fun _ _ _ _ h => h) (fun _ h _ => ((goOnline_ok _ _).switches rfl).trans h)
    (fun t h => (goOffline_sig t.node).trans h)

theorem run_keeps_sig (σ : List Action) : ∀ s : Sys, σ.all Action.keepsSwitches = true →
    sig (s.run σ).node = sig s.node := by
  induction σ with
  | nil => intro s _; rfl
  | cons a t ih =>
    intro s hall
    simp only [List.all_cons, Bool.and_eq_true] at hall
    exact (ih _ hall.2).trans (keeps_sig s a hall.1)

theorem ff_keeps (a : Action) (h : a.ff = true) : a.keepsSwitches = true := by
  cases a <;> first | rfl | (simp [Action.ff] at h)

theorem faultFree_keeps (σ : List Action) (h : FaultFree σ = true) : σ.all Action.keepsSwitches = true := by
  simp only [FaultFree, List.all_eq_true] at h ⊢
  exact fun a ha => ff_keeps a (h a ha)

theorem frun_sig {s t : Sys} (h : FRun s t) : sig t.node = sig s.node := by
  obtain ⟨acts, ha, rfl⟩ := h
  exact run_keeps_sig acts s (faultFree_keeps acts ha)

def AllEnabled (n : Node) : Prop := ∀ x ∈ n.devs, x.enabled = true

theorem allEnabled_sig (n : Node) : AllEnabled n ↔ ∀ p ∈ sig n, p.2 = true := by
  constructor
  · intro h p hp
    obtain ⟨x, hx, rfl⟩ := List.mem_map.mp hp
    exact h x hx
  · intro h x hx
    exact h (x.name, x.enabled) (List.mem_map.mpr ⟨x, hx, rfl⟩)

theorem allEnabled_below (s : Sys) (hd : DevNames s) (hall : AllEnabled s.node) : DevsBelow s.host s.node := by
  intro dv hdv
  have hmem := hd.host.devs dv (findDev_some_mem_fst dv _ _ hdv)
  obtain ⟨x, hx, rfl⟩ := List.mem_map.mp hmem
  simp only [Node.enabledNames, List.mem_map, List.mem_filter]
  exact ⟨x, ⟨hx, hall x hx⟩, rfl⟩

theorem allEnabled_firstPhase (s : Sys) (hd : DevNames s) (hall : AllEnabled s.node) :
    DevsBelow (Sys.firstPhase s).host (Sys.firstPhase s).node := by
  obtain ⟨acts, hff, hrun⟩ := firstPhase_frun s
  refine allEnabled_below _ (hrun ▸ DevNames_run acts s hd) ?_
  rw [allEnabled_sig, frun_sig ⟨acts, hff, hrun⟩, ← allEnabled_sig]
  exact hall

/-! ## a host behind a gap buffers what overtakes the message it waits for -/

/-- the host, waiting behind a gap with its reorder timer running, is handed a message with another
number than the one it waits for, whose key is beyond everything buffered: the message is appended
to the buffer and nothing else happens -/
theorem step_buffer (c : Cfg) (h : St) (seq ts : Nat) (m : RMsg) (now dl off : Nat)
    (hres : c.resequence = true) (hl : h.life = .birthed) (ht : h.timer = .armed dl)
    (hmode : h.reseq.mode = .reseq off) (hf1 : h.birthTs ≤ ts) (hf2 : h.staleTs ≤ ts)
    (hne : h.reseq.next ≠ seq) (hnew : ∀ x ∈ h.reseq.buf, x.1 < Reseq.wsub seq off) :
    step c h (.rmsg seq ts m) now now =
      ({ h with reseq := { h.reseq with buf := h.reseq.buf ++ [(Reseq.wsub seq off, (seq, m))] } }, []) := by
  have hnf : ¬ (ts < h.birthTs ∨ ts < h.staleTs) := by omega
  have hk : Reseq.hasKey (Reseq.wsub seq off) h.reseq.buf = false :=
    (Reseq.hasKey_false_iff _ _).mpr (fun x hx => by have := hnew x hx; omega)
  obtain ⟨life, bts, sts, bd, lr, ⟨buf, next, mode⟩, dv, tm⟩ := h
  simp only at hl ht hmode hne hnew hk hnf
  subst hl ht hmode
  simp [step, handleRMsg, hnf, hres, Reseq.process, hne, hk, Reseq.insertSorted_last _ _ _ hnew]


theorem step_pub_buffer (s : Sys) (m0 : Msg) (dl off : Nat)
    (hres : s.cfg.resequence = true) (hh : s.hostConn = true) (ho : s.node.online = true)
    (hb : s.node.birthed = true) (hq : s.toHost = [m0])
    (hl : s.host.life = .birthed) (ht : s.host.timer = .armed dl) (hmode : s.host.reseq.mode = .reseq off)
    (hf1 : s.host.birthTs ≤ s.clock) (hf2 : s.host.staleTs ≤ s.clock)
    (hne : s.host.reseq.next ≠ (s.node.seq + 1) % 256)
    (hnew : ∀ x ∈ s.host.reseq.buf, x.1 < Reseq.wsub ((s.node.seq + 1) % 256) off) :
    (s.step .publishNode).step (.deliver 1) =
      { s with node := { s.node with seq := (s.node.seq + 1) % 256, nextId := s.node.nextId + 1 },
               host := { s.host with reseq := { s.host.reseq with buf := s.host.reseq.buf ++
                 [(Reseq.wsub ((s.node.seq + 1) % 256) off, ((s.node.seq + 1) % 256, .ndata s.node.nextId .ok))] } },
               sent := s.sent ++ [.ndata ((s.node.seq + 1) % 256) s.clock s.node.nextId] } := by
  have hs := step_buffer s.cfg s.host ((s.node.seq + 1) % 256) s.clock (.ndata s.node.nextId .ok) s.clock dl off
    hres hl ht hmode hf1 hf2 hne hnew
  simp [Sys.step, pubNode_eq s.clock s.node ho hb, Sys.send, hq, Sys.recv, hh, Sys.hostStep, Msg.toIn, hs]


def afterFill (s : Sys) (off j : Nat) : Sys :=
  let sq (i : Nat) := (s.node.seq + 1 + i) % 256
  let held := (List.range j).map fun i => (Reseq.wsub (sq i) off, (sq i, RMsg.ndata (s.node.nextId + i) .ok))
  let pubs := (List.range j).map fun i => Msg.ndata (sq i) s.clock (s.node.nextId + i)
  { s with
    node := { s.node with seq := (s.node.seq + j) % 256, nextId := s.node.nextId + j }
    host := { s.host with reseq := { s.host.reseq with buf := s.host.reseq.buf ++ held } }
    sent := s.sent ++ pubs }

/-- `J` rounds of "publish, deliver past the delayed message, buffer": the numbers published differ
from the one the host waits for, and their keys continue the buffer (`k0`, `k0 + 1`, …) -/
theorem run_fill (s : Sys) (m0 : Msg) (dl off k0 J : Nat)
    (hres : s.cfg.resequence = true) (hh : s.hostConn = true) (ho : s.node.online = true)
    (hb : s.node.birthed = true) (hseq : s.node.seq < 256) (hq : s.toHost = [m0])
    (hl : s.host.life = .birthed) (ht : s.host.timer = .armed dl) (hmode : s.host.reseq.mode = .reseq off)
    (hf1 : s.host.birthTs ≤ s.clock) (hf2 : s.host.staleTs ≤ s.clock)
    (hne : ∀ i < J, s.host.reseq.next ≠ (s.node.seq + 1 + i) % 256)
    (hkey : ∀ i < J, Reseq.wsub ((s.node.seq + 1 + i) % 256) off = k0 + i)
    (hbuf : ∀ x ∈ s.host.reseq.buf, x.1 < k0) :
    ∀ j ≤ J, s.run (List.replicate j [Action.publishNode, .deliver 1]).flatten = afterFill s off j := by
  intro j
  induction j with
  | zero =>
    intro _
    obtain ⟨⟨o, b, sq, bd, dv, ni⟩, ⟨l, bt, st, hbd, lr, ⟨bf, nx, md⟩, dvs, tm⟩, c, th, tn, nc, hc, w, cl, se, ef⟩ := s
    simp only at hseq
    simp [afterFill, Sys.run, Nat.mod_eq_of_lt hseq]
  | succ j ih =>
    intro hj
    rw [List.replicate_succ', List.flatten_append, run_append, ih (by omega)]
    have h1 := step_pub_buffer (afterFill s off j) m0 dl off hres hh ho hb hq hl ht hmode hf1 hf2
      (by have := hne j (by omega); simpa [afterFill, Nat.add_right_comm] using this) ?_
    · simp only [List.flatten_cons, List.flatten_nil, List.append_nil, Sys.run]
      rw [h1]
      simp [afterFill, List.range_succ, Nat.add_right_comm, Nat.add_assoc]
    · intro x hx
      have hmod : ((s.node.seq + j) % 256 + 1) % 256 = (s.node.seq + 1 + j) % 256 := by omega
      simp only [afterFill] at hx ⊢
      rw [hmod, hkey j (by omega)]
      rcases List.mem_append.mp hx with hx | hx
      · have := hbuf x hx; omega
      · obtain ⟨i, hi, rfl⟩ := List.mem_map.mp hx
        have := hkey i (by have := List.mem_range.mp hi; omega)
        have := List.mem_range.mp hi
        simp only; omega

theorem devsBelow_of_all (h : Host.St) (n : Node)
    (hall : h.devices.all (fun p => decide (p.2 = Life.stale) || n.enabledNames.contains p.1) = true) :
    DevsBelow h n :=
  fun dv hd => (onlyEnabled_iff _ _).mp hall dv (findDev_some_mem dv _ _ hd)

theorem not_devsBelow {h : Host.St} {n : Node} {e : Nat} (h1 : Host.findDev e h.devices = some .birthed)
    (h2 : e ∉ n.enabledNames) : ¬ DevsBelow h n := fun hb => h2 (hb e h1)

end Srad.Loop
