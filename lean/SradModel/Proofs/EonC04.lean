/-
C04 — device births, data and deaths are ordered within each node birth: one invariant ties the devices named
`d` to the states of the scanners `ddataOk d` and `ddeathOk d`; `pass_step` is its preservation. What the scanner
states owe a device (`Owed`) is owed only for the current node birth (`Cur`): a new birth makes every debt vacuous.
-/
import SradModel.Proofs.EonInv

namespace Srad.Eon

namespace P04

def ddNext (d : Nat) (st : DLife) : Obs → DLife
  | .bNode => .none
  | .call id .dbirth (some d') _ _ _ dec =>
    if d' == d then (match dec with | .acc => .birthed | .rej => .none | .park => .pending id) else st
  | .resolved id ok => if st == .pending id then (if ok then .birthed else .none) else st
  | .call _ .ddeath (some d') _ _ _ _ => if d' == d then .dead else st
  | _ => st

theorem dd_monitor (d : Nat) : IsMonitor (ddataOk d) (ddNext d) where
  nil _ := rfl
  cons st o t := by
    cases o with
    | call id k dv sq bd tr dec =>
      cases k <;> cases dv <;> first
        | rfl
        | (simp only [ddataOk, ddNext]; split <;> first | rfl | exact cons_check _ _ | (cases dec <;> rfl))
    | resolved id ok => simp only [ddataOk, ddNext]; split <;> rfl
    | _ => rfl

def ddAfter (d : Nat) (st : DLife) (tr : List Obs) : DLife := tr.foldl (ddNext d) st

theorem ddataOk_append (d : Nat) (a b : List Obs) : ∀ st,
    ddataOk d st (a ++ b) = (ddataOk d st a && ddataOk d (ddAfter d st a) b) := (dd_monitor d).append a b

def deNext (d : Nat) (last : Bool) : Obs → Bool
  | .call _ .sub _ _ _ _ _ => false
  | .call _ .dbirth (some d') _ _ _ _ => if d' == d then true else last
  | .call _ .ddeath (some d') _ _ _ _ => if d' == d then false else last
  | _ => last

theorem de_monitor (d : Nat) : IsMonitor (ddeathOk d) (deNext d) where
  nil _ := rfl
  cons last o t := by
    cases o with
    | call id k dv sq bd tr dec =>
      cases k <;> cases dv <;> first
        | rfl
        | (simp only [ddeathOk, deNext]; split <;> first | rfl | exact cons_check _ _)
    | _ => rfl

def ok (d : Nat) (q : DLife × Bool) (t : List Obs) : Bool := ddataOk d q.1 t && ddeathOk d q.2 t

def next (d : Nat) (q : DLife × Bool) (o : Obs) : DLife × Bool := (ddNext d q.1 o, deNext d q.2 o)

theorem ok_monitor (d : Nat) : IsMonitor (ok d) (next d) := (dd_monitor d).prod (de_monitor d)

def inert : Obs → Bool
  | .call .. | .resolved .. | .bNode => false
  | _ => true

theorem inert_spec {d : Nat} (x : Obs) (h : inert x = true) (q : DLife × Bool) :
    ok d q [x] = true ∧ next d q x = q := by
  cases x <;> first | exact ⟨rfl, rfl⟩ | cases h

theorem inert_pass {d : Nat} {q : DLife × Bool} {o : List Obs} (h : o.all inert = true) :
    ok d q o = true ∧ o.foldl (next d) q = q :=
  (ok_monitor d).quiet fun x hx => inert_spec x (List.all_eq_true.1 h x hx) q

/-- an NBIRTH has been handed over on this connection: `ddeathOk` forgets a DBIRTH at the next SUB, and a SUB is
only made by a node that is neither birthed nor in `waitNb`/`nbDone` -/
def live (s : St) : Bool := s.birthed || s.node.inNbirth

def Uniq (d : Nat) (l : List Dev) : Prop := (l.filter fun x => x.name == d && x.pc != .done).length ≤ 1

theorem Uniq.eq {d : Nat} {l : List Dev} (h : Uniq d l) {x y : Dev} (hx : x ∈ l) (hy : y ∈ l)
    (hxd : x.name = d) (hyd : y.name = d) (hxp : x.pc ≠ .done) (hyp : y.pc ≠ .done) : x = y := by
  unfold Uniq at h
  have hx' : x ∈ l.filter fun x => x.name == d && x.pc != .done := by simp [hx, hxd, hxp]
  have hy' : y ∈ l.filter fun x => x.name == d && x.pc != .done := by simp [hy, hyd, hyp]
  generalize l.filter (fun x => x.name == d && x.pc != .done) = f at *
  match f, h with
  | [], _ => simp at hx'
  | [a], _ => simp at hx' hy'; rw [hx', hy']
  | _ :: _ :: _, h => simp at h

/-- `e` is no later than the current node birth, and `P` holds if it is the current one -/
def Cur (s : St) (e : Nat) (P : Prop) : Prop := e ≤ s.epoch ∧ (e = s.epoch → P)

theorem Cur.mono {s s' : St} {e : Nat} {P Q : Prop} (h : Cur s e P) (he : s'.epoch = s.epoch) (hpq : P → Q) :
    Cur s' e Q := ⟨he ▸ h.1, fun h' => hpq (h.2 (h'.trans he))⟩

theorem Cur.stale {s s' : St} {e : Nat} {P Q : Prop} (h : Cur s e P) (he : s'.epoch = s.epoch + 1) : Cur s' e Q :=
  ⟨by have := h.1; omega, fun h' => by have := h.1; omega⟩

def Born (s : St) (q : DLife × Bool) : Prop := q.1 = .birthed ∧ (live s = true → q.2 = true)

def Waits (s : St) (q : DLife × Bool) (id : Nat) : Prop :=
  id < s.calls.length ∧ (callRes s id = none → q.1 = .pending id) ∧ (callRes s id = some true → q.1 = .birthed) ∧
    (live s = true → q.2 = true)

/-- what the scanner states `q` owe to a device with `birthed` flag `fl`, birth epoch `ep` and task at `pc` -/
structure Owed (s : St) (q : DLife × Bool) (fl : Bool) (ep : Nat) (pc : DevPc) : Prop where
  flag : Cur s ep (fl = true → Born s q)
  wait : ∀ id e, pc = .waitBirth id e → Cur s e (Waits s q id)
  done : ∀ ok e, pc = .birthDone ok e → Cur s e (ok = true → Born s q)

def birthPc : DevPc → Bool
  | .waitBirth .. | .birthDone .. => true
  | _ => false

theorem birthPc_fin (td : Bool) : birthPc (if td then .done else .idle) = false := by cases td <;> rfl

theorem Owed.rest {s : St} {q fl ep pc} (h : Owed s q fl ep pc) {fl' pc'} (hf : fl' = true → fl = true)
    (hp : birthPc pc' = false) : Owed s q fl' ep pc' :=
  ⟨h.flag.mono rfl fun k f => k (hf f), fun _ _ e => (by rw [e] at hp; cases hp), fun _ _ e => (by rw [e] at hp; cases hp)⟩

theorem Owed.clear {s : St} {q fl ep pc} (h : Owed s q fl ep pc) {q' pc'} (hp : birthPc pc' = false) : Owed s q' false ep pc' :=
  ⟨h.flag.mono rfl fun _ => nofun, fun _ _ e => (by rw [e] at hp; cases hp), fun _ _ e => (by rw [e] at hp; cases hp)⟩

theorem Owed.stale {s s' : St} {q q' fl ep pc} (h : Owed s q fl ep pc) (he : s'.epoch = s.epoch + 1) : Owed s' q' fl ep pc :=
  ⟨h.flag.stale he, fun id e hp => (h.wait id e hp).stale he, fun ok e hp => (h.done ok e hp).stale he⟩

theorem Owed.mono {s s' : St} {q q' fl ep pc} (h : Owed s q fl ep pc) (he : s'.epoch = s.epoch)
    (born : Born s q → Born s' q') (waits : ∀ id, Waits s q id → Waits s' q' id) : Owed s' q' fl ep pc :=
  ⟨h.flag.mono he fun k f => born (k f), fun id e hp => (h.wait id e hp).mono he (waits id),
    fun ok e hp => (h.done ok e hp).mono he fun k f => born (k f)⟩

theorem Owed.grow {s s' : St} {q q' fl ep pc} (h : Owed s q fl ep pc) (he : s'.epoch = s.epoch)
    (hc : ∃ cs, s'.calls = s.calls ++ cs) (hq : q'.1 = q.1)
    (hl : live s' = true → (live s = true → q.2 = true) → q'.2 = true) : Owed s' q' fl ep pc := by
  obtain ⟨cs, hc⟩ := hc
  refine h.mono he (fun b => ⟨hq ▸ b.1, fun l => hl l b.2⟩) fun id w => ?_
  rw [Waits, callRes_append hc w.1, hq]
  exact ⟨by rw [hc, List.length_append]; exact Nat.lt_add_right _ w.1, w.2.1, w.2.2.1, fun l => hl l w.2.2.2⟩

def Inv (d : Nat) (s : St) (q : DLife × Bool) : Prop :=
  ∀ x ∈ s.devs, x.name = d → x.pc ≠ .done → Owed s q x.flag x.epoch x.pc

abbrev Pass (d : Nat) (q : DLife × Bool) (s' : St) (o : List Obs) : Prop :=
  ok d q o = true ∧ Inv d s' (o.foldl (next d) q)

theorem Pass.of_inert {d : Nat} {q s'} {o : List Obs} (ho : o.all inert = true) (hi : Inv d s' q) : Pass d q s' o :=
  (ok_monitor d).pass_quiet inert_spec ho hi

def core (x : Dev) := (x.name, x.pc, x.flag, x.epoch)

def DevsLe (l l' : List Dev) : Prop :=
  ∀ y' ∈ l', (∃ y ∈ l, core y' = core y) ∨ (y'.pc = .idle ∧ y'.flag = false ∧ y'.epoch = 0)

theorem DevsLe.refl (l : List Dev) : DevsLe l l := fun y h => .inl ⟨y, h, rfl⟩

theorem DevsLe.setDev {l : List Dev} {x x' : Dev} (hx : x ∈ l) (hc : core x' = core x) : DevsLe l (setDev x' l) :=
  fun y h => (mem_setDev_weak _ _ _ h).elim (fun e => .inl ⟨x, hx, e ▸ hc⟩) fun h => .inl ⟨y, h, rfl⟩

theorem DevsLe.pushAll (m : NS) (l : List Dev) : DevsLe l (pushAll m l) := by
  intro y' h
  obtain ⟨y, hy, rfl⟩ := List.mem_map.1 h
  exact .inl ⟨y, hy, by split <;> rfl⟩

theorem Inv.frame {d : Nat} {s s' : St} {q q'} (hi : Inv d s q) (he : s'.epoch = s.epoch)
    (hc : ∃ cs, s'.calls = s.calls ++ cs) (hd : DevsLe s.devs s'.devs)
    (hq : q'.1 = q.1) (hl : live s' = true → (live s = true → q.2 = true) → q'.2 = true) : Inv d s' q' := by
  intro y' hy' hn hp
  rcases hd y' hy' with ⟨y, hy, hcore⟩ | ⟨h1, h2, h3⟩
  · simp only [core, Prod.mk.injEq] at hcore
    obtain ⟨c1, c2, c3, c4⟩ := hcore
    rw [c2, c3, c4]
    exact (hi y hy (c1 ▸ hn) (c2 ▸ hp)).grow he hc hq hl
  · rw [h1, h2, h3]
    exact ⟨⟨Nat.zero_le _, fun _ => nofun⟩, nofun, nofun⟩

def nodeView (s : St) := (s.epoch, s.birthed, s.node)

theorem Inv.same {d : Nat} {s s' : St} {q} (hi : Inv d s q) (hk : nodeView s' = nodeView s)
    (hc : ∃ cs, s'.calls = s.calls ++ cs) (hd : DevsLe s.devs s'.devs) : Inv d s' q := by
  simp only [nodeView, Prod.mk.injEq] at hk
  obtain ⟨k1, k2, k3⟩ := hk
  exact hi.frame k1 hc hd rfl fun l k => k (by rwa [live, k2, k3] at l)

theorem Pass.same {d : Nat} {s s' : St} {q} {o : List Obs} (hi : Inv d s q) (hk : nodeView s' = nodeView s)
    (hc : s'.calls = s.calls) (hd : DevsLe s.devs s'.devs) (ho : o.all inert = true) : Pass d q s' o :=
  .of_inert ho (hi.same hk ⟨[], by rw [hc, List.append_nil]⟩ hd)

theorem Pass.cons {d : Nat} {q s'} (x : Obs) {post : List Obs} (h1 : ok d q [x] = true)
    (hpost : post.all inert = true) (hi : Inv d s' (next d q x)) : Pass d q s' (x :: post) :=
  (ok_monitor d).pass_around (pre := []) inert_spec rfl h1 hpost hi

theorem call_none (d : Nat) (q : DLife × Bool) (n : Nat) (k : CK) (sq bd : Option Nat) (t : Bool) (dc : Dec)
    (hk : k ≠ .sub) : ok d q [.call n k none sq bd t dc] = true ∧ next d q (.call n k none sq bd t dc) = q := by
  cases k <;> first | exact absurd rfl hk | simp [ok, next, ddataOk, ddeathOk, ddNext, deNext]

theorem pass_resolve {d : Nat} {s : St} {q id b c} (hi : Inv d s q) (hc : s.calls[id]? = some c) (hr : c.res = none) :
    Pass d q { s with calls := s.calls.set id { c with res := some b } } [.resolved id b] := by
  have hold : callRes s id = none := by simp [callRes, hc, hr]
  have hnew := callRes_set (s' := { s with calls := s.calls.set id { c with res := some b } }) rfl hc
  have hq : ∀ st : DLife, st = .birthed → ddNext d st (.resolved id b) = .birthed := fun st h => by subst h; rfl
  refine ⟨by simp [ok, ddataOk, ddeathOk], fun x hx hn hp => (hi x hx hn hp).mono rfl
    (fun b => ⟨hq _ b.1, b.2⟩) fun id2 w => ?_⟩
  refine ⟨by simpa using w.1, ?_, ?_, w.2.2.2⟩ <;> rw [hnew] <;> simp only [List.foldl_cons, List.foldl_nil, next]
  · by_cases h2 : id2 = id
    · rw [if_pos h2]; nofun
    · rw [if_neg h2]; intro h; rw [ddNext, w.2.1 h]; simp [h2]
  · by_cases h2 : id2 = id
    · subst h2; rw [if_pos rfl]; intro h; cases h; rw [ddNext, w.2.1 hold]; simp
    · rw [if_neg h2]; exact fun h => hq _ (w.2.2.1 h)

theorem pass_stim {d : Nat} {s s' : St} {q x o} (h : StimStep s x s' o) (hi : Inv d s q) : Pass d q s' o := by
  cases h with
  | resolve _ _ _ hc hr => exact pass_resolve hi hc hr
  | reg =>
    refine .same hi rfl rfl (fun y hy => ?_) rfl
    rcases List.mem_append.1 hy with h | h
    · exact .inl ⟨y, h, rfl⟩
    · cases List.mem_singleton.1 h; exact .inr ⟨rfl, rfl, rfl⟩
  | unreg _ _ hx => exact .same hi rfl rfl (.setDev (findReg_some hx).1 rfl) rfl
  | enable _ _ hx | disable _ _ hx | drebirth _ _ hx => exact .same hi rfl rfl (.setDev (findDev_some hx).1 rfl) rfl
  | _ => exact .same hi rfl rfl (.refl _) rfl

theorem pass_loop {d : Nat} {s s' : St} {q o} (h : LoopStep s s' o) (hi : Inv d s q) : Pass d q s' o := by
  cases h with
  | polled _ _ _ _ _ hh =>
    cases hh with
    | dcmd _ _ _ hx => exact .same hi rfl rfl (.setDev (findReg_some hx).1 rfl) rfl
    | _ => exact .same hi rfl rfl (.refl _) rfl
  | _ => exact .same hi rfl rfl (.refl _) rfl

theorem pass_timeout {d : Nat} {s s' : St} {q o} (h : TimeoutStep s s' o) (hi : Inv d s q) : Pass d q s' o := by
  cases h <;> exact .same hi rfl rfl (.refl _) rfl

theorem pass_user {d : Nat} {s s' : St} {q j dec o} (h : UserStep s j dec s' o) (hi : Inv d s q) : Pass d q s' o := by
  have call : ∀ {s' : St} {c : Call} {x : Obs} {post : List Obs}, nodeView s' = nodeView s → s'.devs = s.devs →
      s'.calls = s.calls ++ [c] → post.all inert = true → ok d q [x] = true ∧ next d q x = q → Pass d q s' (x :: post) :=
    fun hk hd hc hp hx => .cons _ hx.1 hp (hx.2.symm ▸ hi.same hk ⟨_, hc⟩ (hd ▸ .refl _))
  cases h with
  | pubNode => exact call rfl rfl rfl (all_ures (fun _ _ => rfl) ..) (call_none d q _ _ _ _ _ _ nofun)
  | cancelStart | cancelDisc => exact call rfl rfl rfl rfl (call_none d q _ _ _ _ _ _ nofun)
  | pubDev _ d' _ _ x _ _ _ _ _ _ hx =>
    refine call rfl rfl rfl (all_ures (fun _ _ => rfl) ..) ?_
    by_cases hd : d' = d
    · obtain ⟨hm, hn, hp⟩ := findDev_some hx.1
      have := ((hi x hm (hn.trans hd) hp).flag.2 hx.2.2 hx.2.1).1
      simp [ok, next, ddataOk, ddeathOk, ddNext, deNext, hd, this, Prod.ext_iff]
    · simp [ok, next, ddataOk, ddeathOk, ddNext, deNext, hd]
  | _ => exact .same hi rfl rfl (.refl _) rfl

theorem pass_node {d : Nat} {s s' : St} {q dec o} (hB : P20.Inv s) (h : NodeStep s dec s' o) (hi : Inv d s q) :
    Pass d q s' o := by
  -- the node task moves from `m` without handing anything over
  have quiet : ∀ {s' : St} {m : NodePc}, s.node = m →
      (s'.epoch, s'.birthed, s'.calls, s'.devs) = (s.epoch, s.birthed, s.calls, s.devs) →
      (s'.node.inNbirth = true → m.inNbirth = true) → Inv d s' q := by
    intro s' m hpc hk h1
    simp only [Prod.mk.injEq] at hk
    obtain ⟨k1, k2, k3, k4⟩ := hk
    refine hi.frame k1 ⟨[], by rw [k3, List.append_nil]⟩ (k4 ▸ .refl _) rfl fun l k => k ?_
    rw [live, k2, Bool.or_eq_true] at l
    rw [live, Bool.or_eq_true]
    exact l.imp_right fun l => hpc ▸ h1 l
  cases h with
  | onlineSub hpc _ _ ho =>
    have hb : s.birthed = false := by cases h : s.birthed; rfl; rw [hB.birthed_online h] at ho; cases ho
    refine .cons _ (by simp [ok, ddataOk, ddeathOk]) rfl
      (hi.frame (q' := (q.1, false)) rfl ⟨_, rfl⟩ (.refl _) rfl fun l => ?_)
    rw [live, Bool.or_eq_true] at l
    rcases l with l | l
    · have l : s.birthed = true := l
      rw [hb] at l; cases l
    · revert l; cases outcome false dec <;> nofun
  | offline _ hpc =>
    refine .of_inert rfl (hi.frame rfl ⟨[], (List.append_nil _).symm⟩ (.pushAll _ _) rfl fun l => ?_)
    rw [live, hpc] at l; cases l
  | birthStart _ _ hpc =>
    exact ⟨by simp [ok, ddataOk, ddeathOk], fun x hx hn hp => (hi x hx hn hp).stale rfl⟩
  | nbOk _ _ hpc =>
    refine .of_inert rfl (hi.frame rfl ⟨[], (List.append_nil _).symm⟩ (.pushAll _ _) rfl fun _ k => k ?_)
    rw [live, hpc, Bool.or_eq_true]; exact .inr rfl
  | onlineStopping | onlineDup | offlineDup | rebirthReqDrop | ncmdBad => exact .of_inert rfl (quiet rfl rfl id)
  | nbResolved _ _ _ _ hpc => exact .of_inert rfl (quiet hpc rfl fun _ => rfl)
  | rebirthReq hpc | cbRebirth hpc | subResolved _ _ hpc | subOk hpc | stopped hpc | ncmd _ _ hpc | subFailed hpc
  | nbFailed _ _ hpc | cbNoRebirth hpc | cbCooldown hpc | cbUnbirthed hpc =>
    exact .of_inert rfl (quiet hpc rfl nofun)

theorem live_conn {s s' : St} (hk : nodeView s' = nodeView s) : live s' = live s := by
  simp only [nodeView, Prod.mk.injEq] at hk
  rw [live, live, hk.2.1, hk.2.2]

/-- device `x` becomes `x'`: scanners of another name do not notice, and for its own name only `x'` has to be
looked at, there being no other live incarnation -/
theorem Pass.dev {d : Nat} {s s' : St} {q u x x' o} (hi : Inv d s q) (hu : UidOk s.devs) (hU : Uniq d s.devs)
    (hx : findUid u s.devs = some x) (hl : x.pc ≠ .done) (hk : nodeView s' = nodeView s) (hc : ∃ cs, s'.calls = s.calls ++ cs)
    (hd : s'.devs = setDev x' s.devs) (hid : (x'.uid, x'.name) = (x.uid, x.name))
    (hother : x.name ≠ d → ok d q o = true ∧ o.foldl (next d) q = q)
    (hself : x.name = d → Owed s q x.flag x.epoch x.pc →
      ok d q o = true ∧ Owed s' (o.foldl (next d) q) x'.flag x'.epoch x'.pc) : Pass d q s' o := by
  have hlive := live_conn hk
  simp only [nodeView, Prod.mk.injEq] at hk hid
  obtain ⟨k1, k2, k3⟩ := hk
  have hxm := (findUid_some hx).1
  by_cases hxd : x.name = d
  · obtain ⟨h1, h2⟩ := hself hxd (hi x hxm hxd hl)
    refine ⟨h1, fun y hy hyn hyp => ?_⟩
    rw [hd] at hy
    rcases mem_setDev _ _ _ hu.nodup hy with rfl | ⟨hy1, hy2⟩
    · exact h2
    · cases hU.eq hy1 hxm hyn hxd hyp hl
      exact absurd hid.1.symm hy2
  · obtain ⟨h1, h2⟩ := hother hxd
    refine ⟨h1, ?_⟩
    rw [h2]
    intro y hy hyn hyp
    rw [hd] at hy
    rcases mem_setDev_weak _ _ _ hy with rfl | hy1
    · exact absurd (hid.2.symm.trans hyn) hxd
    · exact (hi y hy1 hyn hyp).grow k1 hc rfl fun l k => k (hlive ▸ l)

theorem Pass.dev_rest {d : Nat} {s s' : St} {q u x x' o} (hi : Inv d s q) (hu : UidOk s.devs) (hU : Uniq d s.devs)
    (hx : findUid u s.devs = some x) (hl : x.pc ≠ .done) (hk : nodeView s' = nodeView s) (hc : s'.calls = s.calls)
    (hd : s'.devs = setDev x' s.devs) (hid : (x'.uid, x'.name) = (x.uid, x.name)) (ho : o.all inert = true)
    (hf : x'.flag = true → x.flag = true) (he : x'.epoch = x.epoch) (hp : birthPc x'.pc = false) : Pass d q s' o := by
  have hc' : ∃ cs, s'.calls = s.calls ++ cs := ⟨[], by rw [hc, List.append_nil]⟩
  refine .dev hi hu hU hx hl hk hc' hd hid (fun _ => inert_pass ho) fun _ p => ⟨(inert_pass ho).1, ?_⟩
  rw [(inert_pass ho).2, he]
  simp only [nodeView, Prod.mk.injEq] at hk
  exact (p.rest hf hp).grow hk.1 hc' rfl fun l k => k (by rwa [live, hk.2.1, hk.2.2] at l)

theorem silent2 {d : Nat} {q : DLife × Bool} {a b : Obs} (ha : ok d q [a] = true ∧ next d q a = q)
    (hb : ok d q [b] = true ∧ next d q b = q) : ok d q [a, b] = true ∧ [a, b].foldl (next d) q = q :=
  (ok_monitor d).quiet fun o h => by
    rcases List.mem_cons.1 h with rfl | h
    · exact ha
    · cases List.mem_singleton.1 h; exact hb

theorem call_other (d : Nat) (q : DLife × Bool) {d' : Nat} (hne : d' ≠ d) (n : Nat) (k : CK) (sq bd : Option Nat)
    (t : Bool) (dc : Dec) (hk : k ≠ .sub) :
    ok d q [.call n k (some d') sq bd t dc] = true ∧ next d q (.call n k (some d') sq bd t dc) = q := by
  cases k <;> first | exact absurd rfl hk | simp [ok, next, ddataOk, ddeathOk, ddNext, deNext, hne]

/-- `s₁`, `x₁`: the state and the device after the task has taken the message or request it works on -/
theorem pass_devBirth {d : Nat} {s s₁ s' : St} {q u x x₁ bt req dec o} (h : DevBirth s₁ x₁ bt req dec s' o)
    (hi : Inv d s q) (hu : UidOk s.devs) (hU : Uniq d s.devs) (hx : findUid u s.devs = some x) (hpc : x.pc = .idle)
    (hk : nodeView s₁ = nodeView s) (hc : s₁.calls = s.calls) (hd : s₁.devs = setDev x₁ s.devs)
    (hid : (x₁.uid, x₁.name, x₁.flag, x₁.epoch, x₁.pc) = (x.uid, x.name, x.flag, x.epoch, x.pc)) : Pass d q s' o := by
  have hl : x.pc ≠ .done := by rw [hpc]; nofun
  simp only [Prod.mk.injEq] at hid
  obtain ⟨i1, i2, i3, i4, i5⟩ := hid
  have hd' : ∀ x₂ : Dev, x₂.uid = x₁.uid → setDev x₂ s₁.devs = setDev x₂ s.devs :=
    fun x₂ h => by rw [hd, setDev_setDev _ _ _ h.symm]
  cases h with
  | handed _ _ _ _ hb =>
    have hk' := hk
    simp only [nodeView, Prod.mk.injEq] at hk'
    refine .dev hi hu hU hx hl hk (by rw [← hc]; exact ⟨_, rfl⟩) (hd' _ rfl) (by rw [← i1, ← i2])
      (fun hne => silent2 (inert_pass (o := [_]) rfl) (call_other d q (i2 ▸ hne) _ _ _ _ _ _ nofun)) fun hxd p => ?_
    have hn : x₁.name = d := i2.trans hxd
    have hb' : x₁.epoch ≤ s₁.epoch := by rw [i4, hk'.1]; exact p.flag.1
    have hlen : s.calls.length = s₁.calls.length := by rw [hc]
    -- the client's answer decides scanner state and pc alike: accepted gives `birthed` and `birthDone true`,
    -- refused `none` and `birthDone false`, parked `pending id` and `waitBirth id`, the call just logged unanswered
    cases dec
    all_goals
      refine ⟨by simp [ok, ddataOk, ddeathOk, hn, Dec.eff], ⟨hb', fun _ => nofun⟩, ?_, ?_⟩
    all_goals simp [next, ddNext, deNext, hn, Dec.eff, afterCall, Cur, Born, Waits, callRes]
  | _ => exact .dev_rest hi hu hU hx hl hk hc hd (by rw [← i1, ← i2]) rfl (i3 ▸ id) i4 (by rw [i5, hpc]; rfl)

theorem pass_devDeath {d : Nat} {s s₁ s' : St} {q u x x₁ pub td dec o} (h : DevDeath s₁ x₁ pub td dec s' o)
    (hi : Inv d s q) (hu : UidOk s.devs) (hU : Uniq d s.devs) (hx : findUid u s.devs = some x) (hpc : x.pc = .idle)
    (hk : nodeView s₁ = nodeView s) (hc : s₁.calls = s.calls) (hd : s₁.devs = setDev x₁ s.devs)
    (hid : (x₁.uid, x₁.name, x₁.flag, x₁.epoch) = (x.uid, x.name, x.flag, x.epoch)) : Pass d q s' o := by
  have hl : x.pc ≠ .done := by rw [hpc]; nofun
  simp only [Prod.mk.injEq] at hid
  obtain ⟨i1, i2, i3, i4⟩ := hid
  have hd' : ∀ x₂ : Dev, x₂.uid = x₁.uid → setDev x₂ s₁.devs = setDev x₂ s.devs :=
    fun x₂ h => by rw [hd, setDev_setDev _ _ _ h.symm]
  cases h with
  | handed hf _ _ hb he =>
    have hk' := hk
    simp only [nodeView, Prod.mk.injEq] at hk'
    have hp : birthPc (afterCall (.waitDeath s₁.calls.length td) (fun _ => if td then DevPc.done else .idle)
        (outcome false dec)) = false := by
      cases outcome false dec with
      | none => rfl
      | some _ => exact birthPc_fin td
    refine .dev hi hu hU hx hl hk (by rw [← hc]; exact ⟨_, rfl⟩) (hd' _ rfl) (by rw [← i1, ← i2])
      (fun hne => (ok_monitor d).quiet fun o h => by cases List.mem_singleton.1 h; exact call_other d q (i2 ▸ hne) _ _ _ _ _ _ nofun)
      fun hxd p => ?_
    have hn : x₁.name = d := i2.trans hxd
    have hq : q.2 = true := (p.flag.2 (by rw [← i4, he, hk'.1]) (i3 ▸ hf)).2 (by rw [live, ← hk'.2.1, hb]; rfl)
    refine ⟨by simp [ok, ddataOk, ddeathOk, hn, hq], ?_⟩
    rw [i4]
    refine Owed.clear (q := q) (fl := x.flag) (pc := x.pc) ?_ hp
    exact p.grow hk'.1 (by rw [← hc]; exact ⟨_, rfl⟩) rfl fun l k => k (by rwa [live, hk'.2.1, hk'.2.2] at l)
  | _ =>
    exact .dev_rest hi hu hU hx hl hk hc (hd' _ rfl) (by rw [← i1, ← i2]) rfl (fun h => i3 ▸ (by first | exact h | cases h))
      i4 (birthPc_fin td)

theorem pass_dev {d : Nat} {s s' : St} {q u dec o} (h : DevStep s u dec s' o) (hi : Inv d s q) (hu : UidOk s.devs)
    (hU : Uniq d s.devs) : Pass d q s' o := by
  cases h with
  | nsBirth _ _ _ _ hx hpc _ hb | enable _ _ hx hpc _ _ hb | rebirth _ _ hx hpc _ _ hb =>
    exact pass_devBirth hb hi hu hU hx hpc rfl rfl rfl rfl
  | nsDeath _ _ hx hpc _ hd | nsRemoved _ _ hx hpc _ hd | disable _ _ hx hpc _ _ hd =>
    exact pass_devDeath hd hi hu hU hx hpc rfl rfl rfl rfl
  | dcmdBad x _ hx hpc =>
    exact .dev_rest hi hu hU hx (by rw [hpc]; nofun) rfl rfl rfl rfl rfl id rfl (by show birthPc x.pc = false; rw [hpc]; rfl)
  | dcmd _ _ hx hpc | cbReturn _ hx hpc | birthFailed _ _ hx hpc =>
    exact .dev_rest hi hu hU hx (by rw [hpc]; nofun) rfl rfl rfl rfl rfl id rfl rfl
  | deathResolved _ _ td _ hx hpc =>
    exact .dev_rest hi hu hU hx (by rw [hpc]; nofun) rfl rfl rfl rfl rfl id rfl (birthPc_fin td)
  | birthResolved x id ep r hx hpc hr =>
    refine .dev hi hu hU hx (by rw [hpc]; nofun) rfl ⟨[], (List.append_nil _).symm⟩ rfl rfl (fun _ => inert_pass rfl)
      fun _ p => ⟨rfl, p.flag, nofun, fun ok e h => ?_⟩
    cases h
    exact (p.wait id ep hpc).mono rfl fun w hok => ⟨w.2.2.1 (hok ▸ hr), w.2.2.2⟩
  | birthOk x ep hx hpc =>
    exact .dev hi hu hU hx (by rw [hpc]; nofun) rfl ⟨[], (List.append_nil _).symm⟩ rfl rfl (fun _ => inert_pass rfl)
      fun _ p => ⟨rfl, p.done true ep hpc, nofun, nofun⟩

theorem pass_step {d : Nat} {s s' : St} {q o} (hB : P20.Inv s) (h : Step s s' o) (hi : Inv d s q) (hu : UidOk s.devs)
    (hU : Uniq d s.devs) : Pass d q s' o := by
  cases h with
  | stim _ h => exact pass_stim h hi
  | loop h => exact pass_loop h hi
  | timeout h => exact pass_timeout h hi
  | node _ h => exact pass_node hB h hi
  | dev _ _ h => exact pass_dev h hi hu hU
  | user _ _ h => exact pass_user h hi

theorem ordered {cd : Nat} {acts : List Act} {s : St} {tr : List Obs} {d : Nat}
    (h : runActs (init cd) acts = some (s, tr))
    (hone : ∀ pre, pre <+: acts → ∀ s1 t1, runActs (init cd) pre = some (s1, t1) → Uniq d s1.devs) :
    ddataOk d .none tr = true ∧ ddeathOk d false tr = true := by
  have := runActs_induct_on (U := fun s => Uniq d s.devs)
    (P := fun s tr => ok d (.none, false) tr = true ∧ P20.Inv s ∧ UidOk s.devs ∧ Inv d s (tr.foldl (next d) (.none, false)))
    (fun s tr s' o hU ⟨h1, hB, hu, hi⟩ hst => by
      obtain ⟨g1, g2⟩ := pass_step hB hst hi hu hU
      exact ⟨by rw [(ok_monitor d).append, h1, g1]; rfl, hB.step hst, hu.step hst, by rw [List.foldl_append]; exact g2⟩)
    acts (s₀ := init cd) (pre := []) ⟨rfl, P20.Inv_init cd, rfl, nofun⟩ hone h
  exact Bool.and_eq_true_iff.1 this.1

theorem dbirth_of_devBirth {s₁ s' : St} {x₁ bt req dec o id dv sq bd t dc} (h : DevBirth s₁ x₁ bt req dec s' o)
    (hc : Obs.call id .dbirth dv sq bd t dc ∈ o) :
    dv = some x₁.name ∧ x₁.enabled = true ∧ x₁.registered = true ∧ s₁.online = true ∧ s₁.birthed = true ∧
      ∃ x', x'.uid = x₁.uid ∧ x'.enabled = true ∧ s'.devs = setDev x' s₁.devs := by
  cases h with
  | handed he hr _ ho hb =>
    simp at hc
    let pc' : DevPc :=
      afterCall (.waitBirth s₁.calls.length s₁.epoch) (fun ok => .birthDone ok s₁.epoch) (outcome false dec)
    exact ⟨hc.2.1, he, hr, ho, hb, { x₁ with flag := false, pc := pc' }, rfl, he, rfl⟩
  | _ => cases hc

theorem dbirth_only_enabled_registered (s s' : St) (u : Nat) (dec : Dec) (k : Nat) (o : List Obs)
    (id : Nat) (d : Option Nat) (sq bd : Option Nat) (t : Bool) (dc : Dec)
    (h : (step s (.dev u) dec)[k]? = some (s', o)) (hc : Obs.call id .dbirth d sq bd t dc ∈ o) :
    ∃ x x', findUid u s.devs = some x ∧ findUid u s'.devs = some x' ∧ d = some x.name ∧
      x'.enabled = true ∧ x.registered = true ∧ s.online = true ∧ s.birthed = true := by
  have birth : ∀ {s₁ : St} {x x₁ : Dev} {bt req}, DevBirth s₁ x₁ bt req dec s' o → findUid u s.devs = some x →
      s₁.devs = setDev x₁ s.devs → (x₁.uid, x₁.name, x₁.registered) = (x.uid, x.name, x.registered) →
      s₁.online = s.online → s₁.birthed = s.birthed →
      ∃ x x', findUid u s.devs = some x ∧ findUid u s'.devs = some x' ∧ d = some x.name ∧
        x'.enabled = true ∧ x.registered = true ∧ s.online = true ∧ s.birthed = true := fun hb hx hd hid h1 h2 => by
    obtain ⟨rfl, -, hr, ho, hbi, x', hu', he', hd'⟩ := dbirth_of_devBirth hb hc
    simp only [Prod.mk.injEq] at hid
    have hxu := (findUid_some hx).2
    refine ⟨_, x', hx, ?_, by rw [hid.2.1], he', hid.2.2 ▸ hr, h1 ▸ ho, h2 ▸ hbi⟩
    rw [hd', hd]
    exact findUid_setDev (findUid_setDev hx (hid.1.trans hxu)) (hu'.trans (hid.1.trans hxu))
  have death : ∀ {s₁ : St} {x₁ : Dev} {p td}, DevDeath s₁ x₁ p td dec s' o → False :=
    fun hd => by cases hd <;> simp at hc
  cases DevStep.of_mem (List.mem_of_getElem? h : (s', o) ∈ stepDev s u dec) with
  | nsBirth _ _ _ _ hx _ _ hb | enable _ _ hx _ _ _ hb | rebirth _ _ hx _ _ _ hb => exact birth hb hx rfl rfl rfl rfl
  | nsDeath _ _ _ _ _ hd | nsRemoved _ _ _ _ _ hd | disable _ _ _ _ _ _ hd => exact (death hd).elim
  | _ => simp at hc

end P04
end Srad.Eon
