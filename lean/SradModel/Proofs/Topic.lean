import SradModel.Model.TopicSpec
import SradModel.Proofs.StateJson

/-!
Helper lemmas for C13: splitting on `/` inverts joining with `/` exactly when no piece contains
a `/`; name validation; the three topic shapes in terms of `splitSlash`; the receive path
specified by its result (`ParseSpec`), sound (`parse_sound`) and complete (`parse_complete`).
-/
namespace Srad.Topic
open Srad.StateJson (Bytes parseCert)

theorem isForbidden_iff (c : UInt8) : isForbidden c = true ↔ c = 0x2b ∨ c = 0x2f ∨ c = 0x23 := by
  simp [isForbidden, or_assoc]

theorem validateLoop_iff (s : Bytes) :
    validateLoop s = true ↔ (0x2f : UInt8) ∉ s ∧ (0x2b : UInt8) ∉ s ∧ (0x23 : UInt8) ∉ s := by
  induction s with
  | nil => simp [validateLoop]
  | cons c t ih =>
    simp only [validateLoop, List.mem_cons, not_or]
    by_cases hf : isForbidden c = true
    · have := (isForbidden_iff c).mp hf
      simp only [hf, if_true, Bool.false_eq_true, false_iff]
      rcases this with h | h | h <;> subst h <;> simp
    · have hn := fun h => hf ((isForbidden_iff c).mpr h)
      have h1 : (0x2b : UInt8) ≠ c := fun e => hn (Or.inl e.symm)
      have h2 : (0x2f : UInt8) ≠ c := fun e => hn (Or.inr (Or.inl e.symm))
      have h3 : (0x23 : UInt8) ≠ c := fun e => hn (Or.inr (Or.inr e.symm))
      simp [hf, ih, h1, h2, h3]

theorem validateName_iff (s : Bytes) : validateName s = true ↔ NameOk s := by
  unfold validateName NameOk
  cases s with
  | nil => simp
  | cons c t => simp [validateLoop_iff]

theorem NameOk.noSlash {s : Bytes} (h : NameOk s) : NoSlash s := h.2.1

theorem splitSlash_ne_nil (t : Bytes) : splitSlash t ≠ [] := by
  cases t with
  | nil => simp [splitSlash]
  | cons c t =>
    rw [splitSlash]
    split
    · simp
    · split <;> simp

theorem splitSlash_noSlash (a : Bytes) (h : NoSlash a) : splitSlash a = [a] := by
  induction a with
  | nil => rfl
  | cons c a ih =>
    have hc : c ≠ SLASH := fun e => h (by simp [e])
    have ha : NoSlash a := fun m => h (List.mem_cons_of_mem _ m)
    rw [splitSlash, if_neg hc, ih ha]

theorem splitSlash_append (a r : Bytes) (h : NoSlash a) :
    splitSlash (a ++ SLASH :: r) = a :: splitSlash r := by
  induction a with
  | nil => simp [splitSlash]
  | cons c a ih =>
    have hc : c ≠ SLASH := fun e => h (by simp [e])
    have ha : NoSlash a := fun m => h (List.mem_cons_of_mem _ m)
    rw [List.cons_append, splitSlash, if_neg hc, ih ha]

def joinSlash : List Bytes → Bytes
  | [] => []
  | [s] => s
  | s :: s2 :: r => s ++ SLASH :: joinSlash (s2 :: r)

theorem joinSlash_cons_cons (c : UInt8) (s : Bytes) (r : List Bytes) :
    joinSlash ((c :: s) :: r) = c :: joinSlash (s :: r) := by
  cases r <;> simp [joinSlash]

theorem joinSlash_splitSlash (t : Bytes) : joinSlash (splitSlash t) = t := by
  induction t with
  | nil => rfl
  | cons c t ih =>
    rw [splitSlash]
    split
    · rename_i hc
      cases hs : splitSlash t with
      | nil => exact absurd hs (splitSlash_ne_nil t)
      | cons s r => rw [hs] at ih; simp [joinSlash, ih, hc]
    · cases hs : splitSlash t with
      | nil => exact absurd hs (splitSlash_ne_nil t)
      | cons s r => rw [hs] at ih; simp only [joinSlash_cons_cons, ih]

theorem splitSlash_mem_noSlash (t : Bytes) : ∀ s ∈ splitSlash t, NoSlash s := by
  induction t with
  | nil => intro s hs; simp [splitSlash] at hs; subst hs; simp [NoSlash]
  | cons c t ih =>
    intro s hs
    rw [splitSlash] at hs
    split at hs
    · rcases List.mem_cons.mp hs with h | h
      · subst h; simp [NoSlash]
      · exact ih s h
    · rename_i hc
      cases hsp : splitSlash t with
      | nil => exact absurd hsp (splitSlash_ne_nil t)
      | cons s0 r =>
        rw [hsp] at hs ih
        rcases List.mem_cons.mp hs with h | h
        · subst h
          have : NoSlash s0 := ih s0 (by simp)
          intro m
          rcases List.mem_cons.mp m with e | e
          · exact hc e.symm
          · exact this e
        · exact ih s (List.mem_cons_of_mem _ h)

theorem splitSlash_eq_iff (t : Bytes) (segs : List Bytes) (hne : segs ≠ []) :
    splitSlash t = segs ↔ t = joinSlash segs ∧ ∀ s ∈ segs, NoSlash s := by
  constructor
  · intro h
    subst h
    exact ⟨(joinSlash_splitSlash t).symm, splitSlash_mem_noSlash t⟩
  · rintro ⟨rfl, hs⟩
    induction segs with
    | nil => exact absurd rfl hne
    | cons s r ih =>
      cases r with
      | nil => exact splitSlash_noSlash s (hs s (by simp))
      | cons s2 r2 =>
        show splitSlash (s ++ SLASH :: joinSlash (s2 :: r2)) = _
        rw [splitSlash_append _ _ (hs s (by simp)), ih (by simp) (fun x hx => hs x (List.mem_cons_of_mem _ hx))]

theorem kindOfRest_cases (rest : Bytes) :
    (rest = BIRTH ∧ kindOfRest rest = .birth) ∨ (rest = DEATH ∧ kindOfRest rest = .death) ∨
    (rest = DATA ∧ kindOfRest rest = .data) ∨ (rest = CMD ∧ kindOfRest rest = .cmd) ∨
    (rest ≠ BIRTH ∧ rest ≠ DEATH ∧ rest ≠ DATA ∧ rest ≠ CMD ∧ kindOfRest rest = .other rest) := by
  unfold kindOfRest
  by_cases h1 : rest = BIRTH
  · left; subst h1; exact ⟨rfl, by decide⟩
  by_cases h2 : rest = DEATH
  · right; left; subst h2; exact ⟨rfl, by decide⟩
  by_cases h3 : rest = DATA
  · right; right; left; subst h3; exact ⟨rfl, by decide⟩
  by_cases h4 : rest = CMD
  · right; right; right; left; subst h4; exact ⟨rfl, by decide⟩
  · right; right; right; right; simp [h1, h2, h3, h4]

theorem ptm_cons {P : Type} (valid : Bytes → Bool) (dec : Bytes → Option P)
    (b c : UInt8) (rest payload : Bytes) :
    processTopicMessage valid dec (b :: c :: rest) payload =
      match (if b = 0x4e then some Producer.node else if b = 0x44 then some .device else none) with
      | none => .err .topic
      | some pr =>
        match dec payload with
        | none => .err .decode
        | some p =>
          match kindOfRest (c :: rest) with
          | .other s => if valid s then .ok pr (.other s) p else .err .utf8
          | k => .ok pr k p := by
  unfold processTopicMessage
  rw [if_neg (by simp only [List.length_cons]; omega)]
  rfl

/-- the slice index of `process_topic_message` is guarded by the length check -/
theorem processTopicMessage_ne_panic {P : Type} (valid : Bytes → Bool) (dec : Bytes → Option P)
    (mp payload : Bytes) : processTopicMessage valid dec mp payload ≠ .panic := by
  cases mp with
  | nil => simp [processTopicMessage]
  | cons b rest =>
    cases rest with
    | nil => simp [processTopicMessage]
    | cons c rest =>
      rw [ptm_cons]
      repeat' split
      all_goals nofun

/-- the first byte of the verb segment -/
def Producer.byte : Producer → UInt8
  | .node => 0x4e | .device => 0x44

def producerOf (b : UInt8) : Option Producer :=
  if b = 0x4e then some .node else if b = 0x44 then some .device else none

/-- `process_topic_message` on a segment of at least two bytes, as one equation -/
theorem ptm_spec {P : Type} (valid : Bytes → Bool) (dec : Bytes → Option P)
    (b c : UInt8) (rest payload : Bytes) :
    processTopicMessage valid dec (b :: c :: rest) payload =
      match producerOf b, dec payload with
      | none, _ => .err .topic
      | some _, none => .err .decode
      | some pr, some p =>
        if c :: rest = BIRTH ∨ c :: rest = DEATH ∨ c :: rest = DATA ∨ c :: rest = CMD ∨
            valid (c :: rest) = true then .ok pr (kindOfRest (c :: rest)) p
        else .err .utf8 := by
  rw [ptm_cons]
  unfold producerOf
  generalize (if b = 0x4e then some Producer.node else if b = 0x44 then some .device else none) = opr
  cases opr <;> cases dec payload <;> try rfl
  dsimp only
  rcases kindOfRest_cases (c :: rest) with ⟨h, hk⟩ | ⟨h, hk⟩ | ⟨h, hk⟩ | ⟨h, hk⟩ | ⟨h1, h2, h3, h4, hk⟩
  all_goals rw [hk]
  · rw [if_pos (.inl h)]
  · rw [if_pos (.inr (.inl h))]
  · rw [if_pos (.inr (.inr (.inl h)))]
  · rw [if_pos (.inr (.inr (.inr (.inl h))))]
  · simp only [h1, h2, h3, h4, false_or]

theorem producerOf_eq_some (b : UInt8) (pr : Producer) : producerOf b = some pr ↔ b = pr.byte := by
  unfold producerOf
  cases pr <;> by_cases h1 : b = 0x4e <;> by_cases h2 : b = 0x44 <;> simp_all [Producer.byte]

theorem ptm_ok_iff {P : Type} (valid : Bytes → Bool) (dec : Bytes → Option P)
    (mp payload : Bytes) (pr : Producer) (k : Kind) (p : P) :
    processTopicMessage valid dec mp payload = .ok pr k p ↔
      ∃ rest, mp = pr.byte :: rest ∧ VerbRestOk valid rest ∧ k = kindOfRest rest ∧
        dec payload = some p := by
  cases mp with
  | nil => simp [processTopicMessage]
  | cons b rest =>
    cases rest with
    | nil => simp [processTopicMessage, VerbRestOk]
    | cons c rest' =>
      rw [ptm_spec]
      cases hb : producerOf b <;> cases hd : dec payload <;>
        simp [VerbRestOk, ← producerOf_eq_some, hb]
      constructor
      · intro h; split at h <;> cases h
        exact ⟨_, ⟨rfl, rfl⟩, ⟨List.cons_ne_nil _ _, ‹_›⟩, rfl, rfl⟩
      · rintro ⟨_, ⟨rfl, rfl⟩, ⟨_, h⟩, rfl, rfl⟩; rw [if_pos h]

theorem noSlash_cons_iff (b : UInt8) (rest : Bytes) (hb : b ≠ SLASH) :
    NoSlash (b :: rest) ↔ NoSlash rest := by
  unfold NoSlash
  constructor
  · intro h m; exact h (List.mem_cons_of_mem _ m)
  · intro h m
    rcases List.mem_cons.mp m with e | e
    · exact hb e.symm
    · exact h e

theorem noSlash_STATE : NoSlash STATE := by unfold NoSlash; decide
theorem noSlash_SPBV10 : NoSlash SPBV10 := by unfold NoSlash; decide

theorem split4_iff (t ns g mp n : Bytes) :
    splitSlash t = [ns, g, mp, n] ↔
      t = ns ++ SLASH :: (g ++ SLASH :: (mp ++ SLASH :: n)) ∧
        NoSlash ns ∧ NoSlash g ∧ NoSlash mp ∧ NoSlash n := by
  rw [splitSlash_eq_iff t _ (by simp)]
  simp [joinSlash]

theorem split5_iff (t ns g mp n d : Bytes) :
    splitSlash t = [ns, g, mp, n, d] ↔
      t = ns ++ SLASH :: (g ++ SLASH :: (mp ++ SLASH :: (n ++ SLASH :: d))) ∧
        NoSlash ns ∧ NoSlash g ∧ NoSlash mp ∧ NoSlash n ∧ NoSlash d := by
  rw [splitSlash_eq_iff t _ (by simp)]
  simp [joinSlash]

theorem split_state_iff (valid : Bytes → Bool) (t h : Bytes) :
    (∃ ns, splitSlash t = [ns, STATE, h] ∧ valid h = true) ↔ IsStateTopic valid t h := by
  unfold IsStateTopic
  constructor
  · rintro ⟨ns, hs, hv⟩
    have hj := (splitSlash_eq_iff t _ (by simp)).mp hs
    exact ⟨ns, hj.2 ns (by simp), hj.2 h (by simp), hv, by simpa [joinSlash] using hj.1⟩
  · rintro ⟨ns, hns, hh, hv, ht⟩
    refine ⟨ns, ?_, hv⟩
    rw [ht, splitSlash_append _ _ hns, splitSlash_append _ _ noSlash_STATE, splitSlash_noSlash _ hh]

theorem isNodeTopic_iff (valid : Bytes → Bool) (topic g rest n : Bytes) :
    IsNodeTopic valid topic g rest n ↔
      (∃ ns, splitSlash topic = [ns, g, 0x4e :: rest, n]) ∧
        g ≠ STATE ∧ valid g = true ∧ valid n = true ∧ VerbRestOk valid rest := by
  simp only [IsNodeTopic, split4_iff, noSlash_cons_iff _ _ (by decide : (0x4e : UInt8) ≠ SLASH)]
  exact ⟨fun ⟨ns, a, b, c, d, e, r⟩ => ⟨⟨ns, a, b, c, d, e⟩, r⟩,
    fun ⟨⟨ns, a, b, c, d, e⟩, r⟩ => ⟨ns, a, b, c, d, e, r⟩⟩

theorem isDeviceTopic_iff (valid : Bytes → Bool) (topic g rest n d : Bytes) :
    IsDeviceTopic valid topic g rest n d ↔
      (∃ ns, splitSlash topic = [ns, g, 0x44 :: rest, n, d]) ∧
        g ≠ STATE ∧ valid g = true ∧ valid n = true ∧ valid d = true ∧ VerbRestOk valid rest := by
  simp only [IsDeviceTopic, split5_iff, noSlash_cons_iff _ _ (by decide : (0x44 : UInt8) ≠ SLASH)]
  exact ⟨fun ⟨ns, a, b, c, d, e, f, r⟩ => ⟨⟨ns, a, b, c, d, e, f⟩, r⟩,
    fun ⟨⟨ns, a, b, c, d, e, f⟩, r⟩ => ⟨ns, a, b, c, d, e, f, r⟩⟩

/-- what `parse topic payload` says when it returns `e` -/
def ParseSpec {P : Type} (valid : Bytes → Bool) (dec : Bytes → Option P) (topic payload : Bytes) :
    Event P → Prop
  | .node g n k p => ∃ rest, IsNodeTopic valid topic g rest n ∧ k = kindOfRest rest ∧ dec payload = some p
  | .device g n d k p =>
    ∃ rest, IsDeviceTopic valid topic g rest n d ∧ k = kindOfRest rest ∧ dec payload = some p
  | .state h o ts => IsStateTopic valid topic h ∧ parseCert valid payload = some (o, ts)
  | .invalid _ t p => t = topic ∧ p = payload
  | .panic => False

theorem parse_sound {P : Type} (valid : Bytes → Bool) (dec : Bytes → Option P)
    (topic payload : Bytes) : ParseSpec valid dec topic payload (parse valid dec topic payload) := by
  unfold parse
  generalize hs : splitSlash topic = segs
  unfold parseSegs
  repeat' split
  all_goals first
    | exact ⟨rfl, rfl⟩
    | (rename_i hp; exact absurd hp (processTopicMessage_ne_panic valid dec _ _))
    | skip
  -- left: the three decoded events; turn the guards passed into the facts claimed
  all_goals
    simp only [Bool.not_eq_eq_eq_not, Bool.not_true, Bool.not_eq_false, List.isEmpty_iff] at *
    subst_vars
  · exact ⟨(split_state_iff valid topic _).mp ⟨_, hs, ‹_›⟩, ‹_›⟩
  · obtain ⟨rest, rfl, hr, hk, hd⟩ := (ptm_ok_iff _ _ _ _ _ _ _).mp ‹_›
    exact ⟨rest, (isNodeTopic_iff ..).mpr ⟨⟨_, hs⟩, ‹_›, ‹_›, ‹_›, hr⟩, hk, hd⟩
  · obtain ⟨rest, rfl, hr, hk, hd⟩ := (ptm_ok_iff _ _ _ _ _ _ _).mp ‹_›
    exact ⟨rest, (isDeviceTopic_iff ..).mpr ⟨⟨_, hs⟩, ‹_›, ‹_›, ‹_›, ‹_›, hr⟩, hk, hd⟩

/-- and every decoded event that meets the specification is the one returned -/
theorem parse_complete {P : Type} (valid : Bytes → Bool) (dec : Bytes → Option P)
    (topic payload : Bytes) (e : Event P) (he : ∀ r t p, e ≠ .invalid r t p)
    (h : ParseSpec valid dec topic payload e) : parse valid dec topic payload = e := by
  unfold parse
  cases e with
  | node g n k p =>
    obtain ⟨rest, ht, hk, hd⟩ := h
    obtain ⟨⟨ns, hs⟩, hg, hvg, hvn, hr⟩ := (isNodeTopic_iff ..).mp ht
    have hp : processTopicMessage valid dec (0x4e :: rest) payload = .ok .node k p :=
      (ptm_ok_iff ..).mpr ⟨rest, rfl, hr, hk, hd⟩
    simp [hs, parseSegs, hg, hvg, hvn, hp]
  | device g n d k p =>
    obtain ⟨rest, ht, hk, hd⟩ := h
    obtain ⟨⟨ns, hs⟩, hg, hvg, hvn, hvd, hr⟩ := (isDeviceTopic_iff ..).mp ht
    have hp : processTopicMessage valid dec (0x44 :: rest) payload = .ok .device k p :=
      (ptm_ok_iff ..).mpr ⟨rest, rfl, hr, hk, hd⟩
    simp [hs, parseSegs, hg, hvg, hvn, hvd, hp]
  | state h' o ts =>
    obtain ⟨ns, hs, hv⟩ := (split_state_iff valid topic h').mpr h.1
    simp [hs, parseSegs, hv, h.2]
  | invalid r t p => exact absurd rfl (he r t p)
  | panic => exact h.elim

theorem parse_eq_iff {P : Type} (valid : Bytes → Bool) (dec : Bytes → Option P)
    (topic payload : Bytes) (e : Event P) (he : ∀ r t p, e ≠ .invalid r t p) :
    parse valid dec topic payload = e ↔ ParseSpec valid dec topic payload e :=
  ⟨fun h => h ▸ parse_sound valid dec topic payload, parse_complete valid dec topic payload e he⟩

theorem state_excludes_node (valid : Bytes → Bool) (topic h g rest n : Bytes)
    (hs : IsStateTopic valid topic h) (hn : IsNodeTopic valid topic g rest n) : False := by
  obtain ⟨_, hsp, _⟩ := (split_state_iff valid topic h).mpr hs
  obtain ⟨⟨_, hn⟩, _⟩ := (isNodeTopic_iff ..).mp hn
  -- three segments against four
  rw [hsp] at hn; cases hn

theorem state_excludes_device (valid : Bytes → Bool) (topic h g rest n d : Bytes)
    (hs : IsStateTopic valid topic h) (hn : IsDeviceTopic valid topic g rest n d) : False := by
  obtain ⟨_, hsp, _⟩ := (split_state_iff valid topic h).mpr hs
  obtain ⟨⟨_, hn⟩, _⟩ := (isDeviceTopic_iff ..).mp hn
  rw [hsp] at hn; cases hn

/-- some decoded event meets the specification iff the topic is shaped and the payload decodes -/
theorem decodable_iff {P : Type} (valid : Bytes → Bool) (dec : Bytes → Option P)
    (topic payload : Bytes) :
    (∃ e, (∀ r t p, e ≠ .invalid r t p) ∧ ParseSpec valid dec topic payload e) ↔
      HasShape valid topic ∧ PayloadDecodes valid dec topic payload := by
  constructor
  · rintro ⟨e, he, hs⟩
    cases e with
    | node g n k p =>
      obtain ⟨rest, ht, _, hd⟩ := hs
      exact ⟨.inl ⟨g, rest, n, ht⟩, fun ⟨h, hst⟩ => (state_excludes_node valid topic h g rest n hst ht).elim,
        fun _ => by simp [hd]⟩
    | device g n d k p =>
      obtain ⟨rest, ht, _, hd⟩ := hs
      exact ⟨.inr (.inl ⟨g, rest, n, d, ht⟩),
        fun ⟨h, hst⟩ => (state_excludes_device valid topic h g rest n d hst ht).elim, fun _ => by simp [hd]⟩
    | state h o ts => exact ⟨.inr (.inr ⟨h, hs.1⟩), fun _ => by simp [hs.2], fun hns => (hns ⟨h, hs.1⟩).elim⟩
    | invalid r t p => exact absurd rfl (he r t p)
    | panic => exact hs.elim
  · rintro ⟨hshape, hst, hnst⟩
    rcases hshape with ⟨g, rest, n, hn⟩ | ⟨g, rest, n, d, hd⟩ | ⟨h, hs⟩
    · obtain ⟨p, hp⟩ := Option.isSome_iff_exists.mp
        (hnst fun ⟨h, hs⟩ => state_excludes_node valid topic h g rest n hs hn)
      exact ⟨.node g n _ p, nofun, rest, hn, rfl, hp⟩
    · obtain ⟨p, hp⟩ := Option.isSome_iff_exists.mp
        (hnst fun ⟨h, hs⟩ => state_excludes_device valid topic h g rest n d hs hd)
      exact ⟨.device g n d _ p, nofun, rest, hd, rfl, hp⟩
    · obtain ⟨⟨o, ts⟩, hp⟩ := Option.isSome_iff_exists.mp (hst ⟨h, hs⟩)
      exact ⟨.state h o ts, nofun, hs, hp⟩

theorem parse_invalid_iff {P : Type} (valid : Bytes → Bool) (dec : Bytes → Option P)
    (topic payload : Bytes) :
    (∃ r, parse valid dec topic payload = .invalid r topic payload) ↔
      ¬ (HasShape valid topic ∧ PayloadDecodes valid dec topic payload) := by
  rw [← decodable_iff]
  constructor
  · rintro ⟨r, hr⟩ ⟨e, he, hs⟩
    exact he _ _ _ ((parse_complete valid dec topic payload e he hs).symm.trans hr)
  · intro hno
    have hs := parse_sound valid dec topic payload
    cases hev : parse valid dec topic payload with
    | invalid r t p => rw [hev] at hs; obtain ⟨rfl, rfl⟩ := hs; exact ⟨r, rfl⟩
    | _ => exact (hno ⟨_, by rw [hev]; nofun, hs⟩).elim

/-- what follows the `N` / `D` in the verb segment the builders write -/
def verbRest : Verb → Bytes
  | .birth => BIRTH | .death => DEATH | .data => DATA | .cmd => CMD

theorem nodeMessageStr_eq (v : Verb) : nodeMessageStr v = 0x4e :: verbRest v := by cases v <;> rfl
theorem deviceMessageStr_eq (v : Verb) : deviceMessageStr v = 0x44 :: verbRest v := by cases v <;> rfl

theorem verbRest_spec (valid : Bytes → Bool) (v : Verb) :
    NoSlash (verbRest v) ∧ VerbRestOk valid (verbRest v) ∧ kindOfRest (verbRest v) = kindOfVerb v := by
  cases v <;> refine ⟨by unfold NoSlash; decide, ⟨by decide, ?_⟩, by decide⟩ <;> simp [verbRest]

theorem parse_nodeTopic {P : Type} (valid : Bytes → Bool) (dec : Bytes → Option P)
    (g n payload : Bytes) (v : Verb) (p : P) (hg : NameOk g) (hn : NameOk n)
    (hvg : valid g = true) (hvn : valid n = true) (hne : g ≠ STATE) (hd : dec payload = some p) :
    parse valid dec (nodeTopic g v n) payload = .node g n (kindOfVerb v) p := by
  obtain ⟨hns, hok, hk⟩ := verbRest_spec valid v
  exact parse_complete _ _ _ _ _ nofun ⟨verbRest v, ⟨SPBV10, by rw [nodeTopic, nodeTopicRaw, nodeMessageStr_eq],
    noSlash_SPBV10, hg.noSlash, hns, hn.noSlash, hne, hvg, hvn, hok⟩, hk.symm, hd⟩

theorem parse_deviceTopic {P : Type} (valid : Bytes → Bool) (dec : Bytes → Option P)
    (g n d payload : Bytes) (v : Verb) (p : P) (hg : NameOk g) (hn : NameOk n) (hdn : NameOk d)
    (hvg : valid g = true) (hvn : valid n = true) (hvd : valid d = true) (hne : g ≠ STATE)
    (hd : dec payload = some p) :
    parse valid dec (deviceTopic g v n d) payload = .device g n d (kindOfVerb v) p := by
  obtain ⟨hns, hok, hk⟩ := verbRest_spec valid v
  exact parse_complete _ _ _ _ _ nofun ⟨verbRest v, ⟨SPBV10, by rw [deviceTopic, deviceMessageStr_eq],
    noSlash_SPBV10, hg.noSlash, hns, hn.noSlash, hdn.noSlash, hne, hvg, hvn, hvd, hok⟩, hk.symm, hd⟩

theorem parse_stateHostTopic {P : Type} (valid : Bytes → Bool) (dec : Bytes → Option P)
    (h payload : Bytes) (o : Bool) (ts : Nat) (hh : NameOk h) (hvh : valid h = true)
    (hp : parseCert valid payload = some (o, ts)) :
    parse valid dec (stateHostTopic h) payload = .state h o ts :=
  parse_complete _ _ _ _ _ nofun ⟨⟨SPBV10, noSlash_SPBV10, hh.noSlash, hvh, rfl⟩, hp⟩

/-- the classes of `…/g/mp/n` and of `…/g/mp/n/d`, read off what `process_topic_message` says
about the verb segment `mp` -/
def verbSegClass {P : Type} : PTM P → EvClass × EvClass
  | .panic => (.panic, .panic)
  | .err r => (.invalid r, .invalid r)
  | .ok .node k _ => (.node k, .invalid .topic)
  | .ok .device k _ => (.invalid .topic, .device k)

theorem parseClass_verbSeg {P : Type} (valid : Bytes → Bool) (dec : Bytes → Option P)
    (g mp n d payload : Bytes) (hg : NoSlash g) (hmp : NoSlash mp) (hn : NoSlash n) (hd : NoSlash d)
    (hne : g ≠ STATE) (hvg : valid g = true) (hvn : valid n = true) (hvd : valid d = true) :
    (parseClass valid dec (nodeTopicRaw g mp n) payload,
     parseClass valid dec (nodeTopicRaw g mp (n ++ SLASH :: d)) payload) =
      verbSegClass (processTopicMessage valid dec mp payload) := by
  unfold parseClass parse nodeTopicRaw
  rw [splitSlash_append _ _ noSlash_SPBV10, splitSlash_append _ _ hg, splitSlash_append _ _ hmp,
    splitSlash_noSlash _ hn, splitSlash_append _ _ noSlash_SPBV10, splitSlash_append _ _ hg,
    splitSlash_append _ _ hmp, splitSlash_append _ _ hn, splitSlash_noSlash _ hd]
  simp only [parseSegs, hne, hvg, hvn, hvd, if_false, Bool.not_true, Bool.false_eq_true,
    List.isEmpty_nil, List.isEmpty_cons]
  cases processTopicMessage valid dec mp payload with
  | panic => rfl
  | err r => simp [verbSegClass]
  | ok pr k p => cases pr <;> simp [verbSegClass]

/-- validity predicate for table rows whose non-ASCII strings are single bytes: ASCII only
(on those rows it coincides with UTF-8 validity) -/
def asciiValid (s : Bytes) : Bool := s.all (fun c => decide (c.toNat < 128))

end Srad.Topic