-- Root of the SradModel library: models (import-free), proofs, property theorems.
import SradModel.Model.Reseq
import SradModel.Model.ReseqSpec
import SradModel.Model.Codec
import SradModel.Model.Host
import SradModel.Model.HostSpec
import SradModel.Model.Templ
import SradModel.Model.TemplSpec
import SradModel.Props.C09
import SradModel.Props.C10
import SradModel.Props.C19
import SradModel.Props.C18
import SradModel.Model.Admit
import SradModel.Model.AdmitSpec
import SradModel.Props.C14
import SradModel.Props.C07
import SradModel.Model.Derive
import SradModel.Model.DeriveSpec
import SradModel.Props.C17
import SradModel.Props.C05
import SradModel.Props.C06
import SradModel.Props.C14Host
import SradModel.Model.HostLoop
import SradModel.Model.HostLoopSpec
import SradModel.Props.C16
import SradModel.Props.C16Lts
import SradModel.Model.StateJson
import SradModel.Model.Topic
import SradModel.Model.TopicSpec
import SradModel.Props.C13
import SradModel.Model.Metric
import SradModel.Model.MetricSpec
import SradModel.Props.C12
import SradModel.Model.MetricWire
import SradModel.Props.C12Wire
import SradModel.Model.Eon
import SradModel.Model.BirthSpec
import SradModel.Props.C11
import SradModel.Model.Cmd
import SradModel.Model.CmdSpec
import SradModel.Props.C15
import SradModel.Model.Wire
import SradModel.Props.M13
import SradModel.Model.EonSpec
import SradModel.Proofs.EonRules
import SradModel.Props.C01
import SradModel.Props.C02
import SradModel.Props.C03
import SradModel.Props.C04
import SradModel.Props.C20
import SradModel.Props.C20Term
import SradModel.Props.C20Host
import SradModel.Model.Loop
import SradModel.Model.LoopSpec
import SradModel.Props.C08
import SradModel.Props.C08Refine
import SradModel.Props.C06Q
import SradModel.Props.C08Reach
import SradModel.Props.C08Sched
import SradModel.Props.C08Sched2
import SradModel.Props.C15Lts
import SradModel.Model.HostCmd
import SradModel.Props.C15Host
import SradModel.Props.C15HostWire
import SradModel.Model.Rumqtt
import SradModel.Props.M14
import SradModel.Props.M17
import SradModel.Props.M16
