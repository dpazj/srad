/-
C20, liveness half — **shutdown terminates under every scheduler** (edge node). `Props/C20.lean` shows
that from a stopping state *some* schedule makes the run loop return; here *every* schedule does:
`termMeasure` (a sum of potentials, one per task, weights growing with the number of devices because
a node birth or death sends a message to every device task; it does not mention the clock) drops
with every task step, so no schedule without new stimuli runs more than `termMeasure s` task steps.

A *schedule* (`Act.isSched`) is any sequence of task steps, time advances and late answers of the
client to calls it had parked; the client may answer a hand-over of a device task or of a user call
as it likes, only a hand-over of the node task (SUB, NBIRTH) is not parked. What the environment
must provide is thus `NodeFree`: the **node task** is not parked inside `on_ncmd` and the SUB / NBIRTH
it waits for has been answered. Device tasks and user calls may stay parked for ever (example
`exDevPre`). `C20_node_parked_blocks_shutdown` shows that `NodeFree` cannot be dropped: the 1 s
timeout does *not* rescue a shutdown whose node task is parked (a FINDING about `EoN::run`).

Outside the model: that the tokio runtime actually runs enabled tasks and fires the timer
(fairness of the scheduler), and user code (`on_ncmd`) that never returns.
-/
import SradModel.Proofs.EonTerm

namespace Srad.Eon
open Srad.Eon.P20 Srad.Eon.Term

/-- **Every task step lowers the measure.** `s` is any reachable state (no side condition: the
bound also holds before the stop is signalled and after `run` has returned), `t` any task,
`dec` any client decision (a parked hand-over included), `(s', o)` any alternative the step
offers. -/
theorem C20_step_decreases (cd : Nat) (acts : List Act) (s : St) (tr : List Obs)
    (h : runActs (init cd) acts = some (s, tr))
    (t : Task) (dec : Dec) (s' : St) (o : List Obs) (hm : (s', o) ∈ step s t dec) :
    termMeasure s' < termMeasure s :=
  step_dec (uidOk_reach h) hm

/-- the passage of time does not change the measure, nor does a late answer of the client to a
call it had parked -/
theorem C20_time_keeps_measure (s : St) (ms id : Nat) (ok : Bool) :
    termMeasure (applyStim s (.advance ms)).1 = termMeasure s ∧
    termMeasure (applyStim s (.resolve id ok)).1 = termMeasure s :=
  ⟨rfl, (stim_internal rfl (StimStep.of_apply s (.resolve id ok))).1⟩

/-- **No livelock.** From any reachable state, a run made of task steps (any client decisions),
time advances and late answers to parked calls — no new external stimulus — contains at most
`termMeasure s` task steps. -/
theorem C20_schedule_bound (cd : Nat) (acts : List Act) (s : St) (tr : List Obs)
    (h : runActs (init cd) acts = some (s, tr))
    (sched : List Act) (hs : ∀ a ∈ sched, a.isInternal = true) (s' : St) (tr' : List Obs)
    (hr : runActs s sched = some (s', tr')) :
    taskCount sched + termMeasure s' ≤ termMeasure s :=
  runActs_bound sched s s' tr' (uidOk_reach h) hs hr

/-- **Progress.** In a reachable stopping state with a free node task whose run loop has not
returned: some task step is enabled (with a client that answers), or the loop is in
`poll_until_offline`, blocked in `poll()` with no event to return, the 1 s timer is armed and
has not expired — only the passage of time is awaited — and once the clock has reached the
deadline the timeout task is enabled. -/
theorem C20_progress (cd : Nat) (acts : List Act) (s : St) (tr : List Obs)
    (h : runActs (init cd) acts = some (s, tr)) (hstop : Stopping s) (hfree : NodeFree s)
    (hnd : s.loop ≠ .done) :
    (∃ (t : Task) (dec : Dec) (k : Nat), dec ≠ Dec.park ∧ (step s t dec)[k]? ≠ none) ∨
    (∃ dl, s.stopDeadline = some dl ∧ s.wall < dl ∧ s.loop = .stopPolling ∧ s.inbox = [] ∧
      (step (applyStim s (.advance (dl - s.wall))).1 .loopTimeout .acc)[0]? ≠ none) :=
  progress (Good_reach h hstop hfree) hnd

/-- **Shutdown terminates under every scheduler.** `s` is a reachable state in which the stop has
been signalled (`Stopping`) and the node task is not held up by its environment (`NodeFree`).
Take *any* schedule `sched` from `s` (`Act.isSched`): task steps — whichever task, whichever
alternative, whatever the client decides, except that it does not park a hand-over of the node
task —, time advances and late answers to parked calls, without further external stimuli. Then
1. it contains at most `termMeasure s` task steps (and what is left of the budget is
   `termMeasure s'`);
2. if it is maximal — in `s'` no task step is enabled and the timer has expired — then `run` has
   returned (`s'.loop = .done`; by `C20_stopped_is_offline` the node is then offline, unbirthed
   and not running);
3. if it is not, it can be continued to such a state: it never paints itself into a corner.
So a scheduler that keeps running enabled tasks and lets time pass reaches `done` after at most
`termMeasure s` task steps, whatever order it picks. -/
theorem C20_termination_all_schedules (cd : Nat) (acts : List Act) (s : St) (tr : List Obs)
    (h : runActs (init cd) acts = some (s, tr)) (hstop : Stopping s) (hfree : NodeFree s)
    (sched : List Act) (hs : ∀ a ∈ sched, a.isSched = true) (s' : St) (tr' : List Obs)
    (hr : runActs s sched = some (s', tr')) :
    taskCount sched + termMeasure s' ≤ termMeasure s ∧
    (Quiescent s' → s'.loop = .done) ∧
    (∃ more s'' tr'', (∀ a ∈ more, a.isSched = true) ∧ runActs s' more = some (s'', tr'') ∧ s''.loop = .done) := by
  have hg := Good_reach h hstop hfree
  have hg' := Good_runActs sched s s' tr' hg hs hr
  exact ⟨runActs_bound sched s s' tr' hg.uid (fun a ha => isInternal_of_isSched (hs a ha)) hr,
    quiescent_done hg', extend_to_done hg'⟩

/-- the contrapositive reading of the bound: a schedule with more than `termMeasure s` task
steps is not executable -/
theorem C20_no_longer_schedule (cd : Nat) (acts : List Act) (s : St) (tr : List Obs)
    (h : runActs (init cd) acts = some (s, tr))
    (sched : List Act) (hs : ∀ a ∈ sched, a.isInternal = true) (hlong : termMeasure s < taskCount sched) :
    runActs s sched = none := by
  cases hr : runActs s sched with
  | none => rfl
  | some r =>
    have := C20_schedule_bound cd acts s tr h sched hs r.1 r.2 hr
    omega

/-- the hypotheses of `C20_termination_partial` (stop signalled, `run` started, no call parked, no
node callback parked) give `Stopping` and `NodeFree`; the timer hypothesis is not needed -/
theorem C20_stopping_of_partial_hyps (cd : Nat) (acts : List Act) (s : St) (tr : List Obs)
    (h : runActs (init cd) acts = some (s, tr))
    (hstop : s.stop = true ∨ s.loop = .stopCheck ∨ s.loop = .stopPolling ∨ (∃ o, s.loop = .stopSendCs o) ∨
             (∃ o, s.loop = .stopAwaitWill o) ∨ (∃ o, s.loop = .forceSendCs o) ∨ (∃ o, s.loop = .forceAwaitWill o) ∨
             s.loop = .sendStopped)
    (hstarted : s.loop ≠ .start)
    (hnopark : ∀ c ∈ s.calls, c.res.isSome = true) (hcb : s.nodeCbPark = false) :
    Stopping s ∧ NodeFree s := by
  refine ⟨⟨hstarted, ?_⟩, NodeFree_of_resolved (Inv_reach h) hnopark hcb⟩
  rcases hstop with h | h | h | ⟨o, h⟩ | ⟨o, h⟩ | ⟨o, h⟩ | ⟨o, h⟩ | h
  · exact .inl h
  all_goals (right; rw [h]; rfl)

/-! ### non-vacuity: a reachable stopping state, its measure, and a full run to `done` -/

/-- connect, subscribe, NBIRTH accepted; then `cancel`: NDEATH handed over, stop queued -/
def exPre : List Act :=
  [.task .loop .acc 0, .stim (.ev .online), .task .loop .acc 0, .task .loop .acc 0,
   .task .node .acc 0, .task .node .acc 0, .task .node .acc 0, .task .node .acc 0,
   .stim (.cancel 0), .task (.user 0) .acc 0, .task (.user 0) .acc 0]

/-- the loop takes the stop, cancel disconnects, `poll_until_offline` polls, nothing arrives, the
timer fires, the node task answers the forced Offline, the loop sends Stopped and returns -/
def exFin : List Act :=
  [.task .loop .acc 0, .task (.user 0) .acc 0, .task .loop .acc 0, .stim (.advance 1000),
   .task .loopTimeout .acc 0, .task .node .acc 0, .task .loop .acc 0, .task .loop .acc 0]

/-- the state after `exPre`: online, birthed, stop queued, loop at the top of its main loop, node
task idle; its measure is 20 -/
example : (runActs (init 0) exPre).map (fun r => (r.1.loop, r.1.stop, termMeasure r.1)) = some (.sel, true, 20) ∧
    (runActs (init 0) exPre).map (fun r => (r.1.online, r.1.birthed, r.1.node, r.1.nodeCbPark))
      = some (true, true, .idle, false) := by decide

/-- `exFin` is a schedule, has 7 task steps (≤ 20) and ends with `run` returned, offline -/
example : exFin.all Act.isSched = true ∧ taskCount exFin = 7 ∧
    (runActs (init 0) (exPre ++ exFin)).map (fun r => (r.1.loop, r.1.online, r.1.running, termMeasure r.1))
      = some (.done, false, false, 6) := by decide

/-- the measure along `exFin` -/
example : (List.range 9).map (fun n => (runActs (init 0) (exPre ++ exFin.take n)).map (fun r => termMeasure r.1))
    = [some 20, some 18, some 17, some 16, some 16, some 14, some 8, some 7, some 6] := by decide

/-! ### device tasks and user calls may stay parked -/

/-- one device; its DBIRTH is parked by the client and never answered; a blocking NDATA publish
is parked too; then `cancel` -/
def exDevPre : List Act :=
  [.task .loop .acc 0, .stim (.reg 7), .stim (.enable 7), .stim (.ev .online), .task .loop .acc 0, .task .loop .acc 0,
   .task .node .acc 0, .task .node .acc 0, .task .node .acc 0, .task .node .acc 0,
   .task (.dev 0) .acc 0, .task (.dev 0) .park 0,
   .stim (.pub 1 .node false 1), .task (.user 1) .park 0,
   .stim (.cancel 0), .task (.user 0) .acc 0, .task (.user 0) .acc 0]

/-- the same closing schedule `exFin` makes `run` return, the device task and the publish still
waiting for the client (calls 2 and 3 unanswered) -/
example : (runActs (init 0) exDevPre).map (fun r => (r.1.loop, r.1.stop, termMeasure r.1)) = some (.sel, true, 29) ∧
    (runActs (init 0) (exDevPre ++ exFin)).map (fun r => (r.1.loop, r.1.devs.map (·.pc), r.1.ucalls.map (·.pc),
        r.1.calls.map (·.res)))
      = some (.done, [.waitBirth 2 1], [.wait 3, .done], [some true, some true, none, none, some true, some true]) := by
  decide

/-! ### what `NodeFree` is for: a parked node task blocks the shutdown, timeout or not -/

/-- connect, subscribe; the client **parks the NBIRTH** (a blocking publish that does not return);
`cancel`; the loop takes the stop, polls, the 1 s timer fires, the forced `on_offline` hands the
Offline message to the node task … -/
def exStuck : List Act :=
  [.task .loop .acc 0, .stim (.ev .online), .task .loop .acc 0, .task .loop .acc 0,
   .task .node .acc 0, .task .node .acc 0, .task .node .park 0,
   .stim (.cancel 0), .task (.user 0) .acc 0, .task (.user 0) .acc 0, .task (.user 0) .acc 0,
   .task .loop .acc 0, .task .loop .acc 0, .stim (.advance 1000), .task .loopTimeout .acc 0]

def stuckSt : St := ((runActs (init 0) exStuck).getD (init 0, [])).1

theorem exStuck_runs : runActs (init 0) exStuck = some (stuckSt, ((runActs (init 0) exStuck).getD (init 0, [])).2) := by
  decide

/-- **Negative result (FINDING).** … and there the shutdown hangs: the node task is parked in the
NBIRTH publish, never takes the `Offline(sender)` message, so the will oneshot is never answered
and `EoN::run` stays in the forced `on_offline().await` (`loop = forceAwaitWill`). The state is
reachable, stopping, the timer has expired, **no task step is enabled** and `run` has not
returned. The 1 s timeout only covers `poll_until_offline`; the `on_offline` that follows it
waits for the node task without a timeout. (Same if the node task is parked in the SUB call or
in an `on_ncmd` callback that does not return.) To replay against the real code: a client whose
`publish_node_message` blocks, `Event::Online`, then `NodeHandle::cancel()`: `EoN::run` does not
return until the publish is released. -/
theorem C20_node_parked_blocks_shutdown :
    (∃ tr, runActs (init 0) exStuck = some (stuckSt, tr)) ∧ Stopping stuckSt ∧ ¬ NodeFree stuckSt ∧
    Quiescent stuckSt ∧ stuckSt.loop = .forceAwaitWill 0 ∧ stuckSt.node = .waitNb 1 .birth none := by
  have hloop : stuckSt.loop = .forceAwaitWill 0 := by decide
  have hnode : stuckSt.node = .waitNb 1 .birth none := by decide
  have hdevs : stuckSt.devs = [] := by decide
  have huc : stuckSt.ucalls = [{ j := 0, kind := .cancel, pc := .done }] := by decide
  have hL : stepLoop stuckSt = [] := by decide
  have hT : stepLoopTimeout stuckSt = [] := by decide
  have hN : ∀ dec, stepNode stuckSt dec = [] := by intro dec; cases dec <;> decide
  refine ⟨⟨_, exStuck_runs⟩, ⟨by rw [hloop]; decide, .inr (by rw [hloop]; rfl)⟩, ?_, ⟨?_, ?_⟩, hloop, hnode⟩
  · intro hf
    have := hf.2 1 (by rw [hnode]; rfl)
    revert this
    decide
  · intro t dec k _
    cases t with
    | loop => simp [step, hL]
    | loopTimeout => simp [step, hT]
    | node => simp [step, hN]
    | dev d => simp [step, stepDev, findUid, hdevs]
    | user j =>
      by_cases hj : j = 0
      · subst hj; simp [step, stepUser, huc]
      · have : (0 == j) = false := by simpa using fun h => hj h.symm
        simp [step, stepUser, huc, this]
  · intro dl hdl
    have : stuckSt.stopDeadline = none := by decide
    rw [this] at hdl
    exact absurd hdl (by simp)

end Srad.Eon
