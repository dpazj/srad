/-
What the functions of `Model/Host` compute, with the destructuring `let`s resolved to projections; which
fields a handler can change (`Frame`) and which effects it can emit (`Eff.plain`, `Eff.staleish`); and
the shape of every step: a `body`, then at most one rebirth request for the reason `raised` (`step_eq`).
-/
import SradModel.Model.HostSpec
import SradModel.Proofs.Reseq

namespace Srad.Host

/-! ### device lists -/

theorem findDev_eq_none (d : Nat) (L : List (Nat × Life)) :
    findDev d L = none ↔ d ∉ L.map Prod.fst := by
  induction L with
  | nil => simp [findDev]
  | cons a t ih =>
    obtain ⟨d', l'⟩ := a
    by_cases h : d' = d
    · simp [findDev, h]
    · simp [findDev, h, ih, Ne.symm h]

theorem findDev_some_mem (d : Nat) (l : Life) (L : List (Nat × Life)) (h : findDev d L = some l) :
    (d, l) ∈ L := by
  induction L with
  | nil => cases h
  | cons a t ih =>
    obtain ⟨d', l'⟩ := a
    simp only [findDev] at h
    split at h
    · simp_all
    · exact List.mem_cons_of_mem _ (ih h)

theorem mem_findDev (D : List (Nat × Life)) (dv : Nat) (l : Life) (hm : (dv, l) ∈ D)
    (hn : (D.map Prod.fst).Nodup) : findDev dv D = some l := by
  induction D with
  | nil => cases hm
  | cons a t ih =>
    obtain ⟨d', l'⟩ := a
    simp only [List.map_cons, List.nodup_cons] at hn
    rcases List.mem_cons.mp hm with h | h
    · cases h; simp [findDev]
    · have hne : d' ≠ dv := by
        intro he; subst he
        exact hn.1 (List.mem_map.mpr ⟨(d', l), h, rfl⟩)
      simp only [findDev, hne, if_false]
      exact ih h hn.2

theorem findDev_some_mem_fst (d : Nat) (l : Life) (L : List (Nat × Life))
    (h : findDev d L = some l) : d ∈ L.map Prod.fst :=
  List.mem_map.mpr ⟨(d, l), findDev_some_mem d l L h, rfl⟩

theorem mem_setDev (d : Nat) (l : Life) (p : Nat × Life) : ∀ (L : List (Nat × Life)),
    p ∈ setDev d l L → p ∈ L ∨ p = (d, l) := by
  intro L
  induction L with
  | nil => intro h; cases h
  | cons a t ih =>
    obtain ⟨d', l'⟩ := a
    intro h
    simp only [setDev] at h
    split at h
    · rename_i he
      rcases List.mem_cons.mp h with h | h
      · right; rw [h, he]
      · left; exact List.mem_cons_of_mem _ h
    · rcases List.mem_cons.mp h with h | h
      · left; rw [h]; exact List.mem_cons_self ..
      · rcases ih h with h | h
        · left; exact List.mem_cons_of_mem _ h
        · right; exact h

theorem map_fst_setDev (d : Nat) (l : Life) (L : List (Nat × Life)) :
    (setDev d l L).map Prod.fst = L.map Prod.fst := by
  induction L with
  | nil => rfl
  | cons a t ih =>
    simp only [setDev]
    split <;> simp [ih]

theorem findDev_setDev_self (d : Nat) (l : Life) (L : List (Nat × Life)) :
    findDev d (setDev d l L) = (findDev d L).map fun _ => l := by
  induction L with
  | nil => rfl
  | cons a t ih =>
    simp only [setDev, findDev]
    split <;> simp_all [findDev]

theorem findDev_setDev_ne (d d' : Nat) (l : Life) (L : List (Nat × Life)) (h : d' ≠ d) :
    findDev d' (setDev d l L) = findDev d' L := by
  induction L with
  | nil => rfl
  | cons a t ih =>
    simp only [setDev, findDev]
    split
    · rename_i h2; subst h2
      simp [findDev, Ne.symm h]
    · simp only [findDev, ih]

theorem findDev_append_single (d d' : Nat) (l : Life) (L : List (Nat × Life)) :
    findDev d' (L ++ [(d, l)]) =
      match findDev d' L with
      | some x => some x
      | none => if d = d' then some l else none := by
  induction L with
  | nil => simp [findDev]
  | cons a t ih =>
    simp only [List.cons_append, findDev]
    split
    · rfl
    · exact ih

theorem findDev_map_stale (d : Nat) (L : List (Nat × Life)) :
    findDev d (L.map fun x => (x.1, Life.stale)) = (findDev d L).map fun _ => Life.stale := by
  induction L with
  | nil => rfl
  | cons a t ih =>
    simp only [List.map_cons, findDev]
    split
    · rfl
    · exact ih

theorem map_fst_map_stale (L : List (Nat × Life)) :
    (L.map fun d => (d.1, Life.stale)).map Prod.fst = L.map Prod.fst := by
  simp [List.map_map, Function.comp_def]

theorem mem_map_stale (L : List (Nat × Life)) : ∀ d ∈ L.map fun d => (d.1, Life.stale), d.2 = .stale := by
  intro d hd
  obtain ⟨x, _, rfl⟩ := List.mem_map.mp hd
  rfl

/-! ### effect classes, frame -/

/-- effects the handling of a resequenceable message may emit before any rebirth request -/
def Eff.plain : Eff → Bool
  | .nodeData _ | .devCreated _ | .devBirth _ _ _ | .devData _ _ | .devStale _
  | .timerStart | .timerCancel => true
  | _ => false

/-- effects of marking everything stale and asking for a rebirth -/
def Eff.staleish : Eff → Bool
  | .ncmd | .nodeStale | .timerCancel | .devStale _ => true
  | _ => false

/-- `s'` differs from `s` at most in the resequencer, the device list and the timer -/
structure Frame (s s' : St) : Prop where
  life : s'.life = s.life
  birthTs : s'.birthTs = s.birthTs
  staleTs : s'.staleTs = s.staleTs
  bdseq : s'.bdseq = s.bdseq
  lastRebirth : s'.lastRebirth = s.lastRebirth

theorem Frame.refl (s : St) : Frame s s := ⟨rfl, rfl, rfl, rfl, rfl⟩

theorem Frame.trans {a b d : St} (h1 : Frame a b) (h2 : Frame b d) : Frame a d :=
  ⟨h2.life.trans h1.life, h2.birthTs.trans h1.birthTs, h2.staleTs.trans h1.staleTs,
    h2.bdseq.trans h1.bdseq, h2.lastRebirth.trans h1.lastRebirth⟩

theorem Frame.upd (s : St) (r : Reseq.St (Nat × RMsg)) (dv : List (Nat × Life)) (t : Timer) :
    Frame s { s with reseq := r, devices := dv, timer := t } := ⟨rfl, rfl, rfl, rfl, rfl⟩

theorem cancelTimer_fst (s : St) : (cancelTimer s).1 = { s with timer := .none } := by
  obtain ⟨life, bts, sts, bd, lr, rs, dv, tm⟩ := s
  cases tm <;> rfl

theorem cancelTimer_snd (s : St) : ∀ e ∈ (cancelTimer s).2, e = Eff.timerCancel := by
  unfold cancelTimer
  split <;> simp

theorem startTimer_fst_eq (c : Cfg) (s : St) (now : Nat) :
    (startTimer c s now).1 = { s with timer := (startTimer c s now).1.timer } := by
  unfold startTimer
  split <;> rfl

theorem startTimer_snd (c : Cfg) (s : St) (now : Nat) :
    ∀ e ∈ (startTimer c s now).2, e = Eff.timerStart := by
  unfold startTimer
  split <;> simp

theorem cancelTimer_devices (s : St) : (cancelTimer s).1.devices = s.devices := by
  rw [cancelTimer_fst]

theorem cancelTimer_frame (s : St) : Frame s (cancelTimer s).1 := by
  rw [cancelTimer_fst]; exact Frame.upd s _ _ _

/-! ### setStale -/

theorem setStale_eq (s : St) (t : Nat) : setStale s t =
    if s.life = .stale then (s, [])
    else if t < s.birthTs then (s, [])
    else
      ({ (cancelTimer { s with reseq := Reseq.init }).1 with
          life := .stale, staleTs := t,
          devices := (cancelTimer { s with reseq := Reseq.init }).1.devices.map fun d => (d.1, .stale) },
       (cancelTimer { s with reseq := Reseq.init }).2 ++ [.nodeStale] ++
         (cancelTimer { s with reseq := Reseq.init }).1.devices.map fun d => .devStale d.1) := rfl

theorem setStale_noop (s : St) (t : Nat) (h : s.life = .stale ∨ t < s.birthTs) :
    setStale s t = (s, []) := by
  rw [setStale_eq]
  rcases h with h | h <;> simp [h]

theorem setStale_go (s : St) (t : Nat) (h1 : s.life = .birthed) (h2 : s.birthTs ≤ t) :
    setStale s t =
      ({ s with reseq := Reseq.init, timer := .none, life := .stale, staleTs := t,
                devices := s.devices.map fun d => (d.1, .stale) },
       (cancelTimer { s with reseq := Reseq.init }).2 ++ [.nodeStale] ++
         s.devices.map fun d => .devStale d.1) := by
  rw [setStale_eq, if_neg (by simp [h1]), if_neg (by omega), cancelTimer_fst]

theorem setStale_cases (s : St) (t : Nat) :
    setStale s t = (s, []) ∨
    (s.life = .birthed ∧ s.birthTs ≤ t ∧ setStale s t =
      ({ s with reseq := Reseq.init, timer := .none, life := .stale, staleTs := t,
                devices := s.devices.map fun d => (d.1, .stale) },
       (cancelTimer { s with reseq := Reseq.init }).2 ++ [.nodeStale] ++
         s.devices.map fun d => .devStale d.1)) := by
  by_cases h1 : s.life = .stale
  · exact Or.inl (setStale_noop s t (Or.inl h1))
  · by_cases h2 : t < s.birthTs
    · exact Or.inl (setStale_noop s t (Or.inr h2))
    · have h1' : s.life = .birthed := by cases h : s.life <;> simp_all
      exact Or.inr ⟨h1', by omega, setStale_go s t h1' (by omega)⟩

theorem setStale_staleish (s : St) (t : Nat) :
    ∀ e ∈ (setStale s t).2, e.staleish = true ∧ e ≠ Eff.ncmd := by
  rcases setStale_cases s t with h | ⟨_, _, h⟩ <;> rw [h]
  · simp
  · intro e he
    simp only [List.mem_append, List.mem_map, List.mem_singleton] at he
    rcases he with (he | rfl) | ⟨x, _, rfl⟩
    · rw [cancelTimer_snd _ e he]; exact ⟨rfl, by simp⟩
    · exact ⟨rfl, by simp⟩
    · exact ⟨rfl, by simp⟩

theorem setStale_no_ncmd (s : St) (t : Nat) : Eff.ncmd ∉ (setStale s t).2 :=
  fun h => (setStale_staleish s t _ h).2 rfl

theorem setStale_fields (s : St) (t : Nat) :
    (setStale s t).1.birthTs = s.birthTs ∧ (setStale s t).1.bdseq = s.bdseq ∧
    (setStale s t).1.lastRebirth = s.lastRebirth := by
  rcases setStale_cases s t with h | ⟨_, _, h⟩ <;> rw [h] <;> exact ⟨rfl, rfl, rfl⟩

theorem setStale_birthed (s : St) (t : Nat) (h : (setStale s t).1.life = .birthed) :
    setStale s t = (s, []) := by
  rcases setStale_cases s t with h' | ⟨_, _, h'⟩
  · exact h'
  · rw [h'] at h; cases h

/-- `s.birthTs ≤ t`: the node's clock is not ahead of the host's (else `setStale` does nothing, K1) -/
theorem setStale_marks (s : St) (t : Nat) (hclock : s.birthTs ≤ t) :
    (setStale s t).1.life = .stale ∧
    ((s.life = .stale → ∀ d ∈ s.devices, d.2 = .stale) → ∀ d ∈ (setStale s t).1.devices, d.2 = .stale) ∧
    (s.life = .birthed → Eff.nodeStale ∈ (setStale s t).2 ∧
      ∀ d ∈ s.devices, Eff.devStale d.1 ∈ (setStale s t).2) := by
  cases hl : s.life with
  | stale =>
    rw [setStale_noop s t (Or.inl hl)]
    exact ⟨hl, fun hst => hst rfl, fun h => by cases h⟩
  | birthed =>
    rw [setStale_go s t hl hclock]
    refine ⟨rfl, fun _ => mem_map_stale _, fun _ => ⟨by simp, fun d hd => ?_⟩⟩
    exact List.mem_append_right _ (List.mem_map.mpr ⟨d, hd, rfl⟩)

theorem issueRebirth_eq (c : Cfg) (s : St) (r : Reason) (now wall : Nat) :
    issueRebirth c s r now wall =
    if !c.enabled r then (s, [])
    else if wall - s.lastRebirth < c.cooldown then (s, [])
    else ((setStale { s with lastRebirth := wall } now).1,
          (setStale { s with lastRebirth := wall } now).2 ++ [.ncmd]) := rfl

theorem issueRebirth_cases (c : Cfg) (s : St) (r : Reason) (now wall : Nat) :
    issueRebirth c s r now wall = (s, []) ∨
    (c.enabled r = true ∧ c.cooldown ≤ wall - s.lastRebirth ∧
     issueRebirth c s r now wall =
      ((setStale { s with lastRebirth := wall } now).1,
       (setStale { s with lastRebirth := wall } now).2 ++ [.ncmd])) := by
  rw [issueRebirth_eq]
  by_cases h1 : c.enabled r = true
  · by_cases h2 : wall - s.lastRebirth < c.cooldown
    · simp [h1, h2]
    · exact Or.inr ⟨h1, by omega, by simp [h1, h2]⟩
  · simp [h1]

theorem issueRebirth_staleish (c : Cfg) (s : St) (r : Reason) (now wall : Nat) :
    ∀ e ∈ (issueRebirth c s r now wall).2, e.staleish = true := by
  rcases issueRebirth_cases c s r now wall with h | ⟨_, _, h⟩ <;> rw [h]
  · simp
  · intro e he
    rcases List.mem_append.mp he with he | he
    · exact (setStale_staleish _ _ e he).1
    · rw [List.mem_singleton.mp he]; rfl

theorem issueRebirth_fields (c : Cfg) (s : St) (r : Reason) (now wall : Nat) :
    (issueRebirth c s r now wall).1.birthTs = s.birthTs ∧
    (issueRebirth c s r now wall).1.bdseq = s.bdseq := by
  rcases issueRebirth_cases c s r now wall with h | ⟨_, _, h⟩ <;> rw [h]
  · exact ⟨rfl, rfl⟩
  · exact ⟨(setStale_fields _ now).1, (setStale_fields _ now).2.1⟩

theorem issueRebirth_stale (c : Cfg) (s : St) (r : Reason) (now wall : Nat) (h : s.life = .stale) :
    (issueRebirth c s r now wall).1.life = .stale ∧
    (issueRebirth c s r now wall).1.devices = s.devices := by
  rcases issueRebirth_cases c s r now wall with h' | ⟨_, _, h'⟩
  · rw [h']; exact ⟨h, rfl⟩
  · rw [h', setStale_noop { s with lastRebirth := wall } now (Or.inl h)]; exact ⟨h, rfl⟩

theorem issueRebirth_birthed (c : Cfg) (s : St) (r : Reason) (now wall : Nat)
    (h : (issueRebirth c s r now wall).1.life = .birthed) :
    ∃ lr, (issueRebirth c s r now wall).1 = { s with lastRebirth := lr } := by
  rcases issueRebirth_cases c s r now wall with h' | ⟨_, _, h'⟩
  · exact ⟨s.lastRebirth, by rw [h']⟩
  · rw [h'] at h ⊢
    exact ⟨wall, by rw [setStale_birthed _ _ h]⟩

theorem issueRebirth_marks (c : Cfg) (s : St) (r : Reason) (now wall : Nat)
    (hclock : s.birthTs ≤ now) (h : Eff.ncmd ∈ (issueRebirth c s r now wall).2) :
    (issueRebirth c s r now wall).1.life = .stale ∧
    ((s.life = .stale → ∀ d ∈ s.devices, d.2 = .stale) →
      ∀ d ∈ (issueRebirth c s r now wall).1.devices, d.2 = .stale) ∧
    (s.life = .birthed → Eff.nodeStale ∈ (issueRebirth c s r now wall).2 ∧
      ∀ d ∈ s.devices, Eff.devStale d.1 ∈ (issueRebirth c s r now wall).2) := by
  rcases issueRebirth_cases c s r now wall with h' | ⟨_, _, h'⟩
  · rw [h'] at h; cases h
  · rw [h']
    obtain ⟨m1, m2, m3⟩ := setStale_marks { s with lastRebirth := wall } now hclock
    refine ⟨m1, m2, fun hb => ?_⟩
    exact ⟨List.mem_append_left _ (m3 hb).1, fun d hd => List.mem_append_left _ ((m3 hb).2 d hd)⟩

/-! ### apply: reads and writes only `devices` -/

theorem apply_fst_eq (s : St) (m : RMsg) :
    (apply s m).1 = { s with devices := (apply s m).1.devices } := by
  cases m <;> simp only [apply] <;> (repeat' split) <;> rfl

theorem apply_reseq (s : St) (m : RMsg) : (apply s m).1.reseq = s.reseq := by
  rw [apply_fst_eq]

theorem apply_frame (s : St) (m : RMsg) : Frame s (apply s m).1 := by
  rw [apply_fst_eq]; exact Frame.upd s _ _ _

theorem apply_congr (s s' : St) (m : RMsg) (h : s.devices = s'.devices) :
    (apply s m).1.devices = (apply s' m).1.devices ∧ (apply s m).2 = (apply s' m).2 := by
  cases m with
  | ndata id ans => exact ⟨h, rfl⟩
  | dbirth d id ans =>
    simp only [apply, h]
    split <;> exact ⟨rfl, rfl⟩
  | ddeath d id =>
    simp only [apply, h]
    split <;> first | exact ⟨rfl, rfl⟩ | exact ⟨h, rfl⟩
  | ddata d id ans =>
    simp only [apply, h]
    split <;> first | exact ⟨rfl, rfl⟩ | exact ⟨h, rfl⟩

/-- an entry of the table after `apply`: it was there, or the message is a DBIRTH of that device, or
a device that was there has been marked stale -/
theorem apply_mem (s : St) (m : RMsg) (p : Nat × Life) (hp : p ∈ (apply s m).1.devices) :
    p ∈ s.devices ∨ (∃ id ans, m = .dbirth p.1 id ans) ∨ (p.2 = .stale ∧ ∃ l, (p.1, l) ∈ s.devices) := by
  cases m with
  | ndata id ans => exact .inl hp
  | dbirth d id ans =>
    have hpr : p ∈ (match findDev d s.devices with
        | some _ => (s.devices, ([] : List Eff))
        | none => (s.devices ++ [(d, Life.stale)], [Eff.devCreated d])).1 → p ∈ s.devices ∨ p.1 = d := by
      intro hx
      split at hx
      · exact .inl hx
      · rcases List.mem_append.mp hx with hx | hx
        · exact .inl hx
        · cases List.mem_singleton.mp hx; exact .inr rfl
    simp only [apply] at hp
    have : p ∈ s.devices ∨ p.1 = d := by
      split at hp
      · rcases mem_setDev _ _ _ _ hp with hp | rfl
        · exact hpr hp
        · exact .inr rfl
      · exact hpr hp
    rcases this with h | rfl
    · exact .inl h
    · exact .inr (.inl ⟨id, ans, rfl⟩)
  | ddeath d id =>
    simp only [apply] at hp
    split at hp
    · exact .inl hp
    · rename_i l hf
      rcases mem_setDev _ _ _ _ hp with hp | rfl
      · exact .inl hp
      · exact .inr (.inr ⟨rfl, l, findDev_some_mem d l _ hf⟩)
  | ddata d id ans =>
    simp only [apply] at hp
    split at hp <;> exact .inl hp

theorem apply_eff (s : St) (m : RMsg) :
    ∀ e ∈ (apply s m).2.1, e.plain = true ∧ e.observable = true := by
  cases m with
  | ndata id ans => simp [apply, Eff.plain, Eff.observable]
  | dbirth d id ans =>
    simp only [apply]
    split <;> split <;> simp [Eff.plain, Eff.observable]
  | ddeath d id =>
    simp only [apply]
    split <;> simp [Eff.plain, Eff.observable]
  | ddata d id ans =>
    simp only [apply]
    split <;> simp [Eff.plain, Eff.observable]

/-! ### drainBuf, handleRMsg -/

theorem drainBuf_succ (c : Cfg) (now fuel : Nat) (released : Bool) (s : St) (acc : List Eff) :
    drainBuf c now (fuel + 1) released s acc =
    match Reseq.drain s.reseq with
    | (r', .msg m) =>
      match apply { s with reseq := r' } m.2 with
      | (s1, e1, none) => drainBuf c now fuel true s1 (acc ++ e1)
      | (s1, e1, some r) => (s1, acc ++ e1, some r)
    | (r', .empty) =>
      ((cancelTimer { s with reseq := r' }).1, acc ++ (cancelTimer { s with reseq := r' }).2, none)
    | (r', .missing) =>
      if released then
        ((startTimer c (cancelTimer { s with reseq := r' }).1 now).1,
          acc ++ (cancelTimer { s with reseq := r' }).2 ++
            (startTimer c (cancelTimer { s with reseq := r' }).1 now).2, none)
      else ({ s with reseq := r' }, acc, none)
    | (r', .panic) => ({ s with reseq := r' }, acc, none) := rfl

theorem handleRMsg_eq (c : Cfg) (s : St) (seq ts : Nat) (m : RMsg) (now : Nat) :
    handleRMsg c s seq ts m now =
    if ts < s.birthTs ∨ ts < s.staleTs then (s, [], none)
    else if s.life ≠ .birthed then (s, [], some .recordedStateStale)
    else if !c.resequence then apply s m
    else
      match Reseq.process s.reseq seq (seq, m) with
      | (r', .inserted) =>
        match s.timer with
        | .none => ((startTimer c { s with reseq := r' } now).1, (startTimer c { s with reseq := r' } now).2, none)
        | _ => ({ s with reseq := r' }, [], none)
      | (r', .dup) => ({ s with reseq := r' }, [], some .reorderFail)
      | (r', .next m') =>
        match apply { s with reseq := r' } m'.2 with
        | (s1, e1, some r) => (s1, e1, some r)
        | (s1, e1, none) => drainBuf c now (s1.reseq.buf.length + 1) false s1 e1 := rfl

theorem handleRMsg_old (c : Cfg) (s : St) (seq ts : Nat) (m : RMsg) (now : Nat)
    (h : ts < s.birthTs ∨ ts < s.staleTs) : handleRMsg c s seq ts m now = (s, [], none) := by
  rw [handleRMsg_eq, if_pos h]

theorem handleRMsg_stale (c : Cfg) (s : St) (seq ts : Nat) (m : RMsg) (now : Nat)
    (h : s.life = .stale) :
    (handleRMsg c s seq ts m now).1 = s ∧ (handleRMsg c s seq ts m now).2.1 = [] ∧
    (Fresh s ts → (handleRMsg c s seq ts m now).2.2 = some .recordedStateStale) := by
  rw [handleRMsg_eq]
  split
  · exact ⟨rfl, rfl, fun hf => by have := hf.1; have := hf.2; omega⟩
  · rw [if_pos (by simp [h])]; exact ⟨rfl, rfl, fun _ => rfl⟩

theorem handleRMsg_pass (c : Cfg) (s : St) (seq ts : Nat) (m : RMsg) (now : Nat)
    (hfresh : Fresh s ts) (hb : s.life = .birthed) :
    handleRMsg c s seq ts m now =
    if !c.resequence then apply s m
    else
      match Reseq.process s.reseq seq (seq, m) with
      | (r', .inserted) =>
        match s.timer with
        | .none => ((startTimer c { s with reseq := r' } now).1, (startTimer c { s with reseq := r' } now).2, none)
        | _ => ({ s with reseq := r' }, [], none)
      | (r', .dup) => ({ s with reseq := r' }, [], some .reorderFail)
      | (r', .next m') =>
        match apply { s with reseq := r' } m'.2 with
        | (s1, e1, some r) => (s1, e1, some r)
        | (s1, e1, none) => drainBuf c now (s1.reseq.buf.length + 1) false s1 e1 := by
  obtain ⟨h1, h2⟩ := hfresh
  rw [handleRMsg_eq, if_neg (by omega), if_neg (by simp [hb])]

theorem handleRMsg_inserted (c : Cfg) (s : St) (seq ts : Nat) (m : RMsg) (now : Nat)
    (hfresh : Fresh s ts) (hb : s.life = .birthed) (hres : c.resequence = true)
    (r' : Reseq.St (Nat × RMsg)) (hp : Reseq.process s.reseq seq (seq, m) = (r', .inserted)) :
    handleRMsg c s seq ts m now =
      match s.timer with
      | .none => ((startTimer c { s with reseq := r' } now).1, (startTimer c { s with reseq := r' } now).2, none)
      | _ => ({ s with reseq := r' }, [], none) := by
  rw [handleRMsg_pass c s seq ts m now hfresh hb, hp]
  simp [hres]

/-! ### `applyAll`: `apply`, message after message, until one raises a reason -/

theorem apply_sim (s t : St) (m : RMsg) (hdev : s.devices = t.devices) :
    apply s m = ({ s with devices := (apply t m).1.devices }, (apply t m).2.1, (apply t m).2.2) := by
  obtain ⟨h1, h2⟩ := apply_congr s t m hdev
  have h3 := apply_fst_eq s m
  rw [h1] at h3
  rw [← h2, ← h3]

theorem applyAll_cons (s : St) (m : RMsg) (l : List RMsg) :
    applyAll s (m :: l) =
      match (apply s m).2.2 with
      | none => ((applyAll (apply s m).1 l).1,
          (apply s m).2.1 ++ (applyAll (apply s m).1 l).2.1, (applyAll (apply s m).1 l).2.2)
      | some _ => apply s m := by
  simp only [applyAll]
  split <;> rename_i h <;> simp [h]

theorem applyAll_cons_none (s : St) (m : RMsg) (l : List RMsg) (h : (apply s m).2.2 = none) :
    applyAll s (m :: l) = ((applyAll (apply s m).1 l).1,
      (apply s m).2.1 ++ (applyAll (apply s m).1 l).2.1, (applyAll (apply s m).1 l).2.2) := by
  rw [applyAll_cons, h]

theorem applyAll_cons_some (s : St) (m : RMsg) (l : List RMsg) (r : Reason)
    (h : (apply s m).2.2 = some r) : applyAll s (m :: l) = apply s m := by
  rw [applyAll_cons, h]

theorem applyAll_cons_clean (s : St) (m : RMsg) (l : List RMsg)
    (h : (applyAll s (m :: l)).2.2 = none) :
    (apply s m).2.2 = none ∧ (applyAll (apply s m).1 l).2.2 = none := by
  cases hr : (apply s m).2.2 with
  | some r => rw [applyAll_cons_some s m l r hr, hr] at h; cases h
  | none =>
    rw [applyAll_cons_none s m l hr] at h
    exact ⟨rfl, h⟩

theorem SeqP.applyAll_congr (s s' : St) (l : List RMsg) (h : s.devices = s'.devices) :
    (applyAll s l).1.devices = (applyAll s' l).1.devices ∧ (applyAll s l).2 = (applyAll s' l).2 := by
  induction l generalizing s s' with
  | nil => exact ⟨h, rfl⟩
  | cons m t ih =>
    obtain ⟨h1, h2⟩ := apply_congr s s' m h
    cases hr : (apply s m).2.2 with
    | none =>
      obtain ⟨h3, h4⟩ := ih _ _ h1
      rw [applyAll_cons_none s m t hr, applyAll_cons_none s' m t (h2 ▸ hr)]
      simp only [h3, h4, h2, and_self]
    | some r =>
      rw [applyAll_cons_some s m t r hr, applyAll_cons_some s' m t r (h2 ▸ hr)]
      exact ⟨h1, h2⟩

theorem applyAll_single (s : St) (m : RMsg) : applyAll s [m] = apply s m := by
  rw [applyAll_cons]
  cases h : (apply s m).2.2 with
  | some r => rfl
  | none => simp only [applyAll, List.append_nil]; rw [← h]

/-! ### the drain loop and a resequenceable message, once

`drainBuf` applies, as `applyAll` does, the messages of a chain of `drain`s and ends as `drained` says;
`handleRMsg` on the expected message does the same with that message in front. Every fact about the two
is a fact about `Reseq.Chain`, `applyAll` and `drained`. -/

/-- the reorder timer after `cancel_reorder_timeout` and `start_reorder_timeout` -/
def restarted (c : Cfg) (now : Nat) : Timer :=
  match c.reorderTimeout with
  | some d => .armed (now + d)
  | none => .none

/-- how the drain loop ends once `drain` has answered `dr`, not a message: `cancel_reorder_timeout` on an
empty buffer; before another gap a fresh timeout if this call released something -/
def drainEnd (c : Cfg) (now : Nat) (released : Bool) (s : St) :
    Reseq.DrainRes (Nat × RMsg) → St × List Eff
  | .empty => cancelTimer s
  | .missing =>
    if released then
      ((startTimer c (cancelTimer s).1 now).1, (cancelTimer s).2 ++ (startTimer c (cancelTimer s).1 now).2)
    else (s, [])
  | _ => (s, [])

theorem drainEnd_fst (c : Cfg) (now : Nat) (b : Bool) (s : St) (dr : Reseq.DrainRes (Nat × RMsg)) :
    (drainEnd c now b s dr).1 = { s with timer :=
      match dr with
      | .empty => .none
      | .missing => if b then restarted c now else s.timer
      | _ => s.timer } := by
  cases dr with
  | empty => exact cancelTimer_fst s
  | missing =>
    cases b with
    | false => rfl
    | true =>
      simp only [drainEnd, if_true, cancelTimer_fst, startTimer, restarted]
      cases c.reorderTimeout <;> rfl
  | msg m => rfl
  | panic => rfl

/-- **the outcome of a drain loop** that started in `s` with effects `acc`, whose chain of `drain`s
ended in `r1`, the released messages being `l`: they are applied as `applyAll` does; if one raises a
reason the loop ends there, else with one more `drain` (no message) and `drainEnd` -/
def drained (c : Cfg) (now : Nat) (released : Bool) (s : St) (acc : List Eff) (l : List RMsg)
    (r1 : Reseq.St (Nat × RMsg)) : St × List Eff × Option Reason :=
  match (applyAll s l).2.2 with
  | some r =>
    ({ s with reseq := r1, devices := (applyAll s l).1.devices }, acc ++ (applyAll s l).2.1, some r)
  | none =>
    ((drainEnd c now released
        { s with reseq := (Reseq.drain r1).1, devices := (applyAll s l).1.devices } (Reseq.drain r1).2).1,
      acc ++ (applyAll s l).2.1 ++
        (drainEnd c now released
          { s with reseq := (Reseq.drain r1).1, devices := (applyAll s l).1.devices } (Reseq.drain r1).2).2,
      none)

section Drained
variable (c : Cfg) (now : Nat) (b : Bool) (s : St) (acc : List Eff) (l : List RMsg)
  (r1 : Reseq.St (Nat × RMsg))

theorem drained_reason : (drained c now b s acc l r1).2.2 = (applyAll s l).2.2 := by
  unfold drained
  split <;> rename_i h <;> rw [h]

/-- only the resequencer, the device table and the timer differ from `s` -/
theorem drained_fst : (drained c now b s acc l r1).1 =
    { s with reseq := (drained c now b s acc l r1).1.reseq, devices := (applyAll s l).1.devices,
             timer := (drained c now b s acc l r1).1.timer } := by
  unfold drained
  split
  · rfl
  · simp only [drainEnd_fst]

/-- the effects: `acc`, those of applying `l`, then what was done to the timer -/
theorem drained_effs : ∃ te, (drained c now b s acc l r1).2.1 = acc ++ (applyAll s l).2.1 ++ te ∧
    ∀ e ∈ te, e = Eff.timerCancel ∨ e = Eff.timerStart := by
  unfold drained
  split
  · exact ⟨[], (List.append_nil _).symm, nofun⟩
  · refine ⟨_, rfl, fun e he => ?_⟩
    unfold drainEnd at he
    split at he
    · exact .inl (cancelTimer_snd _ e he)
    · split at he
      · exact (List.mem_append.mp he).elim (fun h => .inl (cancelTimer_snd _ e h))
          fun h => .inr (startTimer_snd _ _ _ e h)
      · cases he
    · cases he

/-- nothing is buffered that the chain did not leave -/
theorem drained_buf : ∀ x ∈ (drained c now b s acc l r1).1.reseq.buf, x ∈ r1.buf := by
  unfold drained
  split
  · exact fun _ h => h
  · simp only [drainEnd_fst]
    exact (Reseq.drain_mem r1).1

variable {c now b s acc l r1}

/-- a reason was raised: the timer is left alone -/
theorem drained_raised {r : Reason} (h : (applyAll s l).2.2 = some r) :
    drained c now b s acc l r1 =
      ({ s with reseq := r1, devices := (applyAll s l).1.devices }, acc ++ (applyAll s l).2.1, some r) := by
  unfold drained
  simp only [h]

/-- no reason was raised, the chain is over: the timer is cancelled on an empty buffer; before another
gap it is restarted if something was released, left alone if not -/
theorem drained_clean (h : (applyAll s l).2.2 = none) (hi : Reseq.Inv r1)
    (hstop : ∀ x, (Reseq.drain r1).2 ≠ .msg x) :
    (drained c now b s acc l r1).1 =
      { s with reseq := r1, devices := (applyAll s l).1.devices,
               timer := if r1.buf = [] then .none else if b then restarted c now else s.timer } := by
  unfold drained
  simp only [h, drainEnd_fst, Reseq.drain_stop hi hstop]
  by_cases hb : r1.buf = [] <;> simp [hb]

/-- under the invariant the resequencer is left where the chain ended -/
theorem drained_reseq_eq (hi : Reseq.Inv r1)
    (hstop : (applyAll s l).2.2 = none → ∀ x, (Reseq.drain r1).2 ≠ .msg x) :
    (drained c now b s acc l r1).1.reseq = r1 := by
  unfold drained
  split
  · rfl
  · rename_i h
    simp only [drainEnd_fst, Reseq.drain_stop hi (hstop h)]

/-- one more message in front -/
theorem drained_cons (m : RMsg) (r' : Reseq.St (Nat × RMsg)) (h : (apply s m).2.2 = none) :
    drained c now b { s with reseq := r', devices := (apply s m).1.devices } (acc ++ (apply s m).2.1) l r1
      = drained c now b s acc (m :: l) r1 := by
  obtain ⟨c1, c2⟩ := SeqP.applyAll_congr
    { s with reseq := r', devices := (apply s m).1.devices } (apply s m).1 l rfl
  unfold drained
  rw [applyAll_cons_none s m l h, c1, c2]
  simp only [List.append_assoc]

end Drained

/-- **the drain loop, once.** `ms` is the chain of `drain`s up to the first message whose application
raises a reason, else up to where `drain` stops answering with a message; the ghost `drainSeqs` lists its
numbers. -/
theorem drainBuf_char (c : Cfg) (now : Nat) : ∀ (fuel : Nat) (rel : Bool) (s : St) (acc : List Eff),
    s.reseq.buf.length < fuel →
    ∃ ms r1, Reseq.Chain s.reseq ms r1 ∧
      ((applyAll s (ms.map (·.2))).2.2 = none → ∀ x, (Reseq.drain r1).2 ≠ .msg x) ∧
      drainBuf c now fuel rel s acc = drained c now (rel || !ms.isEmpty) s acc (ms.map (·.2)) r1 ∧
      ∀ accN, drainSeqs fuel s.reseq s accN = accN ++ ms.map (·.1) := by
  intro fuel
  induction fuel with
  | zero => intro _ s _ hf; omega
  | succ fuel ih =>
    intro rel s acc hf
    cases hd : Reseq.drain s.reseq with
    | mk r' dr =>
    by_cases hmsg : ∃ m, dr = .msg m
    · obtain ⟨m, rfl⟩ := hmsg
      have ha := apply_sim { s with reseq := r' } s m.2 rfl
      have hlen := (Reseq.Chain.cons hd (.nil r')).length
      cases hr : (apply s m.2).2.2 with
      | some r =>
        have hall : (applyAll s [m.2]).2.2 = some r := by rw [applyAll_single, hr]
        refine ⟨[m], r', .cons hd (.nil r'), fun h => ?_, ?_, fun accN => ?_⟩
        · rw [List.map_singleton, hall] at h; cases h
        · rw [List.map_singleton, drained_raised hall, applyAll_single, drainBuf_succ, hd]
          simp only [ha, hr]
        · simp only [drainSeqs, hd, ha, hr, List.map_singleton]
      | none =>
        obtain ⟨ms, r1, hch, hstop, hdb, hds⟩ := ih true
          { s with reseq := r', devices := (apply s m.2).1.devices } (acc ++ (apply s m.2).2.1)
          (by simp only [List.length_cons, List.length_nil] at hlen; simp only; omega)
        obtain ⟨c1, c2⟩ := SeqP.applyAll_congr
          { s with reseq := r', devices := (apply s m.2).1.devices } (apply s m.2).1 (ms.map (·.2)) rfl
        have hall := applyAll_cons_none s m.2 (ms.map (·.2)) hr
        refine ⟨m :: ms, r1, .cons hd hch, fun h => hstop ?_, ?_, fun accN => ?_⟩
        · rw [List.map_cons, hall] at h; rw [c2]; exact h
        · rw [drainBuf_succ, hd]
          simp only [ha, hr, hdb, Bool.true_or, List.isEmpty_cons, Bool.not_false, Bool.or_true]
          exact drained_cons m.2 r' hr
        · simp only [drainSeqs, hd, ha, hr, hds, List.map_cons, List.append_assoc, List.singleton_append]
    · refine ⟨[], s.reseq, .nil _, fun _ x h => hmsg ⟨x, by rw [hd] at h; exact h⟩, ?_, fun accN => ?_⟩
      · rw [drainBuf_succ]
        unfold drained
        simp only [List.map_nil, applyAll, hd, List.isEmpty_nil, Bool.not_true, Bool.or_false, List.append_nil]
        cases dr with
        | msg m => exact absurd ⟨m, rfl⟩ hmsg
        | empty => rfl
        | missing => cases rel <;> simp [drainEnd]
        | panic => simp [drainEnd]
      · cases dr <;> first | exact absurd ⟨_, rfl⟩ hmsg | simp [drainSeqs, hd]

theorem appliedSeqs_skip (c : Cfg) (s : St) (seq ts : Nat) (m : RMsg)
    (h : (ts < s.birthTs ∨ ts < s.staleTs) ∨ s.life = .stale) :
    appliedSeqs c s (.rmsg seq ts m) = [] := by
  simp only [appliedSeqs]
  split
  · rfl
  · rcases h with h | h
    · contradiction
    · rw [if_pos (by simp [h])]

theorem appliedSeqs_pass (c : Cfg) (s : St) (seq ts : Nat) (m : RMsg)
    (hfresh : Fresh s ts) (hb : s.life = .birthed) :
    appliedSeqs c s (.rmsg seq ts m) =
      if !c.resequence then [seq]
      else
        match Reseq.process s.reseq seq (seq, m) with
        | (r', .next m') =>
          match apply { s with reseq := r' } m'.2 with
          | (_, _, some _) => [m'.1]
          | (s1, _, none) => drainSeqs (s1.reseq.buf.length + 1) s1.reseq s1 [m'.1]
        | _ => [] := by
  obtain ⟨h1, h2⟩ := hfresh
  simp only [appliedSeqs]
  rw [if_neg (by omega), if_neg (by simp [hb])]
  rfl

theorem startTimer_timer (c : Cfg) (s : St) (now : Nat) (h : s.timer = .none) :
    (startTimer c s now).1.timer = restarted c now := by
  unfold startTimer restarted
  cases c.reorderTimeout <;> simp [h]

/-- the branches of `handleRMsg` before the resequencer is asked -/
theorem handleRMsg_cases (c : Cfg) (s : St) (seq ts : Nat) (m : RMsg) (now : Nat) :
    ((ts < s.birthTs ∨ ts < s.staleTs) ∧ handleRMsg c s seq ts m now = (s, [], none)) ∨
    (Fresh s ts ∧ s.life = .stale ∧ handleRMsg c s seq ts m now = (s, [], some .recordedStateStale)) ∨
    (Fresh s ts ∧ s.life = .birthed ∧
      ((c.resequence = false ∧ handleRMsg c s seq ts m now = apply s m) ∨ c.resequence = true)) := by
  by_cases hold : ts < s.birthTs ∨ ts < s.staleTs
  · exact .inl ⟨hold, handleRMsg_old c s seq ts m now hold⟩
  have hf : Fresh s ts := ⟨by omega, by omega⟩
  cases hl : s.life with
  | stale =>
    obtain ⟨h1, h2, h3⟩ := handleRMsg_stale c s seq ts m now hl
    exact .inr (.inl ⟨hf, rfl, Prod.ext h1 (Prod.ext h2 (h3 hf))⟩)
  | birthed =>
    refine .inr (.inr ⟨hf, rfl, ?_⟩)
    cases hres : c.resequence with
    | true => exact .inr rfl
    | false => exact .inl ⟨rfl, by rw [handleRMsg_pass c s seq ts m now hf hl]; simp [hres]⟩

/-- **a resequenceable message for a birthed node, once** (resequencing on). A duplicate raises
`reorderFail`. An out-of-order message is filed, and the timer started unless one is there. The expected
message is applied and after it the chain `ms` it frees, as in `drainBuf_char`; `appliedSeqs` lists the
numbers. -/
theorem handleRMsg_char (c : Cfg) (s : St) (seq ts : Nat) (m : RMsg) (now : Nat)
    (hfresh : Fresh s ts) (hb : s.life = .birthed) (hres : c.resequence = true) :
    (∃ r', Reseq.process s.reseq seq (seq, m) = (r', .dup) ∧
      handleRMsg c s seq ts m now = ({ s with reseq := r' }, [], some .reorderFail) ∧
      appliedSeqs c s (.rmsg seq ts m) = []) ∨
    (∃ r', Reseq.process s.reseq seq (seq, m) = (r', .inserted) ∧
      handleRMsg c s seq ts m now =
        (if s.timer = .none then
          ((startTimer c { s with reseq := r' } now).1, (startTimer c { s with reseq := r' } now).2, none)
        else ({ s with reseq := r' }, [], none)) ∧
      appliedSeqs c s (.rmsg seq ts m) = []) ∨
    (∃ r' ms r1, Reseq.process s.reseq seq (seq, m) = (r', .next (seq, m)) ∧ Reseq.Chain r' ms r1 ∧
      ((applyAll s (m :: ms.map (·.2))).2.2 = none → ∀ x, (Reseq.drain r1).2 ≠ .msg x) ∧
      handleRMsg c s seq ts m now = drained c now (!ms.isEmpty) s [] (m :: ms.map (·.2)) r1 ∧
      appliedSeqs c s (.rmsg seq ts m) = seq :: ms.map (·.1)) := by
  rw [handleRMsg_pass c s seq ts m now hfresh hb, appliedSeqs_pass c s seq ts m hfresh hb]
  simp only [hres, Bool.not_true, Bool.false_eq_true, if_false]
  rcases Reseq.process_cases s.reseq seq (seq, m) with ⟨_, hp⟩ | ⟨r', hp, _⟩ | ⟨r', hp, _⟩
  · refine .inr (.inr ?_)
    generalize ({ s.reseq with next := Reseq.wadd s.reseq.next 1 } : Reseq.St _) = r' at hp
    have ha := apply_sim { s with reseq := r' } s m rfl
    rw [hp]
    cases hr : (apply s m).2.2 with
    | some r =>
      have hall : (applyAll s [m]).2.2 = some r := by rw [applyAll_single, hr]
      refine ⟨r', [], r', rfl, .nil _, fun h => ?_, ?_, ?_⟩
      · rw [List.map_nil, hall] at h; cases h
      · rw [List.map_nil, drained_raised hall, applyAll_single]; simp only [ha, hr, List.nil_append]
      · simp only [ha, hr, List.map_nil]
    | none =>
      obtain ⟨ms, r1, hch, hstop, hdb, hds⟩ := drainBuf_char c now (r'.buf.length + 1) false
        { s with reseq := r', devices := (apply s m).1.devices } (apply s m).2.1 (Nat.lt_succ_self _)
      obtain ⟨c1, c2⟩ := SeqP.applyAll_congr
        { s with reseq := r', devices := (apply s m).1.devices } (apply s m).1 (ms.map (·.2)) rfl
      refine ⟨r', ms, r1, rfl, hch, fun h => hstop ?_, ?_, ?_⟩
      · rw [applyAll_cons_none s m _ hr] at h; rw [c2]; exact h
      · simp only [ha, hr, hdb, Bool.false_or]
        have := drained_cons (c := c) (now := now) (b := !ms.isEmpty) (acc := []) (l := ms.map (·.2))
          (r1 := r1) m r' hr
        rwa [List.nil_append] at this
      · simp only [ha, hr, hds, List.singleton_append]
  · refine .inr (.inl ⟨r', hp, ?_, by rw [hp]⟩)
    rw [hp]
    cases s.timer <;> simp
  · exact .inl ⟨r', hp, by rw [hp], by rw [hp]⟩

/-! ### handleBirth, step -/

theorem handleBirth_eq (c : Cfg) (s : St) (ts bdseq id : Nat) (ans : Ans) (now wall : Nat) :
    handleBirth c s ts bdseq id ans now wall =
    if ts ≤ s.birthTs then (s, [])
    else
      if ans ≠ .ok then
        ((issueRebirth c s .invalidPayload now wall).1,
          [.nodeBirth id false] ++ (issueRebirth c s .invalidPayload now wall).2)
      else
        ({ (cancelTimer s).1 with birthTs := ts, life := .birthed, bdseq := bdseq, reseq := Reseq.setNext Reseq.init 1, devices := (cancelTimer s).1.devices.map fun d => (d.1, Life.stale) },
          [Eff.nodeBirth id true] ++
            (cancelTimer s).2 ++
            ((cancelTimer s).1.devices.filter fun d => d.2 == Life.birthed).map fun d => Eff.devStale d.1) := rfl

/-- what a step does before the rebirth request its input may raise -/
def body (c : Cfg) (s : St) (i : In) (now : Nat) : St × List Eff :=
  match i with
  | .nbirth ts bd id ans =>
    if ts ≤ s.birthTs then (s, [])
    else if ans ≠ .ok then (s, [.nodeBirth id false])
    else
      ({ s with timer := .none, birthTs := ts, life := .birthed, bdseq := bd,
                reseq := Reseq.setNext Reseq.init 1,
                devices := s.devices.map fun d => (d.1, Life.stale) },
       ([Eff.nodeBirth id true] ++ (cancelTimer s).2) ++
         (s.devices.filter fun d => d.2 == Life.birthed).map fun d => Eff.devStale d.1)
  | .ndeath _ =>
    ((setStale (cancelTimer s).1 now).1, (cancelTimer s).2 ++ (setStale (cancelTimer s).1 now).2)
  | .rmsg seq ts m => ((handleRMsg c s seq ts m now).1, (handleRMsg c s seq ts m now).2.1)
  | .offline => setStale s now
  | .rebirthReq _ => (s, [])
  | .timerFire =>
    match s.timer with
    | .armed _ => ({ s with timer := .fired }, [])
    | _ => (s, [])

/-- **the shape of a step**: the input's own handling, then, if it raises a reason, the rebirth
request for that reason -/
theorem step_eq (c : Cfg) (s : St) (i : In) (now wall : Nat) :
    step c s i now wall =
    match raised c s i now with
    | none => body c s i now
    | some r =>
      ((issueRebirth c (body c s i now).1 r now wall).1,
        (body c s i now).2 ++ (issueRebirth c (body c s i now).1 r now wall).2) := by
  cases i with
  | nbirth ts bd id ans =>
    simp only [step, raised, body, handleBirth_eq, cancelTimer_fst]
    split
    · rfl
    · split <;> rfl
  | ndeath bd =>
    show (if bd ≠ (setStale (cancelTimer s).1 now).1.bdseq then _ else _) = _
    -- `setStale` does not change `bdseq`
    rw [(setStale_fields _ now).2.1, (cancelTimer_frame s).bdseq]
    simp only [raised, body]
    split <;> rfl
  | rmsg seq ts m =>
    simp only [step, raised, body]
    split <;> rename_i h <;> simp [h]
  | offline => rfl
  | rebirthReq r => simp [step, raised, body]
  | timerFire =>
    cases ht : s.timer <;> simp [step, raised, body, ht]

theorem step_rmsg_eq (c : Cfg) (s : St) (seq ts : Nat) (m : RMsg) (now wall : Nat) :
    step c s (.rmsg seq ts m) now wall =
    match (handleRMsg c s seq ts m now).2.2 with
    | none => ((handleRMsg c s seq ts m now).1, (handleRMsg c s seq ts m now).2.1)
    | some r =>
      ((issueRebirth c (handleRMsg c s seq ts m now).1 r now wall).1,
        (handleRMsg c s seq ts m now).2.1 ++
          (issueRebirth c (handleRMsg c s seq ts m now).1 r now wall).2) :=
  step_eq c s (.rmsg seq ts m) now wall

theorem run_cons (c : Cfg) (s : St) (e : Ev) (es : List Ev) :
    run c s (e :: es) = ((run c (step c s e.inp e.now e.wall).1 es).1,
      (step c s e.inp e.now e.wall).2 ++ (run c (step c s e.inp e.now e.wall).1 es).2) := rfl

theorem run_append (c : Cfg) (s : St) (l1 l2 : List Ev) :
    run c s (l1 ++ l2) = ((run c (run c s l1).1 l2).1,
      (run c s l1).2 ++ (run c (run c s l1).1 l2).2) := by
  induction l1 generalizing s with
  | nil => simp [run]
  | cons e es ih =>
    rw [List.cons_append, run_cons, ih, run_cons]
    simp

theorem run_single (c : Cfg) (s : St) (e : Ev) :
    run c s [e] = step c s e.inp e.now e.wall := by
  rw [run_cons]
  simp [run]

end Srad.Host
