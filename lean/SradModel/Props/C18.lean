/-
C18 — Template definitions and instances keep their wire identity.

  A template definition converted to a metric value is marked as a definition without a template
  reference, a template instance is marked as an instance with its reference, and converting
  either back (directly or through datatype-directed decoding) returns an equal definition or
  instance while the opposite kind, or a value with the marker missing, is rejected. A template
  can be registered with a node only if its name is not reserved or already taken and every
  template it nests is already registered.

Property theorems only; helper lemmas are in `SradModel/Proofs/Templ.lean`, the vocabulary
(`Nests`, `WF`, `Closed`, `NestedBefore`) in `SradModel/Model/TemplSpec.lean`.
Content (version, metrics, parameters) is arbitrary: metrics are trees of any depth, every field
the template code does not look at is an opaque token.
-/
import SradModel.Proofs.Templ
import SradModel.Generated.TemplTable

namespace Srad.Templ
open Srad.Codec (Bytes Res Err DT PV KV)

/-! ### encoders: the markers on the wire -/

/-- a definition goes on the wire as a template value with `is_definition = true`, no
`template_ref`, and its version, metrics and parameters unchanged -/
theorem C18_definition_marked (d : TDef) :
    ∃ t, defToMV d = .templ t ∧ t.isDef = some true ∧ t.ref = none ∧
      t.version = d.version ∧ t.metrics = d.metrics ∧ t.params = d.params :=
  ⟨defToTmpl d, rfl, rfl, rfl, rfl, rfl, rfl⟩

/-- an instance goes on the wire with `is_definition = false`, `template_ref` = its reference,
content unchanged -/
theorem C18_instance_marked (i : TInst) :
    ∃ t, instToMV i = .templ t ∧ t.isDef = some false ∧ t.ref = some i.ref ∧
      t.version = i.version ∧ t.metrics = i.metrics ∧ t.params = i.params :=
  ⟨instToTmpl i, rfl, rfl, rfl, rfl, rfl, rfl⟩

/-! ### decoders: exactly what each accepts, for every metric value -/

/-- the definition decoder accepts exactly the template values marked `is_definition = true`
without a `template_ref`, and returns their content; it never panics -/
theorem C18_definition_decoder (mv : MV) (d : TDef) :
    (defFromMV mv = .ok d ↔
      ∃ t, mv = .templ t ∧ t.isDef = some true ∧ t.ref = none ∧
        d = { version := t.version, metrics := t.metrics, params := t.params }) ∧
    defFromMV mv ≠ .panic := by
  cases mv using MV.byMarkers <;> simp [defFromMV, eq_comm]

/-- the instance decoder accepts exactly the template values marked `is_definition = false` that
carry a `template_ref`, and returns reference and content; it never panics -/
theorem C18_instance_decoder (mv : MV) (i : TInst) :
    (instFromMV mv = .ok i ↔
      ∃ t r, mv = .templ t ∧ t.isDef = some false ∧ t.ref = some r ∧
        i = { ref := r, version := t.version, metrics := t.metrics, params := t.params }) ∧
    instFromMV mv ≠ .panic := by
  cases mv using MV.byMarkers <;> simp [instFromMV, eq_comm]

/-- the value decoder classifies by the marker: a value is decoded as a definition exactly when
the definition decoder accepts it, as an instance exactly when the instance decoder accepts it,
with the same result; a value without the marker is rejected; it never panics -/
theorem C18_value_decoder (mv : MV) :
    (∀ d, valueFromMV mv = .ok (.definition d) ↔ defFromMV mv = .ok d) ∧
    (∀ i, valueFromMV mv = .ok (.inst i) ↔ instFromMV mv = .ok i) ∧
    valueFromMV mv ≠ .panic := by
  cases mv using MV.byMarkers <;> simp [valueFromMV, defFromMV, instFromMV]

/-- a template value whose `is_definition` marker is missing is rejected by all three decoders
and by datatype-directed decoding, whatever else it contains -/
theorem C18_marker_missing_rejected (t : Tmpl) (h : t.isDef = none) :
    defFromMV (.templ t) = .err .value ∧ instFromMV (.templ t) = .err .value ∧
    valueFromMV (.templ t) = .err .value ∧ kindTemplate (.templ t) = .err .value := by
  obtain ⟨v, ms, ps, ref, isDef⟩ := t
  simp only at h; subst h
  cases ref <;> simp [defFromMV, instFromMV, valueFromMV, kindTemplate]

/-- anything that is not a template value is rejected as the wrong variant -/
theorem C18_not_a_template_rejected (tok : String) :
    defFromMV (.other tok) = .err .variant ∧ instFromMV (.other tok) = .err .variant ∧
    valueFromMV (.other tok) = .err .variant ∧ kindTemplate (.other tok) = .err .variant := by
  simp [defFromMV, instFromMV, valueFromMV, kindTemplate]

/-- a definition comes back equal: directly, through `TemplateValue`, and through
datatype-directed decoding; the instance decoder rejects it -/
theorem C18_definition_roundtrip (d : TDef) :
    defFromMV (defToMV d) = .ok d ∧
    valueFromMV (defToMV d) = .ok (.definition d) ∧
    kindTemplate (defToMV d) = .ok (.definition d) ∧
    instFromMV (defToMV d) = .err .value := by
  simp [defToMV, defToTmpl, defFromMV, valueFromMV, kindTemplate, instFromMV]

/-- an instance comes back equal: directly, through `TemplateValue`, and through
datatype-directed decoding; the definition decoder rejects it -/
theorem C18_instance_roundtrip (i : TInst) :
    instFromMV (instToMV i) = .ok i ∧
    valueFromMV (instToMV i) = .ok (.inst i) ∧
    kindTemplate (instToMV i) = .ok (.inst i) ∧
    defFromMV (instToMV i) = .err .value := by
  simp [instToMV, instToTmpl, defFromMV, valueFromMV, kindTemplate, instFromMV]

/-- datatype-directed decoding as modelled for C10/C19 (`Codec.kindOf` on `DataType::Template`,
which sees only the two markers) is this model's `kindTemplate` with the content forgotten -/
theorem C18_kind_agrees_with_codec (valid : Bytes → Bool) (mv : MV) :
    Srad.Codec.kindOf valid .template mv.toPV =
      match kindTemplate mv with
      | .ok v => .ok (.template, v.toKV)
      | .err e => .err e
      | .panic => .panic := by
  cases mv using MV.byMarkers <;> rfl

/-! ### T-table: the decision table of the decoders over the two markers, and the markers the
encoders write, regenerated on every run by executing the compiled crate
(`SradModel/Generated/TemplTable.lean`). A change to any marker test makes one of these
obligations fail at `lake build`. -/

/-- the markers of a metric value (`none`: not a template value) -/
def MV.markers : MV → Option (Option Bool × Bool)
  | .templ t => some (t.isDef, t.ref.isSome)
  | .other _ => none

/-- what every decoder answers (accept as what / which error) depends on the two markers only, so
the table below speaks for all metric values -/
theorem C18_shape_by_markers (mv : MV) :
    defShape mv = defShape (markerMV mv.markers) ∧
    instShape mv = instShape (markerMV mv.markers) ∧
    valueShape mv = valueShape (markerMV mv.markers) ∧
    kindShapeT mv = kindShapeT (markerMV mv.markers) := by
  cases mv using MV.byMarkers <;>
    simp [MV.markers, markerMV, defShape, instShape, valueShape, kindShapeT, kindTemplate,
      defFromMV, instFromMV, valueFromMV]

/-- the compiled code and the model agree on every cell of the table -/
theorem C18_table_matches_model :
    ∀ row ∈ Srad.Generated.templTable,
      (defShape (markerMV row.1), instShape (markerMV row.1), valueShape (markerMV row.1),
        kindShapeT (markerMV row.1)) = row.2 := by
  decide +kernel

/-- in the compiled code itself: the definition decoder accepts iff (`true`, no ref), the instance
decoder iff (`false`, ref), the value decoder and datatype-directed decoding accept exactly those
two as a definition resp. an instance, nothing panics, and the table covers all six marker
combinations and non-template values -/
theorem C18_table_truth :
    (∀ row ∈ Srad.Generated.templTable,
      (decide (row.2.1 = .okDef) = decide (row.1 = some (some true, false))) ∧
      (decide (row.2.2.1 = .okInst) = decide (row.1 = some (some false, true))) ∧
      (row.2.2.2.1 = if row.1 = some (some true, false) then .okDef
                     else if row.1 = some (some false, true) then .okInst
                     else if row.1 = none then .errVariant else .errValue) ∧
      row.2.2.2.2 = row.2.2.2.1 ∧
      row.2.1 ≠ .panic ∧ row.2.2.1 ≠ .panic ∧ row.2.2.2.1 ≠ .panic) ∧
    ((Srad.Generated.templTable.map (·.1)).eraseDups.length = 7) := by
  decide +kernel

/-- in the compiled code itself: every definition is written with (`true`, no ref), every
instance with (`false`, ref) — as the model's encoders do -/
theorem C18_enc_table :
    (∀ row ∈ Srad.Generated.templEncTable,
      row.2 = if row.1 then (some false, true) else (some true, false)) ∧
    (Srad.Generated.templEncTable.map (·.1)).eraseDups.length = 2 ∧
    (∀ d, (defToMV d).markers = some (some true, false)) ∧
    (∀ i, (instToMV i).markers = some (some false, true)) := by
  refine ⟨by decide +kernel, by decide +kernel, fun _ => rfl, fun _ => rfl⟩

/-- the reserved names are exactly the two metric names every NBIRTH carries -/
theorem C18_reserved_names (name : Bytes) :
    reserved name = true ↔
      name = "bdSeq".toUTF8.toList ∨ name = "Node Control/Rebirth".toUTF8.toList := by
  have h1 : "bdSeq".toUTF8.toList = bdSeqName := by decide +kernel
  have h2 : "Node Control/Rebirth".toUTF8.toList = rebirthName := by decide +kernel
  rw [h1, h2]
  simp [reserved, Or.comm]

/-- **registration succeeds if and only if** the name is not reserved, not already taken, the
definition is well formed, and every template nested anywhere in it (recursively through nested
template metrics) is already registered; then exactly that entry is added -/
theorem C18_register_iff (r : Registry) (name : Bytes) (d : TDef) (r' : Registry) :
    register r name d = .ok r' ↔
      (reserved name = false ∧ r.has name = false ∧ d.WF ∧
        (∀ ref, d.Nests ref → r.has ref = true)) ∧
      r' = r ++ [(name, d)] :=
  register_ok_iff r name d r'

/-- for a well-formed definition this is the property's sentence verbatim -/
theorem C18_register_wellformed (r : Registry) (name : Bytes) (d : TDef) (hw : d.WF) :
    (∃ r', register r name d = .ok r') ↔
      reserved name = false ∧ r.has name = false ∧ ∀ ref, d.Nests ref → r.has ref = true := by
  constructor
  · rintro ⟨r', h⟩
    obtain ⟨⟨h1, h2, _, h4⟩, _⟩ := (register_ok_iff r name d r').1 h
    exact ⟨h1, h2, h4⟩
  · rintro ⟨h1, h2, h4⟩
    exact ⟨_, (register_ok_iff r name d _).2 ⟨⟨h1, h2, hw, h4⟩, rfl⟩⟩

/-- which refusal: a reserved name is `InvalidName`; otherwise a taken name is `Duplicate`;
otherwise `UnregisteredMetric` is returned only when some nested template is not registered and
`InvalidDefinition` only when some metric is malformed — and no other error exists -/
theorem C18_register_refusal (r : Registry) (name : Bytes) (d : TDef) (e : RegErr)
    (h : register r name d = .error e) :
    (e = .invalidName ∧ reserved name = true) ∨
    (e = .duplicate ∧ reserved name = false ∧ r.has name = true) ∨
    (reserved name = false ∧ r.has name = false ∧
      ((e = .unregistered ∧ ∃ ref, d.Nests ref ∧ r.has ref = false) ∨
       (e = .invalidDefinition ∧ ¬ d.WF))) :=
  register_err r name d e h

/-- what `contains` answers after each operation; a refused registration changes nothing
(`applyOp` keeps the registry) -/
theorem C18_contains (r : Registry) (n m : Bytes) (d : TDef) :
    (∀ r', register r n d = .ok r' → r'.has m = (r.has m || n == m)) ∧
    (∀ e, register r n d = .error e → applyOp r (.register n d) = r) ∧
    (deregister r n).has m = (r.has m && !(m == n)) ∧
    (clear r).has m = false := by
  refine ⟨fun r' h => ?_, fun e h => applyOp_refused h, has_deregister r n m, rfl⟩
  obtain ⟨_, rfl⟩ := (register_ok_iff r n d r').1 h
  rw [has_append, has_single]

/-- **a taken name keeps its definition** — the definition each name is registered WITH after
each call (`get?`; `announced r`, one definition metric per entry, is what every NBIRTH of the
node carries for the registry). An accepted registration binds its own name to its own definition
and no other name changes; a refused one — in particular one whose name is taken, whatever
definition it offers — changes neither the registry nor what is announced; `deregister` frees
exactly its name; `clear` everything -/
theorem C18_taken_name_keeps_definition (r : Registry) (n m : Bytes) (d : TDef) :
    (∀ r', register r n d = .ok r' → r'.get? m = if n == m then some d else r.get? m) ∧
    (∀ e, register r n d = .error e →
      applyOp r (.register n d) = r ∧ announced (applyOp r (.register n d)) = announced r) ∧
    (r.has n = true → (applyOp r (.register n d)).get? n = r.get? n ∧
      announced (applyOp r (.register n d)) = announced r) ∧
    (deregister r n).get? m = (if m == n then none else r.get? m) ∧
    announced (clear r) = [] := by
  refine ⟨fun r' h => ?_, fun e h => ?_, fun hn => ?_, get?_deregister r n m, rfl⟩
  · obtain ⟨⟨_, hn, _, _⟩, rfl⟩ := (register_ok_iff r n d r').1 h
    rw [get?_append, get?_single]
    cases hm : n == m with
    | true => cases eq_of_beq hm; rw [(get?_none_iff r n).2 hn]
    | false => cases r.get? m <;> rfl
  · rw [applyOp_refused h]; exact ⟨rfl, rfl⟩
  · -- a taken name is refused, whatever the definition
    cases h : register r n d with
    | error e => rw [applyOp_refused h]; exact ⟨rfl, rfl⟩
    | ok r' => rw [((register_ok_iff r n d r').1 h).1.2.1] at hn; cases hn

/-- what the node announces is the registry: a name is announced iff it is registered, with the
conversion (marked as a definition, no reference: `C18_definition_marked`) of the definition it
is registered with, and once per entry -/
theorem C18_announced (r : Registry) (n : Bytes) (mv : MV) :
    ((n, mv) ∈ announced r ↔ ∃ d, (n, d) ∈ r ∧ mv = defToMV d) ∧
    (announced r).map (·.1) = r.names :=
  ⟨mem_announced r n mv, by simp [announced, Registry.names, List.map_map, Function.comp_def]⟩

/-- `EoNBuilder::register_template` panics exactly when registration is refused -/
theorem C18_builder (r : Registry) (name : Bytes) (d : TDef) :
    (builderRegister r name d = .panic ↔ ∃ e, register r name d = .error e) ∧
    (∀ r', builderRegister r name d = .ok r' ↔ register r name d = .ok r') := by
  unfold builderRegister
  cases register r name d with
  | ok r' => simp
  | error e => simp

/-- **registration-only histories keep the registry closed under nesting**: after any sequence
of calls on the registry that contains no `deregister` (registrations, successful or refused, and
`clear`), starting from a closed registry (in particular the empty one), every template nested
anywhere in a registered definition is itself registered -/
theorem C18_registry_closed (r : Registry) (ops : List Op) (hc : Closed r)
    (hk : ∀ o ∈ ops, o.keeps = true) : Closed (applyOps r ops) :=
  closed_applyOps ops r hc hk

/-- … in particular from the empty registry of a new builder, for any list of attempts; moreover
everything a registered definition nests was registered *before* it, no name is registered twice
and none is reserved -/
theorem C18_registrations_ordered (attempts : List (Bytes × TDef)) :
    let r := applyOps [] (registrations attempts)
    Closed r ∧ NestedBefore r ∧ r.names.Nodup ∧ ∀ n ∈ r.names, reserved n = false := by
  refine ⟨closed_applyOps _ _ closed_nil (registrations_keep attempts),
    nestedBefore_applyRegs attempts [] nestedBefore_nil, ?_⟩
  exact namesOk_applyOps _ [] ⟨List.nodup_nil, fun _ h => nomatch h⟩

/-- names stay unique and unreserved under every history, `deregister` included -/
theorem C18_names_unique (ops : List Op) :
    (applyOps [] ops).names.Nodup ∧ ∀ n ∈ (applyOps [] ops).names, reserved n = false :=
  namesOk_applyOps ops [] ⟨List.nodup_nil, fun _ h => nomatch h⟩

/-! ### non-vacuity and the `deregister` caveat (tests, not the claim) -/

section Examples

private def errOf : Except RegErr Registry → Option RegErr
  | .error e => some e
  | .ok _ => none

private def pm : Metric := .plain "" (some 3) (some "v")
private def instOf (r : Bytes) (ms : List Metric) : Metric :=
  .templ "" (some templateCode) none (some r) (some false) ms []
private def A : Bytes := [0x41]
private def B : Bytes := [0x42]
private def C : Bytes := [0x43]
private def dA : TDef := { version := none, metrics := [pm], params := [] }
private def dB : TDef := { version := some [0x31], metrics := [pm, instOf A [pm]], params := ["p"] }
private def dC : TDef := { version := none, metrics := [instOf B [instOf A []]], params := [] }

-- B nests A; C nests B and, inside the B instance, A
example : dB.Nests A := ⟨_, List.mem_cons_of_mem _ (List.mem_cons_self ..), .here⟩
example : dC.Nests A := ⟨_, List.mem_cons_self .., .deeper (List.mem_cons_self ..) .here⟩

-- registration in dependency order succeeds, out of order it is refused with `unregistered`
example : (applyOps [] (registrations [(A, dA), (B, dB), (C, dC)])).names = [A, B, C] := by decide
example : errOf (register [] B dB) = some .unregistered := by decide
example : (applyOps [] (registrations [(C, dC), (B, dB), (A, dA), (B, dB)])).names = [A, B] := by decide
-- the deep reference alone is enough: C with B registered but not A
example : errOf (register [(B, dA)] C dC) = some .unregistered := by decide
-- a later sibling is still checked after a registered one
example : errOf (register [(A, dA)] C { dC with metrics := [instOf A [], instOf B []] })
    = some .unregistered := by decide
example : errOf (register [] bdSeqName dA) = some .invalidName := by decide
example : errOf (register [(A, dA)] A dA) = some .duplicate := by decide
-- a different definition under the taken name is refused and A keeps the one it was registered with
example : errOf (register [(A, dA)] A dB) = some .duplicate := by decide
example : announced (applyOps [] [.register A dA, .register A { dA with version := some [0x31] }])
    = [(A, defToMV dA)] := rfl
-- after `deregister` the name is free for the other definition
example : (applyOps [] [.register A dA, .register A dC, .deregister A,
    .register A { dA with version := some [0x31] }]).get? A = some { dA with version := some [0x31] } := rfl
example : errOf (register [] A { dA with metrics := [.plain "" none none] })
    = some .invalidDefinition := by decide
example : (defToMV dB).markers = some (some true, false) := rfl
example : defShape (markerMV (some (some false, false))) = .errValue := by decide

/-- why the closure theorem excludes `deregister`: removing an inner template leaves the outer
one registered and dangling (the property speaks about registration only) -/
example : ¬ Closed (applyOps [] [.register A dA, .register B dB, .deregister A]) := by
  have e : applyOps [] [.register A dA, .register B dB, .deregister A] = [(B, dB)] := by rfl
  rw [e]
  intro h
  have := h (B, dB) (List.mem_singleton.2 rfl) A
    ⟨_, List.mem_cons_of_mem _ (List.mem_cons_self ..), .here⟩
  revert this; decide

end Examples

end Srad.Templ
