/-
C08 — Closed loop: a srad edge node and a srad host application converge after faults.  PARTIAL.

Property theorems only (helper lemmas: `SradModel/Proofs/Loop.lean`; model: `Model/Loop.lean`,
vocabulary: `Model/LoopSpec.lean`).

What is covered, exactly:
* The composed model is ONE node and the host's per-node actor (`Host.step`, the model validated
  for C05–C07) joined by a broker that may reorder, delay, duplicate every message, drop QoS-0
  messages, deliver the registered will when the node's connection breaks, break and restore
  either connection, with the clock advancing arbitrarily in between (`Sys.step`, 15 actions).
  The node is the SEQUENTIAL abstraction `Loop.Node` (client accepts every call, every action runs
  to quiescence); it is tied to the real edge node by differential execution (driver `nodeabs`)
  and to the task-level model `Model/Eon` by the refinement theorems of `Props/C08Refine.lean`
  (every `Loop.Node` operation is realised by an LTS execution between quiescent states with the
  same hand-overs). Both rebirth cooldowns are 0;
  every store accepts every message (`Ans.ok`).
* `C08_safety` (full, every action sequence): the second sentence of the property.
* `C08_convergence_partial` / `C08_convergence_reachable_partial`: the first sentence for the
  deterministic fault-free continuation `settle 2` from every state of the kind reached after
  "deliver everything" — any host record whatsoever that satisfies the stated conditions, which
  `C08_reachable_facts` shows to hold in every reachable state. It is NOT a theorem about
  every fair fault-free schedule, and "exactly the metric set and latest values" is rendered as
  "the host's effects since the node's last publishes are exactly those publishes, applied once
  each, in order" (ids stand for values; metric sets are C11/C12's subject).
-/
import SradModel.Proofs.Loop
import SradModel.Props.C06

namespace Srad.Loop
open Srad Srad.Host

/-- **Safety, for every action sequence** (any reordering, duplication, loss, disconnects, clock
jumps) from the initial system, whatever the configuration and the registered devices:
(i) every id that occurs in a store effect of the host (`nodeBirth`, `nodeData`, `devBirth d`,
`devData d`) is the id of a message the node handed over before, of the matching kind and for the
same device — the host never exposes a value the node did not publish (the statement holds at
every prefix of the sequence, so "before" is meant literally);
(ii) the host's effect trace is data-guarded: every data effect on the node's store (a device's
store) is preceded, most recently among that store's lifecycle effects, by an accepted birth of
the node (and of that device) — no data from a session the host has declared stale;
(iii) the host's record satisfies the reachable-state invariant of C06. -/
theorem C08_safety (c : Cfg) (devs : List Dev) (acts : List Action) :
    let s := (Sys.init c devs).run acts
    (∀ e ∈ s.effs, EffOk s.sent e) ∧
    DataGuarded .stale (fun _ => .stale) s.effs ∧
    HostInv s.host := by
  intro s
  have h := SafeInv_run c acts _ (SafeInv_init c devs)
  obtain ⟨evs, hwf, hrun⟩ := h.isRun
  refine ⟨h.effs, ?_, ?_⟩
  · have := C06_data_guarded c evs hwf
    rw [hrun] at this
    exact this
  · have := C06_reachable_inv c evs hwf
    rw [hrun] at this
    exact this

/-
Full statement aimed at (not proved in this form): "for every reachable state of the composed system
and every fair fault-free schedule in which the node goes on publishing, eventually `InSync` holds and
keeps holding." Proved in this file: the statements below, for the schedule `settle`, from the state
after its first delivery phase. Proved elsewhere: that phase from EVERY reachable state
(`C08_first_phase_quiet`, `Props/C08Reach.lean`, which also shows that the remaining hypothesis
`InStep → DevsBelow` cannot be dropped); other fault-free schedules than `settle`'s FIFO one
(`Props/C08Sched.lean`, `Props/C08Sched2.lean`: `C08T_convergence_fair`); the tie of the abstract
sequential node to the task-level model (`Props/C08Refine.lean`).
-/

/-- **Convergence of the fault-free continuation — 2 rounds suffice.**
Configuration: every rebirth switch on, reorder timeout `some d` (any `d`), cooldown 0,
resequencing on. Take ANY state in which
* both sides are connected and nothing is in flight in either direction;
* the node is online and birthed, at rest: every device's flag equals its enabled switch, names
  distinct, `seq`, `bdseq` are `u8`, fewer than 255 devices enabled (`NodeOk`: so that one round's
  messages carry distinct sequence numbers — with 255 the host can stay rotated for ever);
  the iteration order of the device map (`devs`) is arbitrary;
* the host's record `h` is ARBITRARY subject to: the reachable-state invariant `HostInv`;
  ClockCoherent (`birthTs ≤ clock`, `staleTs ≤ clock`); the timer discipline `TimerOk` (while
  birthed: messages buffered ⇒ reorder timer running, and no unhandled fired timer — an invariant
  of the composed system, `C08_reachable_facts`); and, ONLY IF `h` is already in step with the node
  (`InStep`: birthed, nothing buffered, no timer, expecting the node's next number, every enabled
  device held birthed — the one case in which no rebirth will be requested), every device it
  holds birthed is enabled at the node (`DevsBelow`; a device held birthed that the node never
  mentions again would stay birthed for ever).
  So `h` may be in sync already; stale; birthed expecting any other sequence number; birthed with
  any buffer contents and the timer armed at any deadline; holding any bdSeq, any `lastRebirth`,
  any device table (unknown devices, missing enabled ones, disabled ones still held birthed).
Then two rounds of `settle` (each: reconnect if needed; deliver everything in flight in order,
NCMDs and the births they cause included; let the clock pass an armed reorder timeout; the node
publishes on the node metric and on every enabled device; deliver everything) end `InSync`:
node and host connected, the host holds the node birthed, expects exactly the node's next
sequence number with nothing buffered and no timer, holds exactly the enabled devices birthed and
every other device it knows stale, nothing is in flight, and the host's effects since the last
publishes are exactly those `1 + #enabled` publishes applied once each in publish order. -/
theorem C08_convergence_partial (d : Nat) (s : Sys)
    (hcfg : s.cfg = Sys.fullCfg d)
    (hconn : s.nodeConn = true ∧ s.hostConn = true)
    (hflight : s.toHost = [] ∧ s.toNode = 0)
    (hnode : NodeOk s.node)
    (hinv : HostInv s.host) (hclock : Coherent s.host s.clock) (htimer : TimerOk s.host)
    (hdevs : InStep s.host s.node → DevsBelow s.host s.node) :
    Sys.InSync (Sys.settle 2 s).1 (Sys.settle 2 s).2 = true := by
  exact settle_sync d s ⟨hcfg, hconn.1, hconn.2, hflight.1, hnode⟩ hflight.2 hinv hclock htimer hdevs 0

/-- … and it stays: under the same hypotheses every number of rounds `k ≥ 2` ends `InSync`
(each further round applies exactly its own publishes). -/
theorem C08_stays_in_sync (d : Nat) (s : Sys) (k : Nat)
    (hcfg : s.cfg = Sys.fullCfg d)
    (hconn : s.nodeConn = true ∧ s.hostConn = true)
    (hflight : s.toHost = [] ∧ s.toNode = 0)
    (hnode : NodeOk s.node)
    (hinv : HostInv s.host) (hclock : Coherent s.host s.clock) (htimer : TimerOk s.host)
    (hdevs : InStep s.host s.node → DevsBelow s.host s.node) :
    Sys.InSync (Sys.settle (k + 2) s).1 (Sys.settle (k + 2) s).2 = true := by
  exact settle_sync d s ⟨hcfg, hconn.1, hconn.2, hflight.1, hnode⟩ hflight.2 hinv hclock htimer hdevs k

/-- **The hypotheses are facts of every reachable state.** Under the full configuration, after
ANY action sequence from the initial system (devices registered under distinct names, none
birthed): the host's record satisfies `HostInv`, `TimerOk` and `Coherent`; and whenever the node
is birthed it is at rest in the sense of `NodeOk`, apart from the bound on enabled devices. -/
theorem C08_reachable_facts (d : Nat) (devs : List Dev) (acts : List Action)
    (hnames : (devs.map (·.name)).Nodup) (hflags : ∀ x ∈ devs, x.flag = false) :
    let s := (Sys.init (Sys.fullCfg d) devs).run acts
    s.cfg = Sys.fullCfg d ∧ HostInv s.host ∧ TimerOk s.host ∧ Coherent s.host s.clock ∧
    (s.node.birthed = true → s.node.enabledNames.length < 255 → NodeOk s.node) := by
  intro s
  have hl := LiveInv_run d acts _ (LiveInv_init d devs)
  have hn := NodeInv_run acts _ (NodeInv_init (Sys.fullCfg d) devs hnames hflags)
  exact ⟨hl.safe.cfg, hl.safe.hostInv, hl.timer, ⟨hl.birthTs, hl.staleTs⟩,
    fun hb hfew => hn.nodeOk hl.safe.bd hb hfew⟩

/-- **Convergence from reachable states.** After ANY action sequence (any faults) from the
initial system under the full configuration: if both sides are connected, nothing is in flight,
the node is birthed with fewer than 255 devices enabled, and — only in case the host's record is
already `InStep` — the host holds no device birthed that is not enabled, then two rounds of
`settle` end `InSync`. Every other hypothesis of `C08_convergence_partial` is discharged by
reachability. -/
theorem C08_convergence_reachable_partial (d : Nat) (devs : List Dev) (acts : List Action)
    (hnames : (devs.map (·.name)).Nodup) (hflags : ∀ x ∈ devs, x.flag = false) :
    let s := (Sys.init (Sys.fullCfg d) devs).run acts
    s.nodeConn = true ∧ s.hostConn = true → s.toHost = [] ∧ s.toNode = 0 →
    s.node.birthed = true → s.node.enabledNames.length < 255 →
    (InStep s.host s.node → DevsBelow s.host s.node) →
    Sys.InSync (Sys.settle 2 s).1 (Sys.settle 2 s).2 = true := by
  intro s hconn hflight hb hfew hdevs
  obtain ⟨h1, h2, h3, h4, h5⟩ := C08_reachable_facts d devs acts hnames hflags
  exact C08_convergence_partial d s h1 hconn hflight (h5 hb hfew) h2 h4 h3 hdevs

/-! ### non-vacuity -/

/-- three registered devices, the second one disabled -/
def exDevs : List Dev :=
  [{ name := 1, enabled := true }, { name := 2, enabled := false }, { name := 3, enabled := true }]

/-- connect both, deliver the births, publish a round, and LOSE the DDATA of device 1: the host
buffers the DDATA of device 3 behind the gap and arms the reorder timer -/
def exLossy : List Action :=
  [.hostConnect, .nodeConnect, .deliver 0, .deliver 0, .deliver 0, .advance 1,
   .publishNode, .publishDev 1, .publishDev 3, .deliver 0, .drop 0, .deliver 0]

/-- the lossy scenario ends out of sync (gap, timer armed); `settle` — timeout, NCMD, rebirth,
births applied, publishes applied — ends `InSync` -/
example :
    let s := (Sys.init (Sys.fullCfg 100) exDevs).run exLossy
    s.host.timer = .armed 102 ∧ s.host.reseq.buf.length = 1 ∧ Sys.InSync s [] = false ∧
    Sys.InSync (Sys.settle 2 s).1 (Sys.settle 2 s).2 = true := by decide

/-- the node's connection breaks (its will is delivered out of order, before an NDATA still in
flight), device 3 is disabled and device 2 enabled while offline, the node reconnects -/
def exReconnect : List Action :=
  [.hostConnect, .nodeConnect, .deliver 0, .deliver 0, .deliver 0, .advance 1,
   .publishNode, .nodeDisconnect, .deliver 1, .advance 5, .disable 3, .enable 2, .nodeConnect]

example :
    let s := (Sys.init (Sys.fullCfg 100) exDevs).run exReconnect
    s.host.life = .stale ∧ s.toHost.length = 4 ∧ s.node.bdseq = 1 ∧
    Sys.InSync (Sys.settle 2 s).1 (Sys.settle 2 s).2 = true ∧
    (Sys.settle 2 s).1.host.devices = [(1, .birthed), (3, .stale), (2, .birthed)] := by decide

/-- the hypotheses of `C08_convergence_partial` are satisfiable by a state that is not in sync:
the state the lossy scenario ends in -/
example :
    let s := (Sys.init (Sys.fullCfg 100) exDevs).run exLossy
    s.cfg = Sys.fullCfg 100 ∧ (s.nodeConn = true ∧ s.hostConn = true) ∧ (s.toHost = [] ∧ s.toNode = 0) ∧
    NodeOk s.node ∧ HostInv s.host ∧ Coherent s.host s.clock ∧ TimerOk s.host ∧
    (InStep s.host s.node → DevsBelow s.host s.node) ∧ Sys.InSync s [] = false := by
  refine ⟨rfl, by decide, by decide, ⟨by decide, by decide, by decide, by decide, by decide, by decide, by decide⟩,
    (C08_safety _ _ _).2.2, ⟨by decide, by decide⟩, ?_, ?_, by decide⟩
  · intro _; exact ⟨by decide, fun _ => ⟨102, by decide⟩⟩
  · intro _ dv hdv
    have : dv = 1 ∨ dv = 3 := by
      have hm := findDev_some_mem_fst dv _ _ hdv
      have : ((Sys.init (Sys.fullCfg 100) exDevs).run exLossy).host.devices.map Prod.fst = [1, 3] := by decide
      rw [this] at hm
      simpa using hm
    rcases this with rfl | rfl <;> decide

end Srad.Loop
