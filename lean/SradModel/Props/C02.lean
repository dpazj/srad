/-
C02 — Edge node sequence numbers are gap-free per node birth.
Property theorems only (helper lemmas: `SradModel/Proofs/EonC02.lean`).
An execution is ANY interleaving of environment stimuli and task steps of the LTS `Model/Eon`
(`runActs`), with any client decision (accept / reject / park) on every hand-over.
-/
import SradModel.Proofs.EonC02

namespace Srad.Eon
open Srad.Eon.P02

/-- **C02.** In the observation trace of every execution: every NBIRTH carries seq 0; the NDATA,
DBIRTH, DDATA and DDEATH hand-overs after it carry 1, 2, 3, … (255 wrapping to 0) in exactly
hand-over order until the next NBIRTH, whichever task publishes and whatever the client answers;
no seq-bearing message is handed over before the first NBIRTH; SUB, NDEATH and DISCONNECT carry
no sequence number. -/
theorem C02_seq_gap_free (cd : Nat) (acts : List Act) (s : St) (tr : List Obs)
    (h : runActs (init cd) acts = some (s, tr)) : seqOk none tr = true := by
  exact (runActs_ok h).1

/-- the counter in the state is the number the last seq-bearing hand-over carried (0 right after
an NBIRTH), always a `u8` -/
theorem C02_seq_is_u8 (cd : Nat) (acts : List Act) (s : St) (tr : List Obs)
    (h : runActs (init cd) acts = some (s, tr)) : s.seq < 256 ∧ s.bdseq < 256 := by
  obtain ⟨_, hI⟩ := (runActs_ok h).2
  exact ⟨hI.1, hI.2.1⟩

/-! ### non-vacuity: a concrete execution with two publishers and a wrap-free prefix -/
example :
    (runActs (init 0) [.task .loop .acc 0, .stim (.ev .online), .task .loop .acc 0, .task .loop .acc 0,
      .task .node .acc 0, .task .node .acc 0, .task .node .acc 0, .task .node .acc 0,
      .stim (.pub 0 .node true 1), .task (.user 0) .acc 0]).map (·.2)
      = some [.will 0, .poll, .polled .online, .call 0 .sub none none none false .acc, .bNode,
              .call 1 .nbirth none (some 0) (some 0) false .acc,
              .call 2 .ndata none (some 1) none true .acc, .ures 0 .ok] := by decide

end Srad.Eon
