/-
C08, continued — convergence from EVERY reachable state of the closed loop: what the first phase of
`settle` achieves, and the exact condition under which the fault-free continuation converges.

Property theorems only (helper lemmas: `SradModel/Proofs/LoopReach.lean`; model `Model/Loop.lean`,
vocabulary `Model/LoopSpec.lean`; the earlier theorems: `Props/C08.lean`).

`C08_convergence_reachable_partial` (Props/C08.lean) ASSUMED two things about the reachable state
it starts from: (H1) both sides connected, nothing in flight, node birthed — the state after
settle's first delivery phase; (H2) `InStep → DevsBelow`. This file settles both:

* (H1) is PROVED (`C08_first_drain`, `C08_first_phase_quiet`), with one correction found by bounded
  search (the exploration under `findings/c08_explore/`, 15 actions, all sequences): `drain`'s fuel `toNode + #toHost` is short by
  one when a reorder timer that is running fires inside `drain` — exactly one rebirth NCMD can be
  left in flight after `drain (reconnect s)` (`C08_first_drain_leaves_ncmd`, a concrete schedule);
  with fuel `+ 1` none is left, and the second delivery phase of the same round (`timerPhase`,
  `drain`) always removes it. So the state after the TWO delivery phases of a round
  (`Sys.firstPhase`) is quiet in both directions from every reachable state.
* (H2) CANNOT be removed: it is not an invariant of the model, and where it fails the loop never
  converges (`C08_instep_devsbelow_fails`, `C08_convergence_reachable_false`): there are fault
  schedules — found by the same search: 7 actions if the host application connects late, 9 (plus
  two clock ticks) with the host connected throughout and the clock advancing before every birth,
  13 with QoS-0 loss as the only fault — after which the host is in step with
  the node (same expected sequence number, nothing buffered, no timer) yet holds a device birthed
  that the node has disabled, for good. All of them are "session confusion": the host follows the
  numbering of an OLDER node birth than the node's current one because the newer NBIRTH (QoS 0)
  was lost or ignored, and as many messages were lost as were needed for the numbers to line up.
  The u8 sequence number and the `ts < birthTs` filter cannot tell the sessions apart. With
  reordering as the only fault the search finds nothing up to 12 actions; the u8 wrap-around (one
  DBIRTH overtaken by 256 messages) does it (`C08_instep_devsbelow_fails_reorder_only`).
  In every state the search visited (10 M), "no `k ≤ 6` ends `InSync`" coincided with "(H2) fails
  after the first round's delivery phases", and every other state was `InSync` after 2 rounds —
  which is what `C08_convergence_reachable_iff` proves for all states.
* What IS true from every reachable state is proved, and it is exact:
  `C08_convergence_reachable_iff`: `settle` ends `InSync` (for some / for every `k ≥ 2`) IF AND
  ONLY IF the record left by the delivery phases of the first round satisfies `InStep → DevsBelow`.

* `C08_convergence_reachable_all_enabled`: with no registered device disabled in the state reached,
  (H2) holds by an invariant (`DevNames`: the host only knows registered devices), so convergence
  from EVERY such reachable state is proved without any assumption about the host or the broker.

Remaining model-level limits (documented, unchanged): accepting stores, one node, fewer than 255
enabled devices, cooldown 0, the FIFO settling schedule `settle`.
-/
import SradModel.Proofs.LoopReach
import SradModel.Props.C08

namespace Srad.Loop
open Srad Srad.Host

/-- **Connection bookkeeping of every reachable state** (any configuration): the broker's view of
the node's connection is the node's own (`nodeConn = online`), and an online node is birthed. -/
theorem C08_reachable_conn (c : Cfg) (devs : List Dev) (acts : List Action) :
    let s := (Sys.init c devs).run acts
    s.nodeConn = s.node.online ∧ (s.node.online = true → s.node.birthed = true) := by
  intro s
  have h := ConnInv_run acts _ (ConnInv_init c devs)
  exact ⟨h.conn, h.birthed⟩

/-- **The first delivery phase, from EVERY reachable state — with its fuel stated.**
After ANY action sequence from the initial system under the full configuration (devices registered
under distinct names, none birthed), if fewer than 255 devices are enabled: reconnect both sides
and run the delivery loop `drainNet f` with ANY fuel `f ≥ B := toNode + #toHost` (counted after the
reconnect; `Sys.drain` supplies exactly `f = B`). Then both sides are connected, nothing is in
flight towards the host, the node is online, birthed and at rest (`NodeOk`), and AT MOST ONE rebirth
NCMD is still in flight towards the node; with `f ≥ B + 1` none is.
(Why `B` is not enough: each of the `#toHost` deliveries can request one rebirth, and on top of
these a reorder timer that was already running can fire when `drainNet` advances the clock: `B + 1`
requests, `B` iterations. `C08_first_drain_leaves_ncmd` is a concrete run.) -/
theorem C08_first_drain (d : Nat) (devs : List Dev) (acts : List Action)
    (hnames : (devs.map (·.name)).Nodup) (hflags : ∀ x ∈ devs, x.flag = false) :
    let s := (Sys.init (Sys.fullCfg d) devs).run acts
    let B := (Sys.reconnect s).toNode + (Sys.reconnect s).toHost.length
    s.node.enabledNames.length < 255 → ∀ f, B ≤ f →
    let E := Sys.drainNet f (Sys.reconnect s)
    (E.nodeConn = true ∧ E.hostConn = true) ∧ E.toHost = [] ∧ NodeOk E.node ∧ E.toNode ≤ 1 ∧
    (B + 1 ≤ f → E.toNode = 0) := by
  intro s B hfew f hf E
  obtain ⟨q, t1, _, _, t0⟩ := first_drain d s (reach_run d devs acts hnames hflags) hfew f hf
  exact ⟨⟨q.nodeConn, q.hostConn⟩, q.flight, q.node, t1, t0⟩

/-- **The delivery phases of one settling round empty the broker, from EVERY reachable state.**
After ANY action sequence from the initial system under the full configuration, if fewer than 255
devices are enabled, the state `Sys.firstPhase s` = reconnect; deliver everything in flight in order
(NCMDs and the births they cause included, `drain`); let a running reorder timeout expire; `drain`
again — has both sides connected, NOTHING in flight in either direction, the node online, birthed
and at rest, and the host's record without a timer and with an empty buffer (and, being reachable,
`HostInv`, `TimerOk`, `Coherent`). This discharges hypothesis (H1) of
`C08_convergence_reachable_partial`. -/
theorem C08_first_phase_quiet (d : Nat) (devs : List Dev) (acts : List Action)
    (hnames : (devs.map (·.name)).Nodup) (hflags : ∀ x ∈ devs, x.flag = false) :
    let s := (Sys.init (Sys.fullCfg d) devs).run acts
    let p := Sys.firstPhase s
    s.node.enabledNames.length < 255 →
    (p.nodeConn = true ∧ p.hostConn = true) ∧ (p.toHost = [] ∧ p.toNode = 0) ∧ NodeOk p.node ∧
    p.host.timer = .none ∧ p.host.reseq.buf = [] ∧
    HostInv p.host ∧ TimerOk p.host ∧ Coherent p.host p.clock := by
  intro s p hfew
  have hp := firstPhase_spec d s (reach_run d devs acts hnames hflags) hfew
  refine ⟨⟨hp.quiet.nodeConn, hp.quiet.hostConn⟩, ⟨hp.quiet.flight, hp.toNode⟩, hp.quiet.node, hp.pre.timer, ?_,
    hp.pre.inv, hp.timerOk, ⟨hp.pre.birthTs, hp.pre.staleTs⟩⟩
  cases hl : p.host.life with
  | stale => rw [(hp.pre.inv.2.1 hl).1]; rfl
  | birthed =>
    have := hp.pre.inv.1.2
    rw [hp.good hl] at this
    exact this

/-
Full statement aimed at: "from EVERY reachable state (fewer than 255 enabled devices) some number of
`settle` rounds ends `InSync`, and it stays." This is FALSE in the model
(`C08_convergence_reachable_false`). Proved instead: the exact condition.
-/

/-- **Convergence from every reachable state — the exact condition.**
After ANY action sequence (any faults) from the initial system under the full configuration, with
fewer than 255 devices enabled, let `p` be the state after the delivery phases of the first round
(`Sys.firstPhase`, quiet by `C08_first_phase_quiet`). Then the following are equivalent:
(1) some positive number of `settle` rounds ends `InSync`;
(2) every number `k ≥ 2` of rounds ends `InSync`;
(3) the host's record in `p` is not "in step with the node while holding a device birthed that the
    node has not enabled" (`InStep → DevsBelow`).
Nothing else is assumed: connection state, messages in flight, NCMDs in flight, the host's record
are whatever the faults left. (3) holds in particular whenever the host's record in `p` is stale,
expects another sequence number, or was (re)built by a rebirth during the delivery phases. -/
theorem C08_convergence_reachable_iff (d : Nat) (devs : List Dev) (acts : List Action)
    (hnames : (devs.map (·.name)).Nodup) (hflags : ∀ x ∈ devs, x.flag = false) :
    let s := (Sys.init (Sys.fullCfg d) devs).run acts
    let p := Sys.firstPhase s
    s.node.enabledNames.length < 255 →
    ((∃ k, 0 < k ∧ Sys.InSync (Sys.settle k s).1 (Sys.settle k s).2 = true) ↔
      (InStep p.host p.node → DevsBelow p.host p.node)) ∧
    ((InStep p.host p.node → DevsBelow p.host p.node) →
      ∀ k, Sys.InSync (Sys.settle (k + 2) s).1 (Sys.settle (k + 2) s).2 = true) := by
  intro s p hfew
  have hr := reach_run d devs acts hnames hflags
  refine ⟨⟨?_, fun hb => ⟨2, by omega, settle_reach d s hr hfew hb 0⟩⟩, settle_reach d s hr hfew⟩
  intro ⟨k, hk, hsync⟩ hi
  apply Classical.byContradiction
  intro hnb
  obtain ⟨j, rfl⟩ : ∃ j, k = j + 1 := ⟨k - 1, by omega⟩
  rw [settle_stuck d s hr hfew hi hnb j] at hsync
  cases hsync

/-- **Convergence from every reachable state, as an implication** (the form of
`C08_convergence_reachable_partial`, with hypothesis (H1) gone and (H2) moved to the state after the
first round's delivery phases): two rounds of `settle` end `InSync`. PARTIAL only in that (H2)
remains — and by `C08_convergence_reachable_iff` it has to. -/
theorem C08_convergence_from_reachable_partial (d : Nat) (devs : List Dev) (acts : List Action)
    (hnames : (devs.map (·.name)).Nodup) (hflags : ∀ x ∈ devs, x.flag = false) :
    let s := (Sys.init (Sys.fullCfg d) devs).run acts
    s.node.enabledNames.length < 255 →
    (InStep (Sys.firstPhase s).host (Sys.firstPhase s).node →
      DevsBelow (Sys.firstPhase s).host (Sys.firstPhase s).node) →
    Sys.InSync (Sys.settle 2 s).1 (Sys.settle 2 s).2 = true := by
  intro s hfew hb
  exact (C08_convergence_reachable_iff d devs acts hnames hflags hfew).2 hb 0

/-- … and it stays, for every number of rounds `k ≥ 2`. -/
theorem C08_stays_in_sync_reachable (d : Nat) (devs : List Dev) (acts : List Action) (k : Nat)
    (hnames : (devs.map (·.name)).Nodup) (hflags : ∀ x ∈ devs, x.flag = false) :
    let s := (Sys.init (Sys.fullCfg d) devs).run acts
    s.node.enabledNames.length < 255 →
    (InStep (Sys.firstPhase s).host (Sys.firstPhase s).node →
      DevsBelow (Sys.firstPhase s).host (Sys.firstPhase s).node) →
    Sys.InSync (Sys.settle (k + 2) s).1 (Sys.settle (k + 2) s).2 = true := by
  intro s hfew hb
  exact (C08_convergence_reachable_iff d devs acts hnames hflags hfew).2 hb k

/-- **Convergence from EVERY reachable state in which no registered device is disabled** — no
hypothesis about the host's record, the messages in flight or the fault history at all.
After ANY action sequence (any faults; devices may have been disabled and enabled again on the way)
from the initial system under the full configuration: if in the state reached every registered
device is enabled (fewer than 255 of them), then every number `k ≥ 2` of `settle` rounds ends
`InSync`. (The host only ever learns device names from DBIRTHs the node handed over, so it knows
registered devices only — `DevNames`, an invariant of the composed system — and with all of them
enabled "`InStep → DevsBelow`" holds trivially. The schedules below need a disabled device.) -/
theorem C08_convergence_reachable_all_enabled (d : Nat) (devs : List Dev) (acts : List Action) (k : Nat)
    (hnames : (devs.map (·.name)).Nodup) (hflags : ∀ x ∈ devs, x.flag = false) :
    let s := (Sys.init (Sys.fullCfg d) devs).run acts
    (∀ x ∈ s.node.devs, x.enabled = true) → s.node.enabledNames.length < 255 →
    Sys.InSync (Sys.settle (k + 2) s).1 (Sys.settle (k + 2) s).2 = true := by
  intro s hall hfew
  exact (C08_convergence_reachable_iff d devs acts hnames hflags hfew).2
    (fun _ => allEnabled_firstPhase s (DevNames_run acts _ (DevNames_init _ devs)) hall) k

/-! ### (H2) cannot be removed: the schedules found by bounded search -/

/-- one registered device, disabled -/
def exOneDev : List Dev := [{ name := 1 }]

/-- **Session confusion (host connected throughout, the clock advances before every birth).**
  1. the host application is connected; the node connects at t=2: NBIRTH(bd 0, t=2) in flight;
  2. device 1 is enabled (DBIRTH seq 1) and disabled again (DDEATH seq 2);
  3. REORDER: the DDEATH overtakes NBIRTH and DBIRTH and reaches the host, which knows no birth of
     this node: it publishes a rebirth NCMD;
  4. t=3: the NCMD reaches the node, which births again: NBIRTH(t=3), no DBIRTH (device disabled),
     and then publishes one NDATA (seq 1);
  5. LOSS (QoS 0): that second NBIRTH and the NDATA are dropped by the broker;
  6. the delayed first NBIRTH(t=2) and DBIRTH(seq 1) are delivered at last (settle's delivery phase).
The host has applied NBIRTH(t=2), DBIRTH seq 1 and expects seq 2; the node (second birth, one
NDATA) will send seq 2 next: in step, nothing buffered, no timer, nothing in flight — and the host
holds device 1 birthed although it is disabled. Nothing the node will ever send reveals it. -/
def exConfused : List Action :=
  [.hostConnect, .advance 1, .nodeConnect, .enable 1, .disable 1, .deliver 2,
   .advance 1, .deliverNcmd, .publishNode, .drop 2, .drop 2]

/-- **(H2) is not an invariant**: after `exConfused`, the state left by the delivery phases is quiet,
the host is `InStep`, and it holds device 1 birthed, which the node has not enabled. -/
theorem C08_instep_devsbelow_fails :
    let s := (Sys.init (Sys.fullCfg 100) exOneDev).run exConfused
    let p := Sys.firstPhase s
    InStep p.host p.node ∧ ¬ DevsBelow p.host p.node ∧
    Host.findDev 1 p.host.devices = some .birthed ∧ p.node.enabledNames = [] := by
  intro s p
  have h : InStep p.host p.node ∧ Host.findDev 1 p.host.devices = some .birthed ∧ p.node.enabledNames = [] := by
    decide
  exact ⟨h.1, not_devsBelow h.2.1 (by rw [h.2.2]; exact List.not_mem_nil), h.2.1, h.2.2⟩

/-- **The full statement is false in the model**: there is a reachable state (one registered
device, none enabled) from which NO number of `settle` rounds ends `InSync`. -/
theorem C08_convergence_reachable_false :
    let s := (Sys.init (Sys.fullCfg 100) exOneDev).run exConfused
    ∀ k, 0 < k → Sys.InSync (Sys.settle k s).1 (Sys.settle k s).2 = false := by
  intro s k hk
  obtain ⟨h1, h2, _, _⟩ := C08_instep_devsbelow_fails
  obtain ⟨j, rfl⟩ : ∃ j, k = j + 1 := ⟨k - 1, by omega⟩
  exact settle_stuck 100 s (reach_run 100 exOneDev exConfused (by decide) (by decide)) (by decide) h1 h2 j

/-- **Session confusion by LOSS ALONE** (no reordering, no duplicate, host connected throughout,
the clock advances before every birth; only QoS-0 messages are dropped):
  1. host connected; t=2 the node connects: NBIRTH(t=2); it publishes NDATA seq 1, NDATA seq 2 and
     enables device 1: DBIRTH seq 3;
  2. the host receives NBIRTH(t=2); LOSS: NDATA seq 1 is dropped;
  3. t=3 manual rebirth: NBIRTH(t=3), DBIRTH seq 1 (device 1 is enabled); LOSS: NDATA seq 2 dropped;
  4. device 1 is disabled: DDEATH seq 2; LOSS: the NBIRTH(t=3) is dropped;
  5. the node publishes NDATA seq 3; LOSS: dropped.
In flight, in publish order: DBIRTH seq 3 (first birth), DBIRTH seq 1, DDEATH seq 2 (second birth).
Delivered in that order: seq 3 is buffered behind the gap, seq 1 is applied (device birthed), seq 2
is applied (device stale), the buffered DBIRTH seq 3 OF THE FIRST BIRTH is released and applied:
device birthed. The host expects seq 4, the node (seq 3) will send 4: in step for good, device 1
held birthed although disabled. -/
def exConfusedLossOnly : List Action :=
  [.hostConnect, .advance 1, .nodeConnect, .publishNode, .publishNode, .enable 1, .deliver 0, .drop 0,
   .advance 1, .manualRebirth, .drop 0, .disable 1, .drop 1, .publishNode, .drop 3]

theorem C08_instep_devsbelow_fails_loss_only :
    let s := (Sys.init (Sys.fullCfg 100) exOneDev).run exConfusedLossOnly
    let p := Sys.firstPhase s
    s.toHost.map Msg.dataShape = [none, none, none] ∧
    InStep p.host p.node ∧ ¬ DevsBelow p.host p.node ∧
    Host.findDev 1 p.host.devices = some .birthed ∧ p.node.enabledNames = [] ∧
    (∀ k, 0 < k → k ≤ 6 → Sys.InSync (Sys.settle k s).1 (Sys.settle k s).2 = false) := by
  intro s p
  have h : s.toHost.map Msg.dataShape = [none, none, none] ∧ s.node.enabledNames.length < 255 ∧
      InStep p.host p.node ∧ Host.findDev 1 p.host.devices = some .birthed ∧ p.node.enabledNames = [] := by
    decide
  obtain ⟨h0, hfew, h1, h3, h4⟩ := h
  have h2 : ¬ DevsBelow p.host p.node := not_devsBelow h3 (by rw [h4]; exact List.not_mem_nil)
  refine ⟨h0, h1, h2, h3, h4, fun k hk _ => ?_⟩
  obtain ⟨j, rfl⟩ : ∃ j, k = j + 1 := ⟨k - 1, by omega⟩
  exact settle_stuck 100 s (reach_run 100 exOneDev exConfusedLossOnly (by decide) (by decide)) hfew h1 h2 j

/-- **Session confusion by REORDERING ALONE** (no loss, no duplicate, host connected throughout,
the clock advances before the rebirth) — the u8 wrap-around:
  1. a first birth makes device 1 known to the host (enabled, disabled again; all delivered);
  2. t=2 manual rebirth, delivered; device 1 is enabled: DBIRTH seq 1 — DELAYED by the broker;
     device 1 is disabled: DDEATH seq 2, delivered (buffered behind the gap, timer armed);
  3. the node publishes 254 NDATA (seq 3 … 255, 0), all delivered and buffered, then NDATA seq 1 of
     the SECOND lap, delivered: it is the expected number, so it and the whole buffer are applied
     (device 1 stale), the timer is cancelled, the host expects seq 1 again;
  4. the delayed DBIRTH seq 1 arrives (settle's delivery phase): applied, device 1 birthed; the host
     expects seq 2, and so does the node.
256 messages overtook one. -/
def exWrap : List Action :=
  [.hostConnect, .nodeConnect, .deliver 0, .enable 1, .deliver 0, .disable 1, .deliver 0,
   .advance 1, .manualRebirth, .deliver 0, .enable 1, .disable 1, .deliver 1] ++
  (List.replicate 254 [Action.publishNode, .deliver 1]).flatten ++ [.publishNode, .deliver 1]

theorem exWrap_firstPhase :
    let s := (Sys.init (Sys.fullCfg 100) exOneDev).run exWrap
    let p := Sys.firstPhase s
    s.toHost.length = 1 ∧ InStep p.host p.node ∧ Host.findDev 1 p.host.devices = some .birthed ∧
      1 ∉ p.node.enabledNames := by
  -- the 254 rounds in which the host only buffers are not evaluated (`run_fill`): before them the
  -- DBIRTH seq 1 (id 4) is in flight, the host waits for seq 1 (timer armed for t=102, keys relative
  -- to 1) and holds the DDEATH seq 2 under key 1; the NDATA seq 3, 4, … get the keys 2, 3, …
  rw [exWrap, run_append, run_append,
    run_fill (m0 := .dbirth 1 1 2 4) (dl := 102) (off := 1) (k0 := 2) (J := 254)]
  · decide +kernel
  all_goals decide +kernel

theorem C08_instep_devsbelow_fails_reorder_only :
    let s := (Sys.init (Sys.fullCfg 100) exOneDev).run exWrap
    let p := Sys.firstPhase s
    s.toHost.length = 1 ∧ InStep p.host p.node ∧ ¬ DevsBelow p.host p.node :=
  have h := exWrap_firstPhase
  ⟨h.1, h.2.1, not_devsBelow h.2.2.1 h.2.2.2⟩

/-- **`drain`'s fuel is short by one**: connect; two NDATA are published; the host receives the
first NDATA before the NBIRTH (it requests a rebirth: one NCMD in flight), then NBIRTH, then the
second NDATA (a gap: the reorder timer is armed, timeout 2); one clock tick. Now `drain (reconnect s)`
has fuel 1: its only iteration lets the timer fire (a second NCMD) and serves one NCMD; the other
one is still in flight when it returns. The next delivery phase of the round serves it. -/
def exShortFuel : List Action :=
  [.hostConnect, .nodeConnect, .publishNode, .publishNode, .deliver 1, .deliver 0, .deliver 0, .advance 1]

theorem C08_first_drain_leaves_ncmd :
    let s := (Sys.init (Sys.fullCfg 2) []).run exShortFuel
    (Sys.drain (Sys.reconnect s)).toNode = 1 ∧ (Sys.firstPhase s).toNode = 0 ∧
    Sys.InSync (Sys.settle 2 s).1 (Sys.settle 2 s).2 = true := by decide

/-! ### non-vacuity -/

/-- `C08_first_drain` / `C08_first_phase_quiet` on the two faulty runs of `Props/C08.lean`: the
lossy one ends with a gap and the timer armed, the reconnect one with the host stale, four messages
in flight and the node reconnected under a new bdSeq; in both the delivery phases end quiet. -/
example :
    let s := (Sys.init (Sys.fullCfg 100) exDevs).run exLossy
    let p := Sys.firstPhase s
    s.host.timer = .armed 102 ∧ p.toHost = [] ∧ p.toNode = 0 ∧ p.host.timer = .none ∧
    p.host.life = .birthed ∧ p.clock = 103 := by decide

example :
    let s := (Sys.init (Sys.fullCfg 100) exDevs).run exReconnect
    let p := Sys.firstPhase s
    s.toHost.length = 4 ∧ s.host.life = .stale ∧ p.toHost = [] ∧ p.toNode = 0 ∧ p.host.life = .birthed ∧
    p.host.devices = [(1, .birthed), (3, .stale), (2, .birthed)] := by decide

/-- the hypotheses of `C08_convergence_from_reachable_partial` hold of a faulty reachable state that
is neither quiet nor in sync: `exReconnect` (in flight: NDEATH … NBIRTH DBIRTH DBIRTH; after the
delivery phases the host is in step and holds exactly the enabled devices birthed) -/
example :
    let s := (Sys.init (Sys.fullCfg 100) exDevs).run exReconnect
    s.node.enabledNames.length < 255 ∧ s.toHost ≠ [] ∧ Sys.InSync s [] = false ∧
    (InStep (Sys.firstPhase s).host (Sys.firstPhase s).node →
      DevsBelow (Sys.firstPhase s).host (Sys.firstPhase s).node) :=
  ⟨by decide, by decide, by decide, fun _ => devsBelow_of_all _ _ (by decide)⟩

/-- … and of a state in which the theorem's conclusion needs a rebirth: the host connected late,
lost the births, and the publishes hit a stale record -/
example :
    let s := (Sys.init (Sys.fullCfg 100) exDevs).run
      [.nodeConnect, .deliver 0, .deliver 0, .deliver 0, .hostConnect, .publishNode, .publishDev 3, .drop 0]
    s.toHost.length = 1 ∧ s.host.life = .stale ∧
    (InStep (Sys.firstPhase s).host (Sys.firstPhase s).node →
      DevsBelow (Sys.firstPhase s).host (Sys.firstPhase s).node) ∧
    Sys.InSync (Sys.settle 2 s).1 (Sys.settle 2 s).2 = true :=
  ⟨by decide, by decide, fun _ => devsBelow_of_all _ _ (by decide), by decide⟩

/-- `C08_convergence_reachable_all_enabled` applies to a faulty state: two devices, both enabled;
the lossy run of `Props/C08.lean` (a DDATA lost, the next one buffered behind the gap, timer armed) -/
example :
    let s := (Sys.init (Sys.fullCfg 100) [{ name := 1, enabled := true }, { name := 3, enabled := true }]).run exLossy
    (∀ x ∈ s.node.devs, x.enabled = true) ∧ s.node.enabledNames.length < 255 ∧
    s.host.timer = .armed 102 ∧ Sys.InSync s [] = false ∧
    Sys.InSync (Sys.settle 2 s).1 (Sys.settle 2 s).2 = true := by decide

end Srad.Loop
