/- Lemmas about the command handling of the edge node (`Model/Cmd.lean`) for C15 (`Props/C15.lean`). -/
import SradModel.Model.CmdSpec

namespace Srad.Cmd
open Srad.Codec

/-! ### metric.rs -/

theorem toMessageMetric_eq_delivery (m : Metric) : toMessageMetric m = m.delivery := by
  rcases m with ⟨name, alias, ts, isNull, value⟩
  cases alias <;> cases name <;> cases value <;> rcases isNull with _ | _ | _ <;> rfl

/-- what is delivered for a metric, and when -/
theorem delivery_eq_some_iff (m : Metric) (mm : MessageMetric) :
    m.delivery = some mm ↔
      m.WellFormed ∧ m.specId = some mm.id ∧ mm.ts = m.ts ∧ mm.value = m.value := by
  unfold Metric.delivery Metric.WellFormed
  cases m.specId with
  | none => simp
  | some id =>
    by_cases hv : m.value.isSome ∨ m.isNull = some true
    · simp only [hv, if_true, Option.some.injEq, Option.isSome_some, true_and]
      constructor
      · rintro rfl; exact ⟨rfl, rfl, rfl⟩
      · rintro ⟨rfl, h2, h3⟩; rcases mm with ⟨i, t, v⟩; cases h2; cases h3; rfl
    · simp [hv]

theorem drainIter_eq_spec (ms : List Metric) : drainIter ms = deliveredSpec ms := by
  induction ms with
  | nil => rfl
  | cons m t ih =>
    simp only [drainIter, deliveredSpec, List.filterMap_cons, toMessageMetric_eq_delivery]
    cases h : m.delivery <;> simp [ih, deliveredSpec]

theorem rebirthLoop_cons (acc : Bool) (x : Metric) (t : List Metric) :
    rebirthLoop acc (x :: t) = rebirthLoop (if x.isRebirth then rebirthVal x else acc) t := by
  rw [rebirthLoop, Metric.isRebirth]
  cases x.alias with
  | some a => rfl
  | none =>
    cases x.name with
    | none => rfl
    | some n =>
      by_cases h : n = rebirthName
      · subst h; simp
      · simp [h]

theorem rebirthLoop_eq (acc : Bool) (ms : List Metric) :
    rebirthLoop acc ms =
      match (ms.filter Metric.isRebirth).getLast? with
      | none => acc
      | some m => rebirthVal m := by
  induction ms generalizing acc with
  | nil => rfl
  | cons x t ih =>
    rw [rebirthLoop_cons, ih]
    cases h : x.isRebirth with
    | false => simp [h]
    | true =>
      simp only [List.filter_cons, h, if_true]
      rw [List.getLast?_cons]
      cases (List.filter Metric.isRebirth t).getLast? <;> rfl

theorem rebirthVal_iff (m : Metric) : rebirthVal m = true ↔ m.value = some (.bool true) := by
  unfold rebirthVal
  split
  · next v h => rw [h]; simp
  · next h => exact ⟨nofun, fun h' => (h true h').elim⟩

theorem rebirthRequested_iff (ms : List Metric) : rebirthRequested ms = true ↔ RebirthRequested ms := by
  unfold rebirthRequested RebirthRequested
  rw [rebirthLoop_eq]
  cases (ms.filter Metric.isRebirth).getLast? with
  | none => simp
  | some m => simp [rebirthVal_iff]

/-- the one-metric experiment of the decision table, for every metric: a well-formed metric is
delivered under its own id with its own value (or as a null), any other is skipped; a rebirth is
requested exactly by an unaliased `Node Control/Rebirth` with the value boolean true -/
theorem cellOf_spec (m : Metric) :
    (cellOf m).shape =
      (if m.WellFormed then
        (if m.value.isSome then Shape.value m.alias.isSome else Shape.null m.alias.isSome)
       else Shape.skipped) ∧
    (cellOf m).rebirth = (m.isRebirth && decide (m.value = some (.bool true))) := by
  constructor
  · rcases m with ⟨name, alias, ts, isNull, value⟩
    cases alias <;> cases name <;> cases value <;> rcases isNull with _ | _ | _ <;>
      simp [cellOf, drainIter, toMessageMetric, shapeOf, Metric.WellFormed, Metric.specId]
  · show rebirthLoop false [m] = _
    rw [rebirthLoop_cons]
    cases h : m.isRebirth
    · rfl
    · simp only [if_true, Bool.true_and, rebirthLoop]
      rw [Bool.eq_iff_iff, rebirthVal_iff]; simp

theorem mem_cbFor {t : Option Nat} {m : SMetric} {mm : MessageMetric} {e : Eff} :
    e ∈ cbFor t m mm ↔ ∃ v, convert m.ty mm.value = some v ∧ e = .cb t m.name v := by
  unfold cbFor convert
  cases hv : mm.value with
  | none => simp
  | some pv =>
    simp only
    cases hf : fromProto m.ty pv <;> simp

theorem callbacks_all {g : Mgr} {t : Option Nat} {mms : List MessageMetric} :
    ∀ e ∈ g.callbacks t mms, e.isCb = true ∧ e.target? = some t := by
  induction mms with
  | nil => intro e he; cases he
  | cons mm r ih =>
    intro e he
    unfold Mgr.callbacks at he
    split at he
    · rcases List.mem_append.mp he with h | h
      · obtain ⟨v, _, rfl⟩ := mem_cbFor.mp h
        exact ⟨rfl, rfl⟩
      · exact ih e h
    · exact ih e he

/-- what a CMD message makes a manager do -/
def cmdEffs (target : Option Nat) (g : Mgr) (kind : MsgKind) (p : Payload) : List Eff :=
  if kind = .cmd then
    match p.ts with
    | some t => deliver target g t p.metrics
    | none => []
  else []

section
variable {target : Option Nat} {g : Mgr} {kind : MsgKind} {p : Payload}

theorem cmdEffs_all :
    ∀ e ∈ cmdEffs target g kind p, (e.isCmd = true ∨ e.isCb = true) ∧ e.target? = some target := by
  intro e he
  unfold cmdEffs at he
  split at he
  · split at he
    · rcases List.mem_cons.mp he with h | h
      · subst h; exact ⟨Or.inl rfl, rfl⟩
      · have := callbacks_all e h
        exact ⟨Or.inr this.1, this.2⟩
    · cases he
  · cases he

theorem cmdEffs_filter_isCmd :
    (cmdEffs target g kind p).filter Eff.isCmd = expectedCmd target kind p := by
  unfold cmdEffs expectedCmd
  by_cases hk : kind = .cmd
  · rw [if_pos hk, if_pos hk]
    cases p.ts with
    | none => rfl
    | some t =>
      have hcb : (g.callbacks target (drainIter p.metrics)).filter Eff.isCmd = [] :=
        List.filter_eq_nil_iff.mpr fun e he => by
          have := (callbacks_all e he).1
          cases e with
          | cb _ _ _ => nofun
          | _ => cases this
      show Eff.cmd target t (drainIter p.metrics) :: _ = _
      rw [hcb, drainIter_eq_spec]
  · rw [if_neg hk, if_neg hk]; rfl

theorem cmdEffs_no_birth :
    ∀ e ∈ cmdEffs target g kind p, e.isBirth = false ∧ e ≠ .panic := by
  intro e he
  have h := (cmdEffs_all e he).1
  cases e with
  | cmd _ _ _ => exact ⟨rfl, nofun⟩
  | cb _ _ _ => exact ⟨rfl, nofun⟩
  | _ => simp [Eff.isCmd, Eff.isCb] at h
theorem filter_isBirth_cmdEffs :
    (cmdEffs target g kind p).filter Eff.isBirth = [] :=
  List.filter_eq_nil_iff.mpr fun e h => by simp [(cmdEffs_no_birth e h).1]

theorem exists_isNBirth_iff (P : Prop) [Decidable P]
    (bdSeq : Nat) (tl : List Eff) :
    (∃ e ∈ cmdEffs target g kind p ++ (if P then .nbirth 0 bdSeq :: tl else []), e.isNBirth = true) ↔ P := by
  constructor
  · rintro ⟨e, he, hn⟩
    rcases List.mem_append.mp he with h | h
    · have := (cmdEffs_no_birth e h).1
      simp [Eff.isBirth, hn] at this
    · by_cases hP : P
      · exact hP
      · rw [if_neg hP] at h; cases h
  · intro hP
    exact ⟨.nbirth 0 bdSeq, List.mem_append_right _ (by rw [if_pos hP]; exact List.mem_cons_self ..), rfl⟩

end

/-! ### the node task -/

/-- the recognition loop decides `RebirthRequested`, hence `Honoured`: the closed forms of the NCMD
step branch on the predicate itself -/
instance (ms : List Metric) : Decidable (RebirthRequested ms) :=
  decidable_of_iff _ (rebirthRequested_iff ms)

instance (st : St) (kind : MsgKind) (p : Payload) : Decidable (Honoured st kind p) := by
  unfold Honoured; infer_instance

theorem nodeBirth_eq (decs : List Dec) (ty : BirthTy) (sl : Option Nat) (st : St) :
    nodeBirth decs ty sl st =
      { st := { st with birthed := decs.head?.getD .accept == .accept, seq := 0,
                        epoch := (st.epoch + 1) % 18446744073709551616,
                        nodeMgr := st.nodeMgr.initialiseBirth (st.alias none),
                        parked := if decs.head?.getD .accept = .park then some { ty := ty, setLast := sl }
                                  else st.parked },
        effs := [.nbirth 0 st.bdSeq],
        bc := if decs.head?.getD .accept = .accept then [.birth ty ((st.epoch + 1) % 18446744073709551616)]
              else [],
        decs := decs.tail } := by
  unfold nodeBirth
  cases decs.head?.getD .accept <;> rfl

theorem nodeBirth_accept (decs : List Dec) (ty : BirthTy) (sl : Option Nat) (st : St)
    (h : decs.head?.getD .accept = .accept) :
    let r := nodeBirth decs ty sl st
    r.bc = [.birth ty r.st.epoch] ∧ r.st.birthed = true ∧ r.st.parked = st.parked := by
  rw [nodeBirth_eq, h]; exact ⟨rfl, rfl, rfl⟩

theorem nodeBirth_reject (decs : List Dec) (ty : BirthTy) (sl : Option Nat) (st : St)
    (h : decs.head?.getD .accept = .reject) :
    let r := nodeBirth decs ty sl st
    r.bc = [] ∧ r.st.birthed = false ∧ r.st.parked = st.parked := by
  rw [nodeBirth_eq, h]; exact ⟨rfl, rfl, rfl⟩

theorem nodeBirth_park (decs : List Dec) (ty : BirthTy) (sl : Option Nat) (st : St)
    (h : decs.head?.getD .accept = .park) :
    let r := nodeBirth decs ty sl st
    r.bc = [] ∧ r.st.birthed = false ∧ r.st.parked = some { ty := ty, setLast := sl } := by
  rw [nodeBirth_eq, h]; exact ⟨rfl, rfl, rfl⟩

section
variable (decs : List Dec) {kind : MsgKind} {p : Payload} {st : St}

theorem onNodeMessage_honoured
    (h : st.last ≤ st.wall) (hh : Honoured st kind p) :
    onNodeMessage decs kind p st =
      (let r := nodeBirth decs .rebirth (some st.wall) st
       let st2 : St := if r.st.parked.isSome then r.st else { r.st with last := st.wall }
       { r with st := st2, effs := cmdEffs none st.nodeMgr kind p ++ r.effs }) := by
  obtain ⟨rfl, hts, hr, hb, hc⟩ := hh
  obtain ⟨t, hts⟩ := Option.isSome_iff_exists.mp hts
  unfold onNodeMessage cmdEffs
  have h1 : ¬ st.wall < st.last := by omega
  have h2 : ¬ st.wall - st.last < st.cooldown := by omega
  simp [hts, (rebirthRequested_iff _).mpr hr, h1, h2, hb]

theorem onNodeMessage_honoured_idle
    (h : st.last ≤ st.wall) (hp : st.parked = none) (hh : Honoured st kind p) :
    onNodeMessage decs kind p st =
      { st := { st with birthed := decs.head?.getD .accept == .accept, seq := 0,
                        epoch := (st.epoch + 1) % 18446744073709551616,
                        nodeMgr := st.nodeMgr.initialiseBirth (st.alias none),
                        parked := if decs.head?.getD .accept = .park
                                  then some { ty := .rebirth, setLast := some st.wall } else none,
                        last := if decs.head?.getD .accept = .park then st.last else st.wall },
        effs := cmdEffs none st.nodeMgr kind p ++ [.nbirth 0 st.bdSeq],
        bc := if decs.head?.getD .accept = .accept
              then [.birth .rebirth ((st.epoch + 1) % 18446744073709551616)] else [],
        decs := decs.tail } := by
  rw [onNodeMessage_honoured decs h hh, nodeBirth_eq]
  cases decs.head?.getD .accept <;> simp [hp]

theorem onNodeMessage_not_honoured
    (h : st.last ≤ st.wall) (hn : ¬ Honoured st kind p) :
    ∃ l, (l = st.last ∨ l = st.wall) ∧
      onNodeMessage decs kind p st =
        { st := { st with last := l }, effs := cmdEffs none st.nodeMgr kind p, bc := [], decs := decs } := by
  unfold onNodeMessage cmdEffs
  by_cases hk : kind = .cmd
  · subst hk
    cases hts : p.ts with
    | none => exact ⟨st.last, .inl rfl, by simp⟩
    | some t =>
      cases hr : rebirthRequested p.metrics with
      | false => exact ⟨st.last, .inl rfl, by simp⟩
      | true =>
        have h1 : ¬ st.wall < st.last := by omega
        by_cases hc : st.wall - st.last < st.cooldown
        · exact ⟨st.last, .inl rfl, by simp [h1, hc]⟩
        · cases hb : st.birthed with
          | false => exact ⟨st.wall, .inr rfl, by simp [h1, hc]⟩
          | true =>
            exact absurd ⟨rfl, by simp [hts], (rebirthRequested_iff _).mp hr, hb, by omega⟩ hn
  · exact ⟨st.last, .inl rfl, by simp [hk]⟩

theorem onNodeMessage_effs
    (h : st.last ≤ st.wall) :
    (onNodeMessage decs kind p st).effs =
      cmdEffs none st.nodeMgr kind p ++ (if Honoured st kind p then [.nbirth 0 st.bdSeq] else []) := by
  by_cases hh : Honoured st kind p
  · rw [onNodeMessage_honoured decs h hh, nodeBirth_eq, if_pos hh]
  · obtain ⟨l, _, e⟩ := onNodeMessage_not_honoured decs h hh
    rw [e, if_neg hh]
    exact (List.append_nil _).symm

end

/-! ### the device tasks -/

theorem devPhase_nil (alias : Option Nat → Bytes → Nat) (o b : Bool) (cur seq : Nat) (devs : List Dev) :
    devPhase alias o b cur [] seq devs = (seq, devs, []) := by
  induction devs generalizing seq with
  | nil => rfl
  | cons d ds ih => simp [devPhase, devRun, ih]

section
variable (alias : Bytes → Nat) (o b : Bool) (cur seq : Nat) (d : Dev)

theorem devRun_single (m : DevMsg) :
    devRun alias o b cur seq d [m] = devHandle alias o b cur seq d m := by
  show (_, _, _ ++ []) = _
  rw [List.append_nil]
  rfl

theorem devBirth_of_none (ty : BirthTy)
    (e : Option Nat) (h : getNextSeq o b cur e seq = none) :
    devBirth alias o b cur seq d ty e = (seq, d, []) := by
  unfold devBirth
  rw [h]
  by_cases h1 : (!d.enabled) = true
  · rw [if_pos h1]
  · rw [if_neg h1]
    by_cases h2 : (ty == .birth && d.flag) = true
    · rw [if_pos h2]
    · rw [if_neg h2]

theorem devBirth_rebirth :
    devBirth alias true true cur seq d .rebirth (some cur) =
      if d.enabled then
        ((seq + 1) % 256,
          { d with flag := true, birthEpoch := cur, mgr := d.mgr.initialiseBirth alias },
          [.dbirth d.name ((seq + 1) % 256)])
      else (seq, d, []) := by
  unfold devBirth getNextSeq
  cases d.enabled <;> simp

theorem devBirth_name (ty : BirthTy)
    (e : Option Nat) : (devBirth alias o b cur seq d ty e).2.1.name = d.name := by
  unfold devBirth
  by_cases h1 : (!d.enabled) = true
  · rw [if_pos h1]
  · rw [if_neg h1]
    by_cases h2 : (ty == .birth && d.flag) = true
    · rw [if_pos h2]
    · rw [if_neg h2]
      cases getNextSeq o b cur e seq <;> rfl

theorem devDeath_name (publish : Bool) :
    (devDeath o b cur seq d publish).2.1.name = d.name := by
  unfold devDeath
  by_cases h1 : (!d.flag) = true
  · rw [if_pos h1]
  · rw [if_neg h1]
    cases publish with
    | false => rfl
    | true => cases getNextSeq o b cur (some d.birthEpoch) seq <;> rfl

theorem devHandle_name (m : DevMsg) :
    (devHandle alias o b cur seq d m).2.1.name = d.name := by
  cases m with
  | birth ty e => exact devBirth_name ..
  | death => exact devDeath_name ..
  | removed => exact devDeath_name ..
  | enable => exact devBirth_name alias o b cur seq { d with enabled := true } .birth none
  | disable => exact devDeath_name o b cur seq { d with enabled := false } true
  | cmd k p => rfl

end

theorem devPhase_rebirth (alias : Option Nat → Bytes → Nat) (cur seq k : Nat) (devs : List Dev)
    (h : seq % 256 = k % 256) :
    (devPhase alias true true cur [.birth .rebirth cur] seq devs).2.2 =
      ((devs.filter (·.enabled)).zipIdx k).map fun p => Eff.dbirth p.1.name ((p.2 + 1) % 256) := by
  induction devs generalizing seq k with
  | nil => rfl
  | cons d ds ih =>
    simp only [devPhase, devRun_single, devHandle, devBirth_rebirth, List.filter_cons]
    cases d.enabled with
    | false => exact ih seq k h
    | true =>
      have hs : (seq + 1) % 256 = (k + 1) % 256 := by rw [Nat.add_mod, h, ← Nat.add_mod]
      simp only [if_true, List.zipIdx_cons, List.map_cons, List.singleton_append]
      rw [ih ((seq + 1) % 256) (k + 1) (by rw [Nat.mod_mod]; exact hs), hs]

theorem devPhase_names (alias : Option Nat → Bytes → Nat) (o b : Bool) (cur : Nat) (bc : List DevMsg)
    (seq : Nat) (devs : List Dev) :
    (devPhase alias o b cur bc seq devs).2.1.map (·.name) = devs.map (·.name) := by
  have hr : ∀ (al : Bytes → Nat) (l : List DevMsg) (s : Nat) (d : Dev),
      (devRun al o b cur s d l).2.1.name = d.name := by
    intro al l
    induction l with
    | nil => intro s d; rfl
    | cons m t ih => intro s d; simp only [devRun]; rw [ih, devHandle_name]
  induction devs generalizing seq with
  | nil => rfl
  | cons d ds ih => simp only [devPhase, List.map_cons, hr, ih]

theorem nodeRun_single (decs : List Dec) (st : St) (i : NodeIn) (hd : st.dead = false)
    (hp : st.parked = none) : nodeRun decs st [i] = nodeHandle decs st i := by
  simp [nodeRun, hd, hp]

/-- the DBIRTH part of the birth sequence -/
def dbirthSeq (devs : List Dev) : List Eff :=
  (devs.filter (·.enabled)).zipIdx.map fun p => Eff.dbirth p.1.name ((p.2 + 1) % 256)

theorem birthSequence_eq (bdSeq : Nat) (devs : List Dev) :
    birthSequence bdSeq devs = .nbirth 0 bdSeq :: dbirthSeq devs := rfl

theorem dbirthSeq_all (devs : List Dev) : ∀ e ∈ dbirthSeq devs, e.isCmd = false ∧ e.target? = none := by
  intro e h
  obtain ⟨q, _, rfl⟩ := List.mem_map.mp h
  exact ⟨rfl, rfl⟩

theorem filter_isBirth_birthSequence (bdSeq : Nat) (devs : List Dev) :
    (birthSequence bdSeq devs).filter Eff.isBirth = birthSequence bdSeq devs := by
  refine List.filter_eq_self.mpr fun e h => ?_
  rcases List.mem_cons.mp h with rfl | h
  · rfl
  · obtain ⟨q, _, rfl⟩ := List.mem_map.mp h
    rfl

theorem step_ncmd_eq {st : St} {kind : MsgKind} {p : Payload} (decs : List Dec) (hr : st.Ready) :
    step decs st (.node (.msg kind p)) = finish (onNodeMessage decs kind p st) := by
  rw [step, nodeRun_single decs st _ hr.1 hr.2.1]
  rfl

theorem step_ncmd_not_honoured {st : St} {kind : MsgKind} {p : Payload} (decs : List Dec) (hr : st.Ready)
    (hn : ¬ Honoured st kind p) :
    ∃ l, (l = st.last ∨ l = st.wall) ∧
      step decs st (.node (.msg kind p)) = ({ st with last := l }, cmdEffs none st.nodeMgr kind p) := by
  obtain ⟨l, hl, e⟩ := onNodeMessage_not_honoured decs hr.2.2 hn
  refine ⟨l, hl, ?_⟩
  rw [step_ncmd_eq decs hr, e, finish]
  simp only [devPhase_nil, List.append_nil]

theorem step_ncmd_effs {st : St} {kind : MsgKind} {p : Payload} (decs : List Dec)
    (hr : st.Ready) (hi : st.Inv) :
    (step decs st (.node (.msg kind p))).2 =
      cmdEffs none st.nodeMgr kind p ++
        (if Honoured st kind p then
          .nbirth 0 st.bdSeq :: (if decs.head?.getD .accept = .accept then dbirthSeq st.devs else [])
         else []) := by
  by_cases hh : Honoured st kind p
  · have ho : st.online = true := hi.1 hh.2.2.2.1
    rw [if_pos hh, step_ncmd_eq decs hr, onNodeMessage_honoured_idle decs hr.2.2 hr.2.1 hh, finish]
    cases decs.head?.getD .accept with
    | accept =>
      simp only [ho, if_true, beq_self_eq_true]
      rw [devPhase_rebirth st.alias _ 0 0 st.devs rfl]
      exact List.append_assoc _ _ _
    | reject => simp [devPhase_nil]
    | park => simp [devPhase_nil]
  · obtain ⟨l, _, e⟩ := step_ncmd_not_honoured decs hr hh
    rw [e, if_neg hh]
    exact (List.append_nil _).symm

theorem devCmd_eq (d : Dev) (kind : MsgKind) (p : Payload) :
    devCmd d kind p = cmdEffs (some d.name) d.mgr kind p := by
  unfold devCmd cmdEffs
  by_cases hk : kind = .cmd
  · cases hts : p.ts <;> simp [hk]
  · simp [hk]

theorem devOne_cmd (alias : Option Nat → Bytes → Nat) (o b : Bool) (cur : Nat) (name : Nat) (kind : MsgKind)
    (p : Payload) (seq : Nat) (devs : List Dev) :
    devOne alias o b cur name (.cmd kind p) seq devs =
      (seq, devs, match devs.find? (fun d => d.name == name) with
        | some d => cmdEffs (some name) d.mgr kind p
        | none => []) := by
  induction devs with
  | nil => rfl
  | cons d ds ih =>
    unfold devOne
    by_cases h : d.name = name
    · subst h
      simp [devHandle, devCmd_eq]
    · have : (d.name == name) = false := by simpa using h
      simp only [h, if_false, ih, List.find?_cons, this]

theorem step_dcmd (decs : List Dec) (st : St) (d : Nat) (kind : MsgKind) (p : Payload) :
    step decs st (.dev d (.cmd kind p)) =
      (st, match st.devs.find? (fun x => x.name == d) with
        | some x => cmdEffs (some d) x.mgr kind p
        | none => []) := by
  simp [step, devOne_cmd]

/-! ### invariants -/

theorem nodeBirth_good (decs : List Dec) (ty : BirthTy) (sl : Option Nat) (st : St)
    (hg : st.Good) (hpk : st.parked = none) (ho : st.online = true)
    (hsl : ∀ now, sl = some now → now ≤ st.wall) : (nodeBirth decs ty sl st).st.Good := by
  obtain ⟨_, hd, hl, _⟩ := hg
  rw [nodeBirth_eq]
  cases decs.head?.getD .accept with
  | accept => refine ⟨⟨fun _ => ho, ?_⟩, hd, hl, ?_⟩ <;> simp [hpk]
  | reject => refine ⟨⟨nofun, ?_⟩, hd, hl, ?_⟩ <;> simp [hpk]
  | park =>
    exact ⟨⟨nofun, fun _ => ⟨rfl, ho⟩⟩, hd, hl, fun pk now e h => by cases e; exact hsl now h⟩

theorem onOnline_good (decs : List Dec) (subOk : Bool) (st : St) (hg : st.Good)
    (hpk : st.parked = none) : (onOnline decs subOk st).st.Good := by
  unfold onOnline
  by_cases ho : st.online = true
  · rw [if_pos ho]; exact hg
  · rw [if_neg ho]
    have hgo : ({ st with online := true } : St).Good :=
      ⟨⟨fun _ => rfl, fun h => ⟨(hg.1.2 h).1, rfl⟩⟩, hg.2.1, hg.2.2.1, hg.2.2.2⟩
    cases subOk with
    | false => exact hgo
    | true => exact nodeBirth_good decs .birth none _ hgo hpk rfl nofun

theorem onOffline_good (decs : List Dec) (st : St) (hg : st.Good) (hpk : st.parked = none) :
    (onOffline decs st).st.Good := by
  unfold onOffline
  by_cases ho : (!st.online) = true
  · rw [if_pos ho]; exact hg
  · rw [if_neg ho]
    refine ⟨⟨nofun, ?_⟩, hg.2.1, hg.2.2.1, hg.2.2.2⟩
    simp [hpk]

theorem onNodeMessage_good (decs : List Dec) (kind : MsgKind) (p : Payload) (st : St) (hg : st.Good)
    (hpk : st.parked = none) : (onNodeMessage decs kind p st).st.Good := by
  have hl : st.last ≤ st.wall := hg.2.2.1
  by_cases hh : Honoured st kind p
  case neg =>
    obtain ⟨l, hl', e⟩ := onNodeMessage_not_honoured decs hl hh
    rw [e]
    refine ⟨hg.1, hg.2.1, ?_, hg.2.2.2⟩
    rcases hl' with rfl | rfl
    · exact hl
    · exact Nat.le_refl _
  case pos =>
    have ho : st.online = true := hg.1.1 hh.2.2.2.1
    have hn := nodeBirth_good decs .rebirth (some st.wall) st hg hpk ho
      (fun now e => by cases e; exact Nat.le_refl _)
    rw [onNodeMessage_honoured decs hl hh]
    simp only
    split
    · exact hn
    · refine ⟨hn.1, hn.2.1, ?_, hn.2.2.2⟩
      show st.wall ≤ (nodeBirth decs BirthTy.rebirth (some st.wall) st).st.wall
      rw [nodeBirth_eq]
      exact Nat.le_refl _

theorem nodeHandle_good (decs : List Dec) (st : St) (i : NodeIn) (hg : st.Good)
    (hpk : st.parked = none) : (nodeHandle decs st i).st.Good := by
  cases i with
  | online s => exact onOnline_good decs s st hg hpk
  | offline => exact onOffline_good decs st hg hpk
  | msg k p => exact onNodeMessage_good decs k p st hg hpk

theorem nodeRun_good (decs : List Dec) (st : St) (ins : List NodeIn) (hg : st.Good) :
    (nodeRun decs st ins).st.Good := by
  induction ins generalizing decs st with
  | nil => exact hg
  | cons i rest ih =>
    unfold nodeRun
    by_cases hd : st.dead = true
    · rw [if_pos hd]; exact hg
    · rw [if_neg hd]
      by_cases hp : st.parked.isSome = true
      · rw [if_pos hp]; exact ⟨hg.1, hg.2.1, hg.2.2.1, hg.2.2.2⟩
      · rw [if_neg hp]
        exact ih _ _ (nodeHandle_good decs st i hg (Option.not_isSome_iff_eq_none.mp hp))

theorem resolveParked_eq (decs : List Dec) (ok : Bool) (st : St) (pk : Parked)
    (hpk : st.parked = some pk) :
    resolveParked decs ok st =
      { (nodeRun decs (st.resumed pk ok) st.queue) with
        bc := (if ok then [DevMsg.birth pk.ty st.epoch] else []) ++
          (nodeRun decs (st.resumed pk ok) st.queue).bc } := by
  unfold resolveParked
  rw [hpk]
  cases hs : pk.setLast <;> simp [St.resumed, hs]

theorem resumed_good (st : St) (pk : Parked) (ok : Bool) (hg : st.Good) (hpk : st.parked = some pk) :
    (st.resumed pk ok).Good := by
  refine ⟨⟨fun _ => (hg.1.2 (by rw [hpk]; rfl)).2, nofun⟩, hg.2.1, ?_, nofun⟩
  show pk.setLast.getD st.last ≤ st.wall
  cases hs : pk.setLast with
  | none => exact hg.2.2.1
  | some now => exact hg.2.2.2 pk now hpk hs

theorem resolveParked_good (decs : List Dec) (ok : Bool) (st : St) (hg : st.Good) :
    (resolveParked decs ok st).st.Good := by
  cases hpk : st.parked with
  | none => simp only [resolveParked, hpk]; exact hg
  | some pk =>
    rw [resolveParked_eq decs ok st pk hpk]
    exact nodeRun_good _ _ _ (resumed_good st pk ok hg hpk)

/-- `Good` reads `online`, `birthed`, `dead`, `last`, `wall` and `parked` only: a step that leaves
these alone keeps it by unfolding -/
theorem finish_good (r : NodeOut) (hg : r.st.Good) : (finish r).1.Good := hg

theorem step_good (decs : List Dec) (st : St) (op : Op) (hg : st.Good) (hw : op.WallOk st) :
    (step decs st op).1.Good := by
  cases op with
  | node i => exact finish_good _ (nodeRun_good decs st [i] hg)
  | resolve ok => exact finish_good _ (resolveParked_good decs ok st hg)
  | dev d m => exact hg
  | unreg d => exact hg
  | setWall w =>
    have hw' : st.wall ≤ w := hw
    exact ⟨hg.1, hg.2.1, Nat.le_trans hg.2.2.1 hw', fun pk now h1 h2 =>
      Nat.le_trans (hg.2.2.2 pk now h1 h2) hw'⟩
  | reg t m => cases t <;> exact hg

theorem runSteps_good (st : St) (h : List (List Dec × Op)) (hg : st.Good) (hm : MonotoneClock st h) :
    (runSteps st h).Good := by
  induction h generalizing st with
  | nil => exact hg
  | cons x t ih =>
    obtain ⟨decs, op⟩ := x
    exact ih _ (step_good decs st op hg hm.1) hm.2

theorem init_good (cooldown wall : Nat) (devs : List Dev) (alias : Option Nat → Bytes → Nat) :
    (St.init cooldown wall devs alias).Good :=
  ⟨⟨nofun, nofun⟩, rfl, Nat.zero_le _, nofun⟩

theorem ready_of_good (st : St) (hg : st.Good) (hp : st.parked = none) : st.Ready :=
  ⟨hg.2.1, hp, hg.2.2.1⟩

/-! ### SimpleMetricManager -/

theorem find?_key_of_nodup {α β : Type} [DecidableEq α] (l : List (α × β)) (k : α) (b : β)
    (hnd : (l.map (·.1)).Nodup) (hm : (k, b) ∈ l) : l.find? (fun e => e.1 == k) = some (k, b) := by
  induction l with
  | nil => cases hm
  | cons x r ih =>
    rw [List.map_cons, List.nodup_cons] at hnd
    rcases List.mem_cons.mp hm with rfl | h
    · simp
    · have hne : x.1 ≠ k := fun e => hnd.1 (e ▸ List.mem_map_of_mem (f := (·.1)) h)
      rw [List.find?_cons_of_neg (by simpa using hne)]
      exact ih hnd.2 h

theorem callbacks_mem {g : Mgr} {t : Option Nat} {mms : List MessageMetric}
    (hnd : (g.lookup.map (·.1)).Nodup) {e : Eff} :
    e ∈ g.callbacks t mms ↔
      ∃ mm ∈ mms, ∃ m v, (mm.id, m) ∈ g.lookup ∧ convert m.ty mm.value = some v ∧ e = .cb t m.name v := by
  induction mms with
  | nil => simp [Mgr.callbacks]
  | cons mm r ih =>
    unfold Mgr.callbacks
    cases hf : g.lookup.find? (fun e => e.1 == mm.id) with
    | none =>
      simp only [ih, List.mem_cons]
      constructor
      · rintro ⟨mm', h1, h2⟩; exact ⟨mm', Or.inr h1, h2⟩
      · rintro ⟨mm', h1 | h1, m, v, h2, h3⟩
        · subst h1
          have := find?_key_of_nodup g.lookup mm'.id m hnd h2
          rw [this] at hf; cases hf
        · exact ⟨mm', h1, m, v, h2, h3⟩
    | some x =>
      have hx := List.find?_some hf
      have hxm := List.mem_of_find?_eq_some hf
      have hid : x.1 = mm.id := by simpa using hx
      simp only [List.mem_append, mem_cbFor, ih, List.mem_cons]
      constructor
      · rintro (⟨v, h1, h2⟩ | ⟨mm', h1, h2⟩)
        · refine ⟨mm, Or.inl rfl, x.2, v, ?_, h1, h2⟩
          rw [← hid]; exact hxm
        · exact ⟨mm', Or.inr h1, h2⟩
      · rintro ⟨mm', h1 | h1, m, v, h2, h3, h4⟩
        · subst h1
          have := find?_key_of_nodup g.lookup mm'.id m hnd h2
          rw [this] at hf
          cases hf
          exact Or.inl ⟨v, h3, h4⟩
        · exact Or.inr ⟨mm', h1, m, v, h2, h3, h4⟩

theorem mem_lookup_initialiseBirth (alias : Bytes → Nat) (g : Mgr) (id : MetricId) (m : SMetric) :
    (id, m) ∈ (g.initialiseBirth alias).lookup ↔ m ∈ g.metrics ∧ m.hasCb = true ∧ id = m.id alias := by
  simp only [Mgr.initialiseBirth, List.mem_map, List.mem_filter]
  constructor
  · rintro ⟨a, ⟨h1, h2⟩, h3⟩
    cases h3; exact ⟨h1, h2, rfl⟩
  · rintro ⟨h1, h2, h3⟩
    exact ⟨m, ⟨h1, h2⟩, by rw [h3]⟩

theorem register_lookup (g : Mgr) (m : SMetric) : (g.register m).lookup = g.lookup := by
  unfold Mgr.register; split <;> rfl

/-! ### superseded birth notifications -/

theorem getNextSeq_stale (o b : Bool) (cur seq e : Nat) (h : e ≠ cur) :
    getNextSeq o b cur (some e) seq = none := by
  cases o with
  | false => rfl
  | true =>
    cases b with
    | false => rfl
    | true => exact if_pos h

theorem devPhase_stale (alias : Option Nat → Bytes → Nat) (o b : Bool) (cur : Nat) (ty : BirthTy)
    (e : Nat) (h : e ≠ cur) (bc : List DevMsg) (seq : Nat) (devs : List Dev) :
    devPhase alias o b cur (.birth ty e :: bc) seq devs = devPhase alias o b cur bc seq devs := by
  induction devs generalizing seq with
  | nil => rfl
  | cons d ds ih =>
    simp only [devPhase, devRun, devHandle,
      devBirth_of_none _ o b cur seq d ty (some e) (getNextSeq_stale o b cur seq e h), List.nil_append]
    rw [ih]

/-- the scenario of a rebirth command queued behind a parked node birth -/
theorem resolve_then_rebirth {decs : List Dec} {st : St} {pk : Parked} {kind : MsgKind} {p : Payload}
    (hg : st.Good) (hpk : st.parked = some pk) (hq : st.queue = [.msg kind p])
    (hacc : decs.head?.getD .accept = .accept)
    (hh : Honoured (st.resumed pk true) kind p) :
    (step decs st (.resolve true)).2 =
      cmdEffs none st.nodeMgr kind p ++ birthSequence st.bdSeq st.devs := by
  have hon : st.online = true := (hg.1.2 (by rw [hpk]; rfl)).2
  have hgr := resumed_good st pk true hg hpk
  rw [step, resolveParked_eq decs true st pk hpk, hq, nodeRun_single _ _ _ hgr.2.1 rfl]
  simp only [nodeHandle, finish]
  rw [onNodeMessage_honoured_idle decs hgr.2.2.1 rfl hh]
  simp only [St.resumed, hacc, if_true, hon, beq_self_eq_true, List.singleton_append]
  rw [devPhase_stale _ _ _ _ _ _ (by omega : st.epoch ≠ (st.epoch + 1) % 18446744073709551616),
    devPhase_rebirth st.alias _ 0 0 st.devs rfl]
  exact List.append_assoc _ _ _

end Srad.Cmd
