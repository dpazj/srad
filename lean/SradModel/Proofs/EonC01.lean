/-
C01 — no data outside a birthed session: `Scan` ties the node task (pc, `birthed`, call log) to the states of the
scanners `gateOk` and `firstAfterSubOk`, run side by side; `pass_step` is its preservation from a well-formed
state (`Wf`), by cases on the rules.
-/
import SradModel.Proofs.EonSync

namespace Srad.Eon.P01
open Srad.Eon
open Srad.Eon.P20 (nodeBusy nodeWait)

def gateNext (q : Bool × Option Nat) : Obs → Bool × Option Nat
  | .call id k _ _ _ _ dec =>
    if k == .sub then (false, none)
    else if k == .nbirth then
      (match dec with
       | .acc => (true, none)
       | .rej => (false, none)
       | .park => (false, some id))
    else q
  | .bNode => (false, none)
  | .resolved id ok => if q.2 == some id then (ok, none) else q
  | .will _ => (false, none)
  | _ => q

theorem gateOk_monitor : IsMonitor (fun q => gateOk q.1 q.2) gateNext where
  nil _ := rfl
  cons q o t := by
    cases o with
    | call id k d sq bd it dec => cases k <;> cases dec <;> first | rfl | exact cons_check _ _
    | resolved id ok => simp only [gateOk, gateNext]; split <;> rfl
    | _ => rfl

def fasNext (w : Bool) : Obs → Bool
  | .call _ k _ _ _ _ _ => if k == .sub then true else if k == .nbirth then false else w
  | _ => w

theorem fas_monitor : IsMonitor firstAfterSubOk fasNext where
  nil _ := rfl
  cons w o t := by
    cases o with
    | call id k d sq bd it dec => cases k <;> cases w <;> rfl
    | _ => cases w <;> rfl

/-- the two scanners side by side: the gate's `live` and `pend`, and the flag of `firstAfterSubOk` -/
abbrev Q := (Bool × Option Nat) × Bool

def ok (q : Q) (t : List Obs) : Bool := gateOk q.1.1 q.1.2 t && firstAfterSubOk q.2 t

def next (q : Q) (o : Obs) : Q := (gateNext q.1 o, fasNext q.2 o)

theorem ok_monitor : IsMonitor ok next := gateOk_monitor.prod fas_monitor

def quietO : Obs → Bool
  | .poll | .polled _ | .ures _ _ | .cbNcmd | .cbDcmd _ | .bDev _ | .runReturned => true
  | _ => false

theorem quiet_spec (x : Obs) (h : quietO x = true) (q : Q) : ok q [x] = true ∧ next q x = q := by
  obtain ⟨⟨l, p⟩, w⟩ := q
  cases x <;> first | (cases w <;> exact ⟨rfl, rfl⟩) | cases h

def LogOk (l : List Call) : Prop := ∀ c ∈ l, c.kind.bearsSeq = true → c.gOnline = true ∧ c.gBirthed = true

theorem LogOk.append {l : List Call} {c : Call} (h : LogOk l)
    (hc : c.kind.bearsSeq = true → c.gOnline = true ∧ c.gBirthed = true) : LogOk (l ++ [c]) := by
  intro c' hc' hk
  rcases List.mem_append.1 hc' with h' | h'
  · exact h c' h' hk
  · obtain rfl := List.mem_singleton.1 h'
    exact hc hk

/-- how the scanner states follow the node task: the gate is open while the node is birthed (`birthed_live`,
with nothing due after a SUB) and from an accepted NBIRTH on (`nbDone_live`, `waitNb_scan`); it waits for exactly
the NBIRTH the node task waits for (`waitNb_scan`, `pend_waitNb`); after a SUB the node task has not yet handed
an NBIRTH over (`due_beforeNb`) -/
structure Scan (s : St) (q : Q) : Prop where
  log_ok : LogOk s.calls
  waitNb_unbirthed : ∀ id bt fc, s.node = .waitNb id bt fc → s.birthed = false
  birthed_live : s.birthed = true → q.1.1 = true ∧ q.2 = false
  nbDone_live : ∀ bt fc, s.node = .nbDone true bt fc → q.1.1 = true
  waitNb_scan : ∀ id bt fc, s.node = .waitNb id bt fc →
        (callRes s id = none → q.1.2 = some id) ∧ (callRes s id = some true → q.1.1 = true)
  pend_waitNb : ∀ id, q.1.2 = some id → (∃ bt fc, s.node = .waitNb id bt fc) ∧ callRes s id = none
  due_beforeNb : q.2 = true → s.node.inNbirth = false

theorem Scan.init (cd : Nat) : Scan (init cd) ((false, none), false) := by
  constructor <;> simp [Eon.init, LogOk]

abbrev Pass (q : Q) (s' : St) (o : List Obs) : Prop := ok q o = true ∧ Scan s' (o.foldl next q)

theorem Pass.of_quiet {s' : St} {q : Q} {o : List Obs} (ho : o.all quietO = true) (hi : Scan s' q) : Pass q s' o :=
  ok_monitor.pass_quiet quiet_spec ho hi

/-- `Scan` reads `birthed`, the node pc and the call log -/
theorem Scan.frame {s s' : St} {q : Q} (hi : Scan s q) (hk : (s'.birthed, s'.node) = (s.birthed, s.node))
    (hg : LogOk s'.calls) (hr : ∀ id bt fc, s.node = .waitNb id bt fc → callRes s' id = callRes s id) : Scan s' q := by
  simp only [Prod.mk.injEq] at hk
  obtain ⟨k1, k2⟩ := hk
  refine ⟨hg, ?_, ?_, ?_, ?_, ?_, ?_⟩ <;> simp only [k1, k2]
  · exact hi.waitNb_unbirthed
  · exact hi.birthed_live
  · exact hi.nbDone_live
  · exact fun id bt fc h => hr id bt fc h ▸ hi.waitNb_scan id bt fc h
  · intro id h
    obtain ⟨⟨bt, fc, hn⟩, hc⟩ := hi.pend_waitNb id h
    exact ⟨⟨bt, fc, hn⟩, hr id bt fc hn ▸ hc⟩
  · exact hi.due_beforeNb

theorem Scan.same {s s' : St} {q : Q} (hi : Scan s q)
    (hk : (s'.birthed, s'.node, s'.calls) = (s.birthed, s.node, s.calls)) : Scan s' q := by
  simp only [Prod.mk.injEq] at hk
  exact hi.frame (by rw [hk.1, hk.2.1]) (hk.2.2 ▸ hi.log_ok) fun id _ _ _ => by rw [callRes, hk.2.2, ← callRes]

/-- a hand-over other than SUB and NBIRTH, by a task other than the node task; `hw`: the call the node task may be
waiting for is in the log already -/
theorem Pass.call {s s' : St} {q : Q} {c : Call} {dec : Dec} {o : List Obs} (pre post : List Obs)
    (hw : ∀ id, nodeWait s.node = some id → id < s.calls.length) (hi : Scan s q)
    (hk : (s'.birthed, s'.node) = (s.birthed, s.node)) (hc : s'.calls = s.calls ++ [logged s c dec])
    (ho : o = pre ++ .call s.calls.length c.kind c.dev c.seq c.bd c.isTry (dec.eff c.isTry) :: post)
    (hb : c.kind.bearsSeq = true → s.online = true ∧ s.birthed = true)
    (hkd : c.kind.bearsSeq = true ∨ c.kind = .ndeath ∨ c.kind = .disconnect)
    (hpre : pre.all quietO = true) (hpost : post.all quietO = true) : Pass q s' o := by
  -- data passes the open gate, an NDEATH or DISCONNECT any gate; none of them moves the scanners
  have hg : ∀ n d sq bd t dc, ok q [.call n c.kind d sq bd t dc] = true ∧ next q (.call n c.kind d sq bd t dc) = q := by
    intro n d sq bd t dc
    have hl := hi.birthed_live
    obtain ⟨⟨l, p⟩, w⟩ := q
    rcases hkd with h | h | h
    · obtain ⟨rfl, rfl⟩ : l = true ∧ w = false := hl (hb h).2
      revert h; cases c.kind <;> simp [ok, next, gateOk, gateNext, firstAfterSubOk, fasNext, CK.bearsSeq]
    all_goals rw [h]; cases w <;> simp [ok, next, gateOk, gateNext, firstAfterSubOk, fasNext, CK.bearsSeq]
  obtain ⟨g1, g2⟩ := hg s.calls.length c.dev c.seq c.bd c.isTry (dec.eff c.isTry)
  subst ho
  refine ok_monitor.pass_around quiet_spec hpre g1 hpost (g2.symm ▸ ?_)
  exact hi.frame hk (hc ▸ hi.log_ok.append hb) fun id bt fc hn => callRes_append hc (hw id (hn ▸ rfl))

theorem pass_dev {s s' : St} {q : Q} {u dec o} (hB : P20.Inv s) (h : DevStep s u dec s' o) (hi : Scan s q) :
    Pass q s' o := by
  have birth : ∀ {s₁ x bt req}, DevBirth s₁ x bt req dec s' o →
      (∀ id, nodeWait s₁.node = some id → id < s₁.calls.length) → Scan s₁ q → Pass q s' o := fun h hw hi => by
    cases h with
    | handed _ _ _ ho hb => exact .call [.bDev _] [] hw hi rfl rfl rfl (fun _ => ⟨ho, hb⟩) (.inl rfl) rfl rfl
    | _ => exact .of_quiet rfl hi
  have death : ∀ {s₁ x pub td}, DevDeath s₁ x pub td dec s' o →
      (∀ id, nodeWait s₁.node = some id → id < s₁.calls.length) → Scan s₁ q → Pass q s' o := fun h hw hi => by
    cases h with
    | handed _ _ ho hb => exact .call [] [] hw hi rfl rfl rfl (fun _ => ⟨ho, hb⟩) (.inl rfl) rfl rfl
    | _ => exact .of_quiet rfl (hi.same rfl)
  induction h using DevStep.split with
  | birth hb => exact birth hb hB.wait_lt (hi.same rfl)
  | death hd => exact death hd hB.wait_lt (hi.same rfl)
  | quiet | cb => exact .of_quiet rfl (hi.same rfl)

theorem pass_user {s s' : St} {q : Q} {j dec o} (hB : P20.Inv s) (h : UserStep s j dec s' o) (hi : Scan s q) :
    Pass q s' o := by
  cases h with
  | pubNode _ _ _ _ _ _ _ ho hb | pubDev _ _ _ _ _ _ _ _ _ ho hb =>
    exact .call [] _ hB.wait_lt hi rfl rfl rfl (fun _ => ⟨ho, hb⟩) (.inl rfl) rfl (all_ures (fun _ _ => rfl) ..)
  | cancelStart => exact .call [] [] hB.wait_lt hi rfl rfl rfl nofun (.inr (.inl rfl)) rfl rfl
  | cancelDisc => exact .call [] [.ures j .cancelled] hB.wait_lt hi rfl rfl rfl nofun (.inr (.inr rfl)) rfl rfl
  | _ => exact .of_quiet rfl (hi.same rfl)

theorem pass_resolve {s : St} {q : Q} {id b c} (hi : Scan s q) (hc : s.calls[id]? = some c) (hr : c.res = none) :
    Pass q { s with calls := s.calls.set id { c with res := some b } } [.resolved id b] := by
  have hold : callRes s id = none := by simp [callRes, hc, hr]
  have hnew := callRes_set (s' := { s with calls := s.calls.set id { c with res := some b } }) rfl hc
  have hg : LogOk (s.calls.set id { c with res := some b }) := by
    intro c' hc' hk
    rcases List.mem_or_eq_of_mem_set hc' with h | rfl
    · exact hi.log_ok c' h hk
    · exact hi.log_ok c (List.mem_of_getElem? hc) hk
  obtain ⟨⟨l, p⟩, w⟩ := q
  refine ⟨by cases w <;> simp [ok, gateOk, firstAfterSubOk], ?_⟩
  simp only [List.foldl_cons, List.foldl_nil, next, gateNext, fasNext]
  by_cases hp : p = some id
  · -- the NBIRTH the scanner waits for: the node task is in `waitNb id`, unbirthed
    obtain ⟨⟨bt, fc, hn⟩, -⟩ := hi.pend_waitNb id hp
    simp only [hp, beq_self_eq_true, ↓reduceIte]
    have hb := hi.waitNb_unbirthed id bt fc hn
    refine ⟨hg, fun _ _ _ _ => hb, fun h => ?_, fun _ _ h => ?_, fun id2 _ _ h => ?_, nofun, hi.due_beforeNb⟩
    · rw [hb] at h; cases h
    · rw [hn] at h; cases h
    · rw [hn] at h; cases h
      rw [hnew, if_pos rfl]
      exact ⟨nofun, Option.some.inj⟩
  · simp only [beq_iff_eq, hp, ↓reduceIte]
    refine hi.frame (s' := { s with calls := s.calls.set id { c with res := some b } }) rfl hg fun id2 bt fc h => ?_
    have : id2 ≠ id := by rintro rfl; exact hp ((hi.waitNb_scan id2 bt fc h).1 hold)
    rw [hnew, if_neg this]

theorem pass_stim {s s' : St} {q : Q} {x o} (h : StimStep s x s' o) (hi : Scan s q) : Pass q s' o := by
  cases h with
  | resolve _ _ _ hc hr => exact pass_resolve hi hc hr
  | _ => exact .of_quiet rfl (hi.same rfl)

theorem Scan.reset {s : St} {q : Q} (hi : Scan s q) (hs : s.birthed = false ∧ nodeBusy s.node = false) :
    Scan s ((false, none), q.2) := by
  refine { hi with birthed_live := fun h => ?_, nbDone_live := fun _ _ h => ?_, waitNb_scan := fun _ _ _ h => ?_, pend_waitNb := nofun }
  · rw [hs.1] at h; cases h
  all_goals rw [h] at hs; cases hs.2

theorem pass_loop {s s' : St} {q : Q} {o} (hw : Wf s) (h : LoopStep s s' o) (hi : Scan s q) : Pass q s' o := by
  -- registering a will shuts the gate: the node is offline then, so neither birthed nor in a birth
  have will : ∀ {s' : St} {bd : Nat}, s.birthed = false ∧ nodeBusy s.node = false →
      (s'.birthed, s'.node, s'.calls) = (s.birthed, s.node, s.calls) → Pass q s' [.will bd] :=
    fun hs hk => ⟨by obtain ⟨⟨l, p⟩, w⟩ := q; cases w <;> rfl, (hi.reset hs).same hk⟩
  cases h with
  | start hpc => exact will (hw.sync.start_safe hw.inv hpc) rfl
  | will o bd hpc hr => exact will (hw.sync.replied_safe hw.inv (by rw [hpc]; rfl) hr) rfl
  | lastWill o bd hpc hr =>
    exact will (hw.sync.replied_safe hw.inv (by rcases hpc with h | h <;> rw [h] <;> rfl) hr) rfl
  | polled _ _ _ _ _ hh => cases hh <;> exact .of_quiet rfl (hi.same rfl)
  | _ => exact .of_quiet rfl (hi.same rfl)

theorem pass_timeout {s s' : St} {q : Q} {o} (h : TimeoutStep s s' o) (hi : Scan s q) : Pass q s' o := by
  cases h <;> exact .of_quiet rfl (hi.same rfl)

/-- the node task moves from `m`, not waiting for an NBIRTH, to a pc outside `waitNb`/`nbDone` -/
theorem Scan.move {s s' : St} {q : Q} (hi : Scan s q) {m : NodePc} (hpc : s.node = m)
    (hk : (s'.birthed, s'.calls) = (s.birthed, s.calls)) (hm : ∀ id bt fc, m ≠ .waitNb id bt fc)
    (hn : s'.node.inNbirth = false) : Scan s' q := by
  simp only [Prod.mk.injEq] at hk
  have nw : ∀ {n : NodePc}, n.inNbirth = true → s'.node ≠ n := fun hq h => by rw [h, hq] at hn; cases hn
  refine ⟨hk.2 ▸ hi.log_ok, fun _ _ _ h => absurd h (nw rfl), hk.1 ▸ hi.birthed_live, fun _ _ h => absurd h (nw rfl),
    fun _ _ _ h => absurd h (nw rfl), fun id h => ?_, fun _ => hn⟩
  obtain ⟨⟨bt, fc, h'⟩, -⟩ := hi.pend_waitNb id h
  exact absurd (hpc ▸ h') (hm id bt fc)

theorem pass_node {s s' : St} {q : Q} {dec o} (hB : P20.Inv s) (h : NodeStep s dec s' o) (hi : Scan s q) :
    Pass q s' o := by
  cases h with
  | onlineStopping | onlineDup | offlineDup | rebirthReqDrop | ncmdBad => exact .of_quiet rfl (hi.same rfl)
  | onlineSub hpc hcs _ ho =>
    have hb : s.birthed = false := by cases h : s.birthed; rfl; rw [hB.birthed_online h] at ho; cases ho
    have hn : ∃ n, n = afterCall (.waitSub s.calls.length) NodePc.subDone (outcome false dec) ∧ n.inNbirth = false :=
      ⟨_, rfl, by cases outcome false dec <;> rfl⟩
    obtain ⟨n, hn, hp⟩ := hn
    rw [← hn]
    have nw : ∀ {m : NodePc}, m.inNbirth = true → n ≠ m := fun hq h => by rw [h, hq] at hp; cases hp
    obtain ⟨⟨l, p⟩, w⟩ := q
    exact ⟨by cases w <;> rfl, hi.log_ok.append nofun, fun _ _ _ h => absurd h (nw rfl), fun h => (by rw [hb] at h; cases h),
      fun _ _ h => absurd h (nw rfl), fun _ _ _ h => absurd h (nw rfl), nofun, fun _ => hp⟩
  | offline o hpc =>
    refine .of_quiet rfl ⟨hi.log_ok, fun _ _ _ h => ?_, nofun, fun _ _ h => ?_, fun _ _ _ h => ?_, hi.pend_waitNb, hi.due_beforeNb⟩
    all_goals exact nomatch hpc.symm.trans h
  | stopped hpc | ncmd _ _ hpc | subFailed hpc | cbNoRebirth hpc | cbCooldown hpc | cbUnbirthed hpc | rebirthReq hpc
  | subResolved _ _ hpc | subOk hpc | cbRebirth hpc | nbFailed _ _ hpc =>
    exact .of_quiet rfl (hi.move hpc rfl nofun rfl)
  | birthStart bt fc hpc =>
    have hcg := hi.log_ok.append (c := logged { s with birthed := false } { kind := .nbirth, seq := some 0, bd := some s.bdseq } dec) nofun
    obtain ⟨⟨l, p⟩, w⟩ := q
    -- the client's answer decides the gate state and pc alike: accepted gives `(true, none)` and `nbDone true`,
    -- refused `(false, none)` and `nbDone false`, parked `(false, some id)` and `waitNb id`
    cases dec
    all_goals
      refine ⟨by cases w <;> rfl, hcg, ?_, nofun, ?_, ?_, ?_, ?_⟩
      all_goals simp [afterCall, next, gateNext, fasNext, Dec.eff, NodePc.inNbirth]
      -- parked: the scanner waits for the call just logged
      all_goals rw [callRes_append_len s.calls _ _ rfl]; simp
  | nbResolved id bt fc ok hpc hr =>
    refine .of_quiet rfl { hi with
      waitNb_unbirthed := nofun
      nbDone_live := fun _ _ h => ?_
      waitNb_scan := nofun
      pend_waitNb := fun id' h => ?_
      due_beforeNb := fun h => ?_ }
    · cases h; exact (hi.waitNb_scan id bt fc hpc).2 hr
    · obtain ⟨⟨_, _, h'⟩, hc⟩ := hi.pend_waitNb id' h
      rw [hpc] at h'; cases h'; rw [hr] at hc; cases hc
    · have := hi.due_beforeNb h; rw [hpc] at this; cases this
  | nbOk bt fc hpc =>
    have hw : q.2 = false := by cases h : q.2; rfl; have := hi.due_beforeNb h; rw [hpc] at this; cases this
    refine .of_quiet rfl ⟨hi.log_ok, nofun, fun _ => ⟨hi.nbDone_live bt fc hpc, hw⟩, nofun, nofun, fun id h => ?_, fun _ => rfl⟩
    obtain ⟨⟨_, _, h'⟩, -⟩ := hi.pend_waitNb id h
    rw [hpc] at h'; cases h'

theorem pass_step {s s' : St} {q : Q} {o} (hw : Wf s) (hi : Scan s q) (h : Step s s' o) : Pass q s' o := by
  cases h with
  | stim _ h => exact pass_stim h hi
  | loop h => exact pass_loop hw h hi
  | timeout h => exact pass_timeout h hi
  | node _ h => exact pass_node hw.inv h hi
  | dev _ _ h => exact pass_dev hw.inv h hi
  | user _ _ h => exact pass_user hw.inv h hi

theorem reaches_inv {cd : Nat} {s : St} {tr : List Obs} (h : Reaches cd s tr) :
    gateOk false none tr = true ∧ firstAfterSubOk false tr = true ∧ Wf s ∧
      Scan s (tr.foldl next ((false, none), false)) := by
  obtain ⟨acts, h⟩ := h
  obtain ⟨h1, hw, hi⟩ := ok_monitor.reaches (R := Scan) pass_step (Scan.init cd) h
  exact ⟨(Bool.and_eq_true_iff.1 h1).1, (Bool.and_eq_true_iff.1 h1).2, hw, hi⟩

theorem publish_gate {s s' : St} {j n : Nat} {t : PubTarget} {isTry : Bool} {dec : Dec} {o : List Obs} (hn : 0 < n)
    (hu : s.ucalls.find? (·.j == j) = some { j := j, kind := .pub t isTry n, pc := .start })
    (h : (s', o) ∈ stepUser s j dec) :
    ((o = [.ures j .offline] ∨ o = [.ures j .unbirthed]) ∧ s'.calls = s.calls ∧ s'.seq = s.seq) ∨
    (s.online = true ∧ s.birthed = true ∧ ∀ d, t = .dev d → ∃ x, devLive s d x) := by
  have hst : UserStep s j dec s' o := UserStep.of_mem h
  have hu1 : ∀ {u : UCall}, s.ucalls.find? (·.j == j) = some u → u.kind = .pub t isTry n ∧ u.pc = .start :=
    fun h' => by rw [hu] at h'; cases h'; exact ⟨rfl, rfl⟩
  cases hst with
  | pubEmpty _ _ _ h' hk => rw [(hu1 h').1] at hk; cases hk; cases hn
  | pubRefused _ _ _ _ e h' hk _ _ hg =>
    rw [(hu1 h').1] at hk; cases hk
    refine .inl ⟨?_, rfl, rfl⟩
    rcases pubGate_error hg with ⟨rfl, -⟩ | rfl
    · exact .inl rfl
    · exact .inr rfl
  | pubNode _ _ _ h' hk _ _ ho hb => rw [(hu1 h').1] at hk; cases hk; exact .inr ⟨ho, hb, nofun⟩
  | pubDev _ d _ _ x h' hk _ _ ho hb hx =>
    rw [(hu1 h').1] at hk; cases hk; exact .inr ⟨ho, hb, fun _ h => by cases h; exact ⟨x, hx⟩⟩
  | pubResolved _ _ _ _ _ _ h' _ hp | cancelStop _ h' _ hp | cancelStopGone _ h' _ hp | cancelDisc _ h' _ hp =>
    rw [(hu1 h').2] at hp; cases hp
  | cancelIdle _ h' hk | cancelStart _ h' hk => rw [(hu1 h').1] at hk; cases hk

theorem callRes_lt (s : St) (id : Nat) (r : Bool) (h : callRes s id = some r) : id < s.calls.length :=
  Eon.callRes_lt h

end Srad.Eon.P01
