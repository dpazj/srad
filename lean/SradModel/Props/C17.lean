/-
C17 — Derived templates obey round-trip and diff/patch laws.
Property theorems only; helper lemmas are in `SradModel/Proofs/Derive.lean`, the model (an
interpreter of the `quote!` blocks of srad-macros/src/lib.rs over a schema) in
`SradModel/Model/Derive.lean`, the vocabulary of the statements in `Model/DeriveSpec.lean`.

Every theorem is for EVERY schema `σ` (any number of fields, any nesting depth, any mix of
scalar / optional / parameter / renamed / defaulted / skipped fields) and every value.
Hypotheses: `wf` = what the macro enforces at compile time (wire names of non-skipped fields
pairwise different, at every level); `wt` = what the Rust type system enforces (the value is a
value of the struct: a cell per field, `T` fields hold a value, bit patterns in range).
"Agree" (`agree`) is Rust `==` field by field (IEEE on floats), skipped fields excluded, nested
templates recursively. Where a law needs `x == x` the hypothesis `agree fs b b` (no NaN in a
template field of `b`) is stated; a NaN-proof field-wise form is given besides.
-/
import SradModel.Proofs.Derive
import SradModel.Generated.DeriveTable

namespace Srad.Derive
open Srad.Codec

/-- Rebuilding a struct from its own template instance succeeds and yields a struct that is
identical (same bits) on every non-skipped field, nested templates included; hence equal (`==`)
on them whenever the value is equal to itself. -/
theorem C17_roundtrip (σ : Schema) (a : Vals) (hwf : wf σ.fields = true) (hwt : wt σ.fields a = true) :
    ∃ a', fromInstance σ (instanceOf σ a) = .ok a' ∧ same σ.fields a a' = true ∧
      (agree σ.fields a a = true → agree σ.fields a a' = true) := by
  refine ⟨rtVal σ.fields a, fromInstance_instanceOf σ a hwf hwt, same_rtVal _ a hwt, ?_⟩
  exact agree_of_same _ a _ (same_rtVal _ a hwt)

/-- The instance names exactly the metrics and parameters of the definition, in the same order
and with the same datatypes — namely the declared non-skipped fields under their wire names —
and carries the definition's version and the struct's definition metric name. -/
theorem C17_instance_names_definition (σ : Schema) (a : Vals) (hwt : wt σ.fields a = true) :
    (instanceOf σ a).metrics.decls = (definition σ).metrics.decls ∧
    (instanceOf σ a).params.map WP.decl = (definition σ).params.map WP.decl ∧
    (definition σ).metrics.decls = metricDecls σ.fields ∧
    (definition σ).params.map WP.decl = paramDecls σ.fields ∧
    (instanceOf σ a).ver = (definition σ).ver ∧ (instanceOf σ a).ref = σ.ref := by
  simp only [instanceOf, definition, instMetrics_decls _ _ (shaped_of_wt _ a hwt),
    instParams_decls _ _ (shaped_of_wt _ a hwt), instMetrics_decls _ _ (shaped_defaults _),
    instParams_decls _ _ (shaped_defaults _), and_self]

/-- The difference of `b` from `a` is absent exactly when they agree on all template fields. -/
theorem C17_diff_none_iff_agree (σ : Schema) (b a : Vals) :
    diff σ b a = none ↔ agree σ.fields b a = true := by
  rw [diff, mkDiff_diff]
  cases agree σ.fields b a <;> simp

/-- A present difference contains only fields that differ, and all of them: a name is among its
metrics (parameters) exactly when it is the wire name of a non-skipped metric (parameter) field
on which `b` and `a` differ; every entry is a declared metric / parameter with its datatype. -/
theorem C17_diff_only_differing (σ : Schema) (b a : Vals) (d : TInst) (h : diff σ b a = some d) :
    (∀ n, (∃ dt, (some n, dt) ∈ d.metrics.decls) ↔ metricDiffers σ.fields b a n = true) ∧
    (∀ n, (∃ p ∈ d.params, p.name = some n) ↔ paramDiffers σ.fields b a n = true) ∧
    (∀ e ∈ d.metrics.decls, e ∈ metricDecls σ.fields) ∧
    (∀ p ∈ d.params, p.decl ∈ paramDecls σ.fields) ∧
    d.ref = σ.ref ∧ d.ver = σ.ver := by
  rw [diff, mkDiff_diff] at h
  split at h
  · cases h
  · cases h
    exact ⟨diffMetrics_name_iff _ b a, diffParams_name_iff _ b a, diffMetrics_decls_sub _ b a,
      fun p hp => diffParams_decls_sub _ b a _ (List.mem_map_of_mem hp), rfl, rfl⟩

/-- Applying the difference of `b` from `a` to `a` succeeds and makes `a` equal to `b` on all
template fields (nested templates and optional fields included), provided `b` is equal to
itself there. The result is again a value of the struct. -/
theorem C17_patch_makes_equal (σ : Schema) (b a : Vals) (d : TInst) (hwf : wf σ.fields = true)
    (hb : wt σ.fields b = true) (ha : wt σ.fields a = true) (h : diff σ b a = some d)
    (hrefl : agree σ.fields b b = true) :
    ∃ a', update σ a d = (.ok (), a') ∧ agree σ.fields b a' = true ∧ wt σ.fields a' = true := by
  have hp := patched_patch σ.fields b a hb ha
  exact ⟨patch σ.fields b a, update_diff σ b a d hwf hb ha h, agree_of_patched _ a b _ hp hrefl,
    wt_of_patched _ a b _ hp ha hb⟩

/-- The same without appeal to `x == x` (NaN allowed): after the patch every skipped field is
untouched and every template field is either bit-identical to `b`'s, or untouched and `==` to
`b`'s; nested templates recursively. -/
theorem C17_patch_fieldwise (σ : Schema) (b a : Vals) (d : TInst) (hwf : wf σ.fields = true)
    (hb : wt σ.fields b = true) (ha : wt σ.fields a = true) (h : diff σ b a = some d) :
    ∃ a', update σ a d = (.ok (), a') ∧ patched σ.fields a b a' = true := by
  exact ⟨patch σ.fields b a, update_diff σ b a d hwf hb ha h, patched_patch _ b a hb ha⟩

/-- An instance naming another template, another version, or an unknown metric / parameter —
at the top level or inside an instance addressed to a nested template field — is rejected and
the target is left exactly as it was. For every target, well typed or not. -/
theorem C17_foreign_rejected (σ : Schema) (a : Vals) (i : TInst) (h : foreign σ i = true) :
    ∃ e, update σ a i = (.error e, a) := by
  unfold update
  split
  · next v hr =>
    obtain ⟨h1, st, st', h2⟩ := updateWith_ok hr
    rw [foreign, h1, stageMetrics_ok h2] at h
    cases h
  · next e _ => exact ⟨e, rfl⟩

/-- All-or-nothing for every instance whatsoever: if `update_from_instance` returns an error the
target is unchanged. -/
theorem C17_error_leaves_target (σ : Schema) (a : Vals) (i : TInst) (e : TErr)
    (h : (update σ a i).1 = .error e) : (update σ a i).2 = a := by
  unfold update at h ⊢
  split
  · next hv => rw [hv] at h; cases h
  · rfl

/-- `try_from` rejects the same foreign instances. -/
theorem C17_foreign_rejected_try_from (σ : Schema) (i : TInst) (h : foreign σ i = true) :
    ∃ e, fromInstance σ i = .error e := by
  cases hr : fromInstance σ i with
  | error e => exact ⟨e, rfl⟩
  | ok x =>
    obtain ⟨h1, loc, h2⟩ := fromWith_ok hr
    rw [foreign, h1, fromMetrics_ok h2] at h
    cases h

/-! ### T-table: the leaf decisions of template.rs / value.rs the generated code relies on,
regenerated from the compiled crates on every run (`SradModel/Generated/DeriveTable.lean`):
default datatypes of `T` / `Option<T>` / a derived struct, `try_from_template_metric_value`,
`try_update_from_metric_value` and `try_from_template_parameter_value` for every scalar type,
plain and optional, on a sample of every value variant (incl. absent and template-valued),
and the `is_definition` × `template_ref` markers accepted by `TemplateInstance::try_from`. -/

open Srad.Generated in
/-- the compiled code and the model's leaf functions agree on every cell of the tables -/
theorem C17_table_matches_model :
    (∀ r ∈ deriveDtTable, (dtOf r.1).code = r.2.1 ∧ (dtOf r.1).code = r.2.2) ∧
    deriveTemplateCode = templateCode ∧
    (∀ r ∈ deriveMetricConv, convMetric r.1 r.2.1 = r.2.2) ∧
    (∀ r ∈ deriveUpdConv, convMetric r.1 r.2.1 = r.2.2) ∧
    (∀ r ∈ deriveParamConv, convScalar r.1 r.2.1 = r.2.2) ∧
    (∀ r ∈ deriveMarkers,
      (instMarkers r.1 (if r.2.1 then some [0x72] else none)).isSome = r.2.2) := by
  decide +kernel

open Srad.Generated in
/-- in the compiled code itself: an absent value is accepted exactly by the optional kinds (as
`None`); a template value is rejected by every scalar kind; only `is_definition = Some(false)`
with a reference is an instance; every one of the 13 types (× plain / optional, metric /
parameter) accepts some sample, except that the update table has no `DateTime` rows (24
kinds); `Option<T>` has the datatype of `T`. -/
theorem C17_table_laws :
    (∀ r ∈ deriveMetricConv ++ deriveUpdConv,
      (r.2.1 = MVal.val none → r.2.2 = (if r.1.isOpt then some none else none)) ∧
      (r.2.1 = MVal.templ → r.2.2 = none)) ∧
    (∀ r ∈ deriveParamConv, r.2.1 = none → r.2.2 = (if r.1.isOpt then some none else none)) ∧
    (∀ r ∈ deriveMarkers, r.2.2 = (decide (r.1 = some false) && r.2.1)) ∧
    (((deriveMetricConv.filter (·.2.2.isSome)).map (·.1)).eraseDups.length = 26) ∧
    (((deriveUpdConv.filter (·.2.2.isSome)).map (·.1)).eraseDups.length = 24) ∧
    (((deriveParamConv.filter (·.2.2.isSome)).map (·.1)).eraseDups.length = 26) ∧
    (∀ r ∈ deriveDtTable, r.2.1 = r.2.2) ∧ deriveDtTable.length = 13 := by
  decide +kernel

/-- the datatype the definition announces for a scalar field decodes with that field's type
(cross-check with the codec model's `try_from_metric_value` arms) -/
theorem C17_datatype_decodes_as_type (t : STy) : (kindArm (dtOf t)).2 = .scalar t := by
  cases t <;> rfl

/-! ### non-vacuity (tests, not the claim) -/

/-- Leaf { #[rename = "v"] value: i32, opt: Option<f64>, #[parameter] scale: u16, #[skip] cache } -/
def exLeaf : Fields :=
  .scalar [0x76] false (.metric .i32) (some (.n 0))
  (.scalar [0x6f] false (.optMetric .f64) none
  (.scalar [0x73] false (.param .u16) (some (.n 0))
  (.scalar [0x63] true (.metric .u32) (some (.n 0)) .nil)))

/-- Mid { id: u8, leaf: Leaf, #[skip] dirty: bool }, Top { on: bool, mid: Mid } -/
def exMid : Fields :=
  .scalar [0x69] false (.metric .u8) (some (.n 0))
  (.nested [0x6c] false [0x6c, 0x3a, 0x32] (some [0x32]) exLeaf
    (.s (some (.n 5)) (.s (some (.n 1)) (.s (some (.n 10)) (.s (some (.n 99)) .nil))))
  (.scalar [0x64] true (.metric .bool) (some (.b false)) .nil))

def exTop : Schema :=
  { ref := [0x74], ver := none
    fields := .scalar [0x6f] false (.metric .bool) (some (.b false))
      (.nested [0x6d] false [0x6d] none exMid
        (.s (some (.n 0)) (.nest (.s (some (.n 0)) (.s none (.s (some (.n 0)) (.s (some (.n 0)) .nil))))
          (.s (some (.b false)) .nil))) .nil) }

def exA : Vals :=
  .s (some (.b false))
    (.nest (.s (some (.n 1)) (.nest (.s (some (.n 7)) (.s none (.s (some (.n 2)) (.s (some (.n 11)) .nil))))
      (.s (some (.b true)) .nil))) .nil)

def exB : Vals :=
  .s (some (.b false))
    (.nest (.s (some (.n 1)) (.nest (.s (some (.n 7)) (.s (some (.n 4607182418800017408))
      (.s (some (.n 3)) (.s (some (.n 0)) .nil)))) (.s (some (.b false)) .nil))) .nil)

example : wf exTop.fields = true ∧ wt exTop.fields exA = true ∧ wt exTop.fields exB = true ∧
    agree exTop.fields exB exB = true ∧ agree exTop.fields exB exA = false := by decide

-- the difference reaches two levels down and names only `mid` → `leaf` → {`o`, parameter `s`}
example : (diff exTop exB exA).map (fun d => d.metrics.decls) = some [(some [0x6d], some 19)] := by
  decide
example : (diff exTop exB exA).isSome = true ∧ (diff exTop exA exA) = none := by decide
-- patched: template fields from b, skipped fields (cache 11, dirty true) kept from a
example : (diff exTop exB exA).map (update exTop exA) = some (.ok (),
    .s (some (.b false))
      (.nest (.s (some (.n 1)) (.nest (.s (some (.n 7)) (.s (some (.n 4607182418800017408))
        (.s (some (.n 3)) (.s (some (.n 11)) .nil)))) (.s (some (.b true)) .nil))) .nil)) := by decide
-- a foreign instance two levels down (unknown metric inside `leaf`) is rejected
def exForeign : TInst :=
  { ref := [0x74]
    ver := none
    metrics := .templ (some [0x6d]) none (some false) (some [0x6d]) none
      (.templ (some [0x6c]) none (some false) (some [0x6c, 0x3a, 0x32]) (some [0x32])
        (.val (some [0x7a]) none (some (.int 1)) .nil) [] .nil) [] .nil
    params := [] }
example : foreign exTop exForeign = true ∧
    update exTop exA exForeign = (.error (.invalidMetricValue [0x6d]), exA) := by decide
-- NaN: f32 0x7FC00000 differs from itself, the two zeros are equal
example : svEq .f32 (.n 0x7FC00000) (.n 0x7FC00000) = false ∧ svEq .f32 (.n 0) (.n 0x80000000) = true := by
  decide

end Srad.Derive
