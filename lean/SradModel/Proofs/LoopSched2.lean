/-
Behind `Props/C08Sched2.lean`: `Safe` (no DBIRTH of a disabled device pending anywhere) is kept by every
action but `enable` / `disable`; `Rec` (recoverable) is kept by every fault-free step but an NCMD delivery
at a clock reading that an NBIRTH in the pipeline already carries.
-/
import SradModel.Proofs.LoopSched
import SradModel.Model.LoopSched2

namespace Srad.Loop
open Srad Srad.Host

/-! ## no DBIRTH of a disabled device is pending -/

/-- the host holds only devices of `E` birthed and buffers only DBIRTHs of devices of `E` -/
structure HeldIn (E : List Nat) (h : St) : Prop where
  held : ∀ d, (d, Life.birthed) ∈ h.devices → d ∈ E
  buf : ∀ x ∈ h.reseq.buf, RIn E x.2.2

theorem HeldIn.table {E : List Nat} {h : St} : HeldIn E h ↔ TableIn (· = .birthed) E h :=
  ⟨fun H => ⟨fun p hp hb => H.held p.1 (by rw [← hb]; exact hp), H.buf⟩,
   fun H => ⟨fun d hd => H.devs (d, .birthed) hd rfl, H.buf⟩⟩

def OpEn (n : Node) (r : Node × List Msg) : Prop :=
  r.1.enabledNames = n.enabledNames ∧ ∀ m ∈ r.2, MsgIn n.enabledNames m

theorem OpOk.en {ts : Nat} {n : Node} {r : Node × List Msg} (h : OpOk ts n true r) : OpEn n r :=
  have he := sig_enabledNames (h.switches rfl)
  ⟨he, fun m hm => he ▸ h.msgsIn m hm⟩

/-- **no DBIRTH of a device that is not enabled is pending anywhere** (the `Prop` behind `Sys.safe`) -/
structure Safe (s : Sys) : Prop where
  host : HeldIn s.node.enabledNames s.host
  flight : ∀ m ∈ s.toHost, MsgIn s.node.enabledNames m

theorem Safe.namesIn {s : Sys} : Safe s ↔ NamesIn (· = .birthed) Node.enabledNames s :=
  ⟨fun h => ⟨h.flight, HeldIn.table.mp h.host⟩, fun h => ⟨HeldIn.table.mpr h.host, h.flight⟩⟩

/-- **every action except `enable` / `disable` preserves `Safe`** — reordering, duplication, loss,
disconnects and manual rebirths included -/
theorem Safe_step (s : Sys) (a : Action) (h : Safe s) (ha : a.keepsSwitches = true) : Safe (s.step a) :=
  Safe.namesIn.mpr (NamesIn.step (fun h => nomatch h) s a
    (fun _ _ _ _ ho hk => by cases hk ha; exact ho.ok.en)
    (fun ts n => (goOnline_ok ts n).en) (fun n => sig_enabledNames (goOffline_sig n)) (Safe.namesIn.mp h))

theorem Safe_run (σ : List Action) : ∀ s : Sys, Safe s → σ.all Action.keepsSwitches = true → Safe (s.run σ) := by
  induction σ with
  | nil => intro s h _; exact h
  | cons a t ih =>
    intro s h hall
    simp only [List.all_cons, Bool.and_eq_true] at hall
    exact ih _ (Safe_step s a h hall.1) hall.2

theorem Safe_frun {s t : Sys} (h : Safe s) (hr : FRun s t) : Safe t := by
  obtain ⟨acts, hff, rfl⟩ := hr
  exact Safe_run acts s h (faultFree_keeps acts hff)

theorem Safe.below {s : Sys} (h : Safe s) : DevsBelow s.host s.node :=
  fun d hd => h.host.held d (findDev_some_mem d _ _ hd)

theorem msgIn_iff (E : List Nat) (m : Msg) : MsgIn E m ↔ ∀ dv, m.birthOf = some dv → dv ∈ E := by
  cases m <;> simp [MsgIn, InIn, RIn, Msg.toIn, Msg.birthOf]

theorem rIn_iff (E : List Nat) (x : RMsg) : RIn E x ↔ ∀ dv, rmsgBirthOf x = some dv → dv ∈ E := by
  cases x <;> simp [RIn, rmsgBirthOf]

theorem safe_iff (s : Sys) : Sys.safe s = true ↔ Safe s := by
  have opt : ∀ (o : Option Nat) (E : List Nat),
      (match o with | some d => E.contains d | none => true) = true ↔ ∀ dv, o = some dv → dv ∈ E := by
    intro o E; cases o <;> simp
  simp only [Sys.safe, Bool.and_eq_true]
  constructor
  · intro ⟨⟨h1, h2⟩, h3⟩
    exact ⟨⟨(onlyEnabled_iff _ _).mp h1,
      fun x hx => (rIn_iff _ _).mpr ((opt _ _).mp (List.all_eq_true.mp h2 x hx))⟩,
      fun m hm => (msgIn_iff _ _).mpr ((opt _ _).mp (List.all_eq_true.mp h3 m hm))⟩
  · intro h
    exact ⟨⟨(onlyEnabled_iff _ _).mpr h.host.held,
      List.all_eq_true.mpr fun x hx => (opt _ _).mpr ((rIn_iff _ _).mp (h.host.buf x hx))⟩,
      List.all_eq_true.mpr fun m hm => (opt _ _).mpr ((msgIn_iff _ _).mp (h.flight m hm))⟩

theorem take_drop_run (σ : List Action) (i : Nat) (s : Sys) : (s.run (σ.take i)).run (σ.drop i) = s.run σ := by
  rw [← run_append, List.take_append_drop]

theorem keeps_enabledNames (s : Sys) (a : Action) (ha : a.keepsSwitches = true) :
    (s.step a).node.enabledNames = s.node.enabledNames := sig_enabledNames (keeps_sig s a ha)

theorem run_keeps_enabledNames (σ : List Action) (s : Sys) (h : σ.all Action.keepsSwitches = true) :
    (s.run σ).node.enabledNames = s.node.enabledNames := sig_enabledNames (run_keeps_sig σ s h)

/-! ## recoverable: safe, or a newer NBIRTH in flight, or a rebirth still to come -/

theorem Fresh_of_eq {s t : Sys} (h : s.FreshBirth) (h1 : t.toHost = s.toHost)
    (h2 : t.host.birthTs = s.host.birthTs) (h3 : t.node.enabledNames = s.node.enabledNames) : t.FreshBirth := by
  obtain ⟨pre, c, bd, id, post, hq, hb, hpre, hpost⟩ := h
  exact ⟨pre, c, bd, id, post, by rw [h1, hq], by rw [h2]; exact hb, hpre, by rw [h3]; exact hpost⟩

theorem Fresh_send (s : Sys) (r : Node × List Msg) (h : s.FreshBirth) (hr : OpEn s.node r) :
    (s.send r.1 r.2).FreshBirth := by
  obtain ⟨pre, c, bd, id, post, hq, hb, hpre, hpost⟩ := h
  refine ⟨pre, c, bd, id, post ++ r.2, ?_, hb, hpre, ?_⟩
  · show s.toHost ++ r.2 = _
    rw [hq]; simp
  · intro m hm
    show ∀ dv, m.birthOf = some dv → dv ∈ r.1.enabledNames
    rw [hr.1]
    rcases List.mem_append.mp hm with hm | hm
    · exact hpost m hm
    · exact (msgIn_iff _ m).mp (hr.2 m hm)

/-- delivering the oldest message while a newer NBIRTH is in flight: it still is, or it was the one
delivered and the state is `Safe` -/
theorem Fresh_deliver (s : Sys) (hh : s.hostConn = true) (h : s.FreshBirth) :
    Safe (s.step (.deliver 0)) ∨ (s.step (.deliver 0)).FreshBirth := by
  obtain ⟨pre, c, bd, id, post, hq, hb, hpre, hpost⟩ := h
  cases pre with
  | nil =>
    left
    have hq' : s.toHost = .nbirth c bd id :: post := hq
    rw [step_deliver0 s _ _ hh hq']
    obtain ⟨n1, _⟩ := step_nbirth s.cfg s.host c bd id s.clock hb
    refine ⟨?_, ?_⟩
    · show HeldIn s.node.enabledNames (step s.cfg s.host (.nbirth c bd id .ok) s.clock s.clock).1
      rw [n1]
      exact ⟨fun d hd => (by obtain ⟨p, _, hp⟩ := List.mem_map.mp hd; cases hp), fun x hx => nomatch hx⟩
    · intro m hm
      exact (msgIn_iff _ m).mpr (hpost m hm)
  | cons m pre' =>
    right
    have hq' : s.toHost = m :: (pre' ++ .nbirth c bd id :: post) := hq
    rw [step_deliver0 s _ _ hh hq']
    refine ⟨pre', c, bd, id, post, rfl, ?_, fun ts b i hm => hpre ts b i (List.mem_cons_of_mem _ hm), hpost⟩
    show (step s.cfg s.host m.toIn s.clock s.clock).1.birthTs < c
    refine step_birthTs_lt _ _ _ _ _ c hb ?_
    intro ts b i ans he
    cases m <;> simp only [Msg.toIn] at he <;> cases he
    exact hpre ts b i (List.mem_cons_self ..)

structure Rec (d : Nat) (s : Sys) : Prop where
  reach : Reach d s
  ok : Sys.Recoverable s

/-- **every fault-free step that is not a stale-tick NCMD delivery preserves `Rec`** -/
theorem Rec.step {d : Nat} {s : Sys} (h : Rec d s) (a : Action) (ha : a.ff = true)
    (hns : s.staleTickNcmd a = false) : Rec d (s.step a) := by
  obtain ⟨hn, hh, hcase⟩ := h.ok
  have hr' : Reach d (s.step a) := h.reach.frun (FRun.step s a ha)
  obtain ⟨hn', hh'⟩ := ff_conn s a ha hn hh
  refine ⟨hr', hn', hh', ?_⟩
  rcases hcase with hs | hf | h0
  · exact Or.inl ((safe_iff _).mpr (Safe_step s a ((safe_iff s).mp hs) (ff_keeps a ha)))
  · -- a newer NBIRTH is in flight
    cases a, ha using Action.ff_cases with
    | publishNode => exact Or.inr (Or.inl (Fresh_send s _ hf (pubNode_ok _ _).en))
    | publishDev dv => exact Or.inr (Or.inl (Fresh_send s _ hf (pubDev_ok _ _ _).en))
    | deliver =>
      rcases Fresh_deliver s hh hf with h1 | h1
      · exact Or.inl ((safe_iff _).mpr h1)
      · exact Or.inr (Or.inl h1)
    | advance k =>
      obtain ⟨a1, a2, a3, _, _⟩ := advance_fields s k
      exact Or.inr (Or.inl (Fresh_of_eq hf a1 a3 (by rw [a2])))
    | deliverNcmd =>
      by_cases h0 : s.toNode = 0
      · have : s.step .deliverNcmd = s := by simp [Sys.step, h0]
        rw [this]; exact Or.inr (Or.inl hf)
      · have hs1 : s.step .deliverNcmd = ({ s with toNode := s.toNode - 1 } : Sys).send
            (s.node.rebirth s.clock).1 (s.node.rebirth s.clock).2 := by
          simp only [Sys.step, h0, if_false, hn, if_true]
        rw [hs1]
        exact Or.inr (Or.inl (Fresh_send _ _ (Fresh_of_eq hf rfl rfl rfl) (rebirth_ok _ _).en))
    | hostConnect => rw [connect_noop s hn hh _ (.inl rfl)]; exact Or.inr (Or.inl hf)
    | nodeConnect =>
      have : s.step .nodeConnect = s := connect_noop s hn hh _ (.inr rfl)
      rw [this]; exact Or.inr (Or.inl hf)
  · -- a rebirth NCMD is in flight
    by_cases hd : a = .deliverNcmd
    · subst hd
      simp only [Sys.staleTickNcmd, decide_true, Bool.true_and, Bool.and_eq_false_iff,
        decide_eq_false_iff_not, Bool.not_eq_false'] at hns
      have hall : s.allBirthsBefore = true := by
        rcases hns with hns | hns
        · exact absurd h0 hns
        · exact hns
      simp only [Sys.allBirthsBefore, Bool.and_eq_true, decide_eq_true_eq, List.all_eq_true] at hall
      have hon : s.node.online = true := by rw [← h.reach.conn.conn]; exact hn
      have hb : s.node.birthed = true := h.reach.conn.birthed hon
      have hs1 : s.step .deliverNcmd = ({ s with toNode := s.toNode - 1 } : Sys).send
          (s.node.rebirth s.clock).1 (s.node.rebirth s.clock).2 := by
        simp only [Sys.step, h0, if_false, hn, if_true]
      obtain ⟨bd, id, ms, hms⟩ : ∃ bd id ms, (s.node.rebirth s.clock).2 = .nbirth s.clock bd id :: ms := by
        simp [Node.rebirth, hb, Node.nodeBirth]
      have hop := (rebirth_ok s.clock s.node).en
      rw [hs1]
      refine Or.inr (Or.inl ⟨s.toHost, s.clock, bd, id, ms, ?_, hall.1, ?_, ?_⟩)
      · show s.toHost ++ (s.node.rebirth s.clock).2 = _
        rw [hms]
      · intro ts b i hm
        have := hall.2 _ hm
        simpa using this
      · intro m hm
        show ∀ dv, m.birthOf = some dv → dv ∈ (s.node.rebirth s.clock).1.enabledNames
        rw [hop.1]
        exact (msgIn_iff _ m).mp (hop.2 m (by rw [hms]; exact List.mem_cons_of_mem _ hm))
    · right; right
      have hmono : s.toNode ≤ (s.step a).toNode := by
        cases a, ha using Action.ff_cases with
        | publishNode => exact Nat.le_refl _
        | publishDev _ => exact Nat.le_refl _
        | deliver =>
          cases hq : s.toHost[0]? with
          | none => simp [Sys.step, hq]
          | some m => simp [Sys.step, hq, Sys.recv, hh, Sys.hostStep]
        | advance k => exact (advance_fields s k).2.2.2.2
        | deliverNcmd => exact absurd rfl hd
        | hostConnect => exact Nat.le_refl _
        | nodeConnect => simp [Sys.step, hn]
      omega

theorem Rec.run {d : Nat} (σ : List Action) : ∀ {s : Sys}, Rec d s → FaultFree σ = true →
    Sys.noStaleTick s σ = true → Rec d (s.run σ) := by
  induction σ with
  | nil => intro s h _ _; exact h
  | cons a t ih =>
    intro s h hff hns
    simp only [FaultFree, List.all_cons, Bool.and_eq_true] at hff
    simp only [Sys.noStaleTick, Bool.and_eq_true, Bool.not_eq_true'] at hns
    exact ih (h.step a hff.1 hns.1) hff.2 hns.2

theorem Rec.deliverAll {d : Nat} : ∀ (k : Nat) {s : Sys}, Rec d s → Rec d (Sys.deliverAll k s) := by
  intro k
  induction k with
  | zero => intro s h; exact h
  | succ k ih => intro s h; exact ih (h.step _ rfl (staleTick_ne _ _ (by simp)))

theorem Rec.cycle {d : Nat} {s : Sys} (h : Rec d s) (he : s.toHost = []) :
    Rec d ((s.step (.advance 1)).step .deliverNcmd) := by
  have h1 := h.step (.advance 1) rfl (staleTick_ne _ _ (by simp))
  refine h1.step .deliverNcmd rfl ?_
  obtain ⟨a1, _, a3, a4, _⟩ := advance_fields s 1
  have hall : (s.step (.advance 1)).allBirthsBefore = true := by
    simp only [Sys.allBirthsBefore, a1, he, List.all_nil, Bool.and_true, decide_eq_true_eq, a3, a4]
    have := h.reach.live.birthTs
    omega
  simp [Sys.staleTickNcmd, hall]

theorem Rec.drainNet {d : Nat} : ∀ (f : Nat) {s : Sys}, Rec d s → Rec d (Sys.drainNet f s) := by
  intro f
  induction f with
  | zero => intro s h; exact h.deliverAll _
  | succ f ih =>
    intro s h
    show Rec d (if (Sys.flush s).toNode = 0 then Sys.flush s else
      Sys.drainNet f (((Sys.flush s).step (.advance 1)).step .deliverNcmd))
    have hf : Rec d (Sys.flush s) := h.deliverAll _
    split
    · exact hf
    · exact ih (hf.cycle (flush_toHost s))

theorem Rec.quiesce {d : Nat} {s : Sys} (h : Rec d s) : Rec d (Sys.quiesce s) := by
  obtain ⟨hn, hh, _⟩ := h.ok
  have h1 : Sys.reconnect s = s := by simp [Sys.reconnect, hh, hn]
  have h2 : Rec d (Sys.drain (Sys.reconnect s)) := by rw [h1]; exact h.drainNet _
  have h3 : Rec d (Sys.timerPhase (Sys.drain (Sys.reconnect s))) := by
    unfold Sys.timerPhase
    split
    · exact h2.step _ rfl (staleTick_ne _ _ (by simp))
    · exact h2
  exact h3.drainNet _

theorem Rec.below {d : Nat} {s : Sys} (h : Rec d s) (hfew : s.node.enabledNames.length < 255) :
    DevsBelow (Sys.quiesce s).host (Sys.quiesce s).node := by
  have hq := h.quiesce
  have hp := firstPhase_spec d s h.reach hfew
  have he : (Sys.quiesce s).toHost = [] := hp.quiet.flight
  have h0 : (Sys.quiesce s).toNode = 0 := hp.toNode
  obtain ⟨_, _, hcase⟩ := hq.ok
  rcases hcase with hs | hf | hn
  · exact ((safe_iff _).mp hs).below
  · obtain ⟨pre, c, bd, id, post, hq', _⟩ := hf
    rw [he] at hq'
    cases pre <;> cases hq'
  · exact absurd h0 hn

/-- **recoverable ⇒ every number `k ≥ 2` of rounds ends `InSync`**, also after any fault-free schedule
without a stale-tick NCMD delivery -/
theorem Rec.settle {d : Nat} {s : Sys} (h : Rec d s) (hfew : s.node.enabledNames.length < 255) (σ : List Action)
    (hff : FaultFree σ = true) (hns : Sys.noStaleTick s σ = true) (k : Nat) :
    Sys.InSync (Sys.settle (k + 2) (s.run σ)).1 (Sys.settle (k + 2) (s.run σ)).2 = true := by
  have h' := h.run σ hff hns
  have hfew' : (s.run σ).node.enabledNames.length < 255 := by
    rw [run_keeps_enabledNames σ s (faultFree_keeps σ hff)]; exact hfew
  exact settle_reach d _ h'.reach hfew' (fun _ => h'.below hfew') k

/-- **the tick before an NCMD delivery matters.** A reachable state with both sides connected and an NCMD in
flight is recoverable, and stays so when the clock ticks before the NCMD reaches the node. If the
delivery WITHOUT a tick leaves, after quiescing, the host in step and holding a device `e` birthed that
the node has not enabled, that state is stuck for good; so it is not recoverable. -/
theorem ncmd_tick_matters {d : Nat} {s : Sys} {e : Nat} (hr : Reach d s) (hn : s.nodeConn = true)
    (hh : s.hostConn = true) (h0 : s.toNode ≠ 0) (hfew : s.node.enabledNames.length < 255)
    (hin : InStep (Sys.quiesce (s.step .deliverNcmd)).host (Sys.quiesce (s.step .deliverNcmd)).node)
    (hdev : Host.findDev e (Sys.quiesce (s.step .deliverNcmd)).host.devices = some .birthed)
    (hne : e ∉ s.node.enabledNames) :
    let a := s.step .deliverNcmd
    let b := (s.step (.advance 1)).step .deliverNcmd
    Sys.InSync (Sys.settle 2 s).1 (Sys.settle 2 s).2 = true ∧
    ¬ DevsBelow (Sys.quiesce a).host (Sys.quiesce a).node ∧
    (∀ k, 0 < k → Sys.InSync (Sys.settle k a).1 (Sys.settle k a).2 = false) ∧
    Sys.InSync (Sys.settle 2 b).1 (Sys.settle 2 b).2 = true ∧ ¬ Sys.Recoverable a := by
  intro a b
  have hrec : Rec d s := ⟨hr, hn, hh, .inr (.inr h0)⟩
  have hra : Reach d a := hr.frun (FRun.step s .deliverNcmd)
  have hen : a.node.enabledNames = s.node.enabledNames := keeps_enabledNames s _ rfl
  have hfew' : a.node.enabledNames.length < 255 := by rw [hen]; exact hfew
  have hnb : ¬ DevsBelow (Sys.quiesce a).host (Sys.quiesce a).node :=
    not_devsBelow hdev (by rw [(frun_enabledNames (firstPhase_frun a) : (Sys.quiesce a).node.enabledNames = _), hen]; exact hne)
  refine ⟨hrec.settle hfew [] rfl rfl 0, hnb, fun k hk => ?_,
    hrec.settle hfew [.advance 1, .deliverNcmd] rfl
      (ticked_noStaleTick (b := false) d _ hr hn hh (fun hb => by cases hb) rfl rfl) 0,
    fun hreca => hnb ((⟨hra, hreca⟩ : Rec d a).below hfew')⟩
  obtain ⟨j, rfl⟩ : ∃ j, k = j + 1 := ⟨k - 1, by omega⟩
  exact settle_stuck d a hra hfew' hin hnb j

end Srad.Loop
