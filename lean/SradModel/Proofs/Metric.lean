import SradModel.Model.MetricSpec
import SradModel.Proofs.Codec

namespace Srad.Metric
open Srad.Codec (Bytes DT)
open Srad.Codec.DT (ofCode_code code_lt ofCode_isSome_iff)

/-! ### association lists as hash maps -/

theorem mapGet_mapInsert {α : Type} (m : List (Str × α)) (k k' : Str) (v : α) :
    mapGet (mapInsert m k v) k' = if k = k' then some v else mapGet m k' := by
  induction m with
  | nil => simp [mapInsert, mapGet]
  | cons h t ih =>
    obtain ⟨k0, v0⟩ := h
    by_cases h0 : k0 = k
    · subst h0
      by_cases h1 : k0 = k' <;> simp [mapInsert, mapGet, h1]
    · by_cases h1 : k = k' <;> by_cases h2 : k0 = k' <;> simp_all [mapInsert, mapGet]

theorem mapGet_eq_none_of_not_mem {α : Type} (m : List (Str × α)) (k : Str)
    (h : k ∉ m.map (·.1)) : mapGet m k = none := by
  induction m with
  | nil => rfl
  | cons x t ih =>
    obtain ⟨k0, v0⟩ := x
    simp only [List.map_cons, List.mem_cons, not_or] at h
    have : ¬ k0 = k := fun e => h.1 e.symm
    simp [mapGet, this, ih h.2]

theorem mapGet_eq_some_iff {α : Type} (m : List (Str × α)) (hn : (m.map (·.1)).Nodup) (k : Str) (v : α) :
    mapGet m k = some v ↔ (k, v) ∈ m := by
  induction m with
  | nil => simp [mapGet]
  | cons x t ih =>
    obtain ⟨k0, v0⟩ := x
    simp only [List.map_cons, List.nodup_cons] at hn
    by_cases h0 : k0 = k
    · subst h0
      have : (k0, v) ∉ t := fun h => hn.1 (List.mem_map.mpr ⟨_, h, rfl⟩)
      simp [mapGet, this, eq_comm]
    · have : ¬ k = k0 := fun e => h0 e.symm
      simp [mapGet, h0, this, ih hn.2]

theorem mapGet_perm {α : Type} (m m' : List (Str × α)) (hp : m'.Perm m)
    (hn : (m.map (·.1)).Nodup) (k : Str) : mapGet m' k = mapGet m k := by
  have hn' : (m'.map (·.1)).Nodup := (hp.map _).nodup_iff.mpr hn
  exact Option.ext fun v => by
    rw [mapGet_eq_some_iff m' hn', mapGet_eq_some_iff m hn]
    exact hp.mem_iff

theorem mapInsert_keys {α : Type} (m : List (Str × α)) (k : Str) (v : α) :
    (mapInsert m k v).map (·.1) =
      if k ∈ m.map (·.1) then m.map (·.1) else m.map (·.1) ++ [k] := by
  induction m with
  | nil => simp [mapInsert]
  | cons x t ih =>
    by_cases h0 : x.1 = k
    · simp [mapInsert, h0]
    · have hk : ¬ k = x.1 := fun e => h0 e.symm
      simp only [mapInsert, h0, if_false, List.map_cons, ih, List.mem_cons, hk, false_or]
      split <;> rfl

theorem mapInsert_keys_nodup {α : Type} (m : List (Str × α)) (k : Str) (v : α)
    (hn : (m.map (·.1)).Nodup) : ((mapInsert m k v).map (·.1)).Nodup := by
  rw [mapInsert_keys]
  split
  · exact hn
  · next hk =>
    exact List.nodup_append.mpr ⟨hn, List.nodup_cons.mpr ⟨List.not_mem_nil, List.nodup_nil⟩,
      fun a ha b hb e => hk (List.mem_singleton.mp hb ▸ e ▸ ha)⟩

/-- `impl From<PropertyValue> for payload::PropertyValue` on one entry -/
def encEnt (e : UEnt) : PPV :=
  (e.2.1.map DT.code, e.2.2.nullFlag, encVal e.2.2)

theorem encKeys_eq_map (m : List UEnt) : encKeys m = m.map (·.1) := by
  induction m with
  | nil => rfl
  | cons h t ih => obtain ⟨k, d, v⟩ := h; simp [encKeys, ih]

theorem encEnts_eq_map (m : List UEnt) : encEnts m = m.map encEnt := by
  induction m with
  | nil => rfl
  | cons h t ih => obtain ⟨k, d, v⟩ := h; simp [encEnts, encEnt, ih]

theorem encSets_eq_map (l : List (List UEnt)) : encSets l = l.map encPS := by
  induction l with
  | nil => rfl
  | cons h t ih => simp [encSets, encPS, ih]

theorem decPV_encEnt (e : UEnt) : decPV (encEnt e) = .ok (e.2.1, encVal e.2.2) := by
  obtain ⟨k, dt, v⟩ := e
  cases v <;> cases dt <;> simp [encEnt, decPV, pvValue, pvType, encVal, UVal.nullFlag, ofCode_code]

/-- the host's map for the edge's map `m`: one `insert` per entry, in iteration order -/
def hostView (m : UPS) : HMap :=
  m.foldl (fun a e => mapInsert a e.1 (e.2.1, encVal e.2.2)) []

theorem decLoop_enc (m : List UEnt) (acc : HMap) :
    decLoop (m.map (·.1)) (m.map encEnt) acc
      = .ok (m.foldl (fun a e => mapInsert a e.1 (e.2.1, encVal e.2.2)) acc) := by
  induction m generalizing acc with
  | nil => simp [decLoop]
  | cons h t ih =>
    simp only [List.map_cons, decLoop, decPV_encEnt, List.foldl_cons]
    exact ih _

theorem decPS_encPS (m : UPS) : decPS (encPS m) = .ok (hostView m) := by
  simp only [encPS, decPS, encKeys_eq_map, encEnts_eq_map, List.length_map, ne_eq,
    not_true_eq_false, if_false]
  exact decLoop_enc m []

theorem mapGet_foldl_insert {α β : Type} (f : α → β) (m : List (Str × α)) (acc : List (Str × β))
    (hn : (m.map (·.1)).Nodup) (k : Str) :
    mapGet (m.foldl (fun a e => mapInsert a e.1 (f e.2)) acc) k
      = match mapGet m k with
        | some v => some (f v)
        | none => mapGet acc k := by
  induction m generalizing acc with
  | nil => simp [mapGet]
  | cons x t ih =>
    obtain ⟨k0, v0⟩ := x
    simp only [List.map_cons, List.nodup_cons] at hn
    simp only [List.foldl_cons]
    rw [ih _ hn.2]
    by_cases h0 : k0 = k
    · subst h0
      rw [mapGet_eq_none_of_not_mem t k0 hn.1]
      simp [mapGet, mapGet_mapInsert]
    · simp only [mapGet, h0, if_false, mapGet_mapInsert]

theorem mapGet_hostView (m : UPS) (hn : UPS.KeysDistinct m) (k : Str) :
    mapGet (hostView m) k = (mapGet m k).map fun e => (e.1, encVal e.2) := by
  have := mapGet_foldl_insert (fun (e : Option DT × UVal) => (e.1, encVal e.2)) m [] hn k
  unfold hostView
  rw [this]
  cases mapGet m k <;> simp [mapGet]

theorem props_roundtrip (m m' : UPS) (hp : m'.Perm m) (hn : UPS.KeysDistinct m) :
    ∃ h, decPS (encPS m') = .ok h ∧ PropsMatch m h := by
  refine ⟨hostView m', decPS_encPS m', ?_⟩
  intro k
  have hn' : UPS.KeysDistinct m' := (hp.map _).nodup_iff.mpr hn
  rw [mapGet_hostView m' hn' k, mapGet_perm m m' hp hn k]

theorem propsMatch_leaves (m : UPS) (h : HMap) (hm : PropsMatch m h) : PropsMatchLeaves m h := by
  refine ⟨?_, ?_, ?_⟩
  · intro k dt v hk; rw [hm k, hk]; simp [encVal]
  · intro k dt hk; rw [hm k, hk]; simp [encVal]
  · intro k hk; rw [hm k, hk]; rfl

theorem metaSame_metaToPayload (m : EMeta) : MetaSame m (metaToPayload m) := by
  simp [MetaSame, metaToPayload]

/-- the entry the host derives from a published metric -/
def hostEntry (pm : PubMetric) : MetricId × Details :=
  (pm.id, { value := pm.value, properties := pm.properties.map hostView,
            metadata := pm.metadata.map metaToPayload, timestamp := pm.timestamp,
            isHistorical := pm.isHistorical.getD false, isTransient := pm.isTransient.getD false })

/-- the (repaired) edge conversion writes the alias or the name, never both -/
theorem edgeEncode_host (pm : PubMetric) :
    detailsOf (edgeEncode pm) = .ok (hostEntry pm).2 ∧
    (edgeEncode pm).alias = (match pm.id with | .alias a => some a | .name _ => none) ∧
    (edgeEncode pm).name = (match pm.id with | .alias _ => none | .name n => some n) := by
  obtain ⟨id, value, tr, hi, ts, md, props⟩ := pm
  cases id <;> cases value <;> cases props <;>
    simp [detailsOf, edgeEncode, PMetric.new, PMetric.setName, PMetric.setAlias, PMetric.setValue,
      PMetric.setNull, decPS_encPS, hostEntry]

theorem idAndDetails_edge (ms : List PubMetric) :
    idAndDetails (ms.map edgeEncode) = .ok (ms.map hostEntry) := by
  induction ms with
  | nil => rfl
  | cons pm t ih =>
    obtain ⟨h1, h2, h3⟩ := edgeEncode_host pm
    simp only [List.map_cons, idAndDetails, h1, h2, h3, ih]
    cases h : pm.id <;> simp [hostEntry, h]

theorem delivered_hostEntry (pm : PubMetric) (hwf : pm.WF) : Delivered pm (hostEntry pm) := by
  refine ⟨rfl, rfl, rfl, rfl, rfl, ?_, ?_⟩
  · cases h : pm.metadata with
    | none => simp [hostEntry, h, OptRel]
    | some m => simp [hostEntry, h, OptRel, metaSame_metaToPayload]
  · cases h : pm.properties with
    | none => simp [hostEntry, h, OptRel]
    | some m =>
      simp only [hostEntry, h, Option.map_some, OptRel]
      intro k
      exact mapGet_hostView m (hwf m h) k

theorem forall2_delivered (ms : List PubMetric) (hwf : ∀ pm ∈ ms, pm.WF) :
    InOrder Delivered ms (ms.map hostEntry) := by
  induction ms with
  | nil => exact .nil
  | cons pm t ih =>
    refine .cons (delivered_hostEntry pm (hwf pm (by simp))) (ih fun p hp => hwf p (by simp [hp]))

theorem ndata_payloadOf (seq now : Nat) (ms : List PubMetric) :
    ndataOfPayload (payloadOf seq now ms)
      = .ok { seq := seq % 256, timestamp := now, metrics := ms.map hostEntry } := by
  simp [ndataOfPayload, payloadOf, idAndDetails_edge]

/-- All that the end-to-end theorems need of a codec: it returns the one payload handed over. -/
theorem hostReceive_of_roundtrip (enc : Payload → Bytes) (dec : Bytes → Option Payload)
    (seq now : Nat) (ms : List PubMetric)
    (h : dec (enc (payloadOf seq now ms)) = some (payloadOf seq now ms)) :
    hostReceiveData dec (enc (payloadOf seq now ms))
      = .data { seq := seq % 256, timestamp := now, metrics := ms.map hostEntry } := by
  simp [hostReceiveData, h, ndata_payloadOf]

theorem publishUnsorted_ready (now : Nat) (s : EdgeState) (hs : s.Ready) (ms : List PubMetric)
    (hne : ms ≠ []) :
    publishUnsorted true now s ms
      = .handedOver (payloadOf ((s.seq + 1) % 256) now ms) { s with seq := (s.seq + 1) % 256 } := by
  obtain ⟨ho, hb⟩ := hs
  have : ms.isEmpty = false := by cases ms <;> simp_all
  simp [publishUnsorted, this, getNextSeq, ho, hb]

theorem insertByTs_perm (x : PubMetric) (l : List PubMetric) : (insertByTs x l).Perm (x :: l) := by
  induction l with
  | nil => exact .refl _
  | cons y t ih =>
    unfold insertByTs
    split
    · exact .refl _
    · exact (List.Perm.cons y ih).trans (List.Perm.swap x y t)

theorem sortByTs_perm (l : List PubMetric) : (sortByTs l).Perm l := by
  induction l with
  | nil => exact .refl _
  | cons x t ih => exact (insertByTs_perm x _).trans (List.Perm.cons x ih)

theorem insertByTs_sorted (x : PubMetric) (l : List PubMetric)
    (h : l.Pairwise (fun a b => a.timestamp ≤ b.timestamp)) :
    (insertByTs x l).Pairwise (fun a b => a.timestamp ≤ b.timestamp) := by
  induction l with
  | nil => simp [insertByTs]
  | cons y t ih =>
    unfold insertByTs
    rw [List.pairwise_cons] at h
    split
    · rename_i hle
      refine List.pairwise_cons.mpr ⟨?_, List.pairwise_cons.mpr h⟩
      intro b hb
      rcases List.mem_cons.mp hb with rfl | hb
      · exact hle
      · exact Nat.le_trans hle (h.1 b hb)
    · rename_i hnle
      refine List.pairwise_cons.mpr ⟨?_, ih h.2⟩
      intro b hb
      rcases List.mem_cons.mp ((insertByTs_perm x t).mem_iff.mp hb) with rfl | hb
      · omega
      · exact h.1 b hb

theorem sortByTs_sorted (l : List PubMetric) :
    (sortByTs l).Pairwise (fun a b => a.timestamp ≤ b.timestamp) := by
  induction l with
  | nil => simp [sortByTs]
  | cons x t ih => exact insertByTs_sorted x _ ih

theorem insertByTs_filter (x : PubMetric) (l : List PubMetric) (t : Nat) :
    (insertByTs x l).filter (fun m => m.timestamp == t)
      = (x :: l).filter (fun m => m.timestamp == t) := by
  induction l with
  | nil => rfl
  | cons y r ih =>
    unfold insertByTs
    split
    · rfl
    · rename_i hnle
      rw [List.filter_cons, ih]
      by_cases hx : x.timestamp = t
      · have hy : ¬ y.timestamp = t := by omega
        simp [hx, hy]
      · simp [List.filter_cons, hx]

theorem sortByTs_filter (l : List PubMetric) (t : Nat) :
    (sortByTs l).filter (fun m => m.timestamp == t) = l.filter (fun m => m.timestamp == t) := by
  induction l with
  | nil => rfl
  | cons x r ih =>
    simp only [sortByTs, insertByTs_filter]
    simp only [List.filter_cons, ih]

theorem sortByTs_stable (l : List PubMetric) : StableSortedByTs l (sortByTs l) :=
  ⟨sortByTs_perm l, sortByTs_sorted l, sortByTs_filter l⟩

/-- the three conditions of `StableSortedByTs` determine the list: there is only one stable sort -/
theorem stable_sorted_unique_aux (a b : List PubMetric) (hp : a.Perm b)
    (ha : a.Pairwise (fun x y => x.timestamp ≤ y.timestamp))
    (hb : b.Pairwise (fun x y => x.timestamp ≤ y.timestamp))
    (hf : ∀ t, a.filter (fun m => m.timestamp == t) = b.filter (fun m => m.timestamp == t)) :
    a = b := by
  induction a generalizing b with
  | nil => exact (List.Perm.nil_eq hp)
  | cons x a' ih =>
    cases b with
    | nil => exact absurd hp.symm.nil_eq (fun h => nomatch h)
    | cons y b' =>
      rw [List.pairwise_cons] at ha hb
      -- both heads carry the least timestamp of the same multiset
      have hxy : x.timestamp = y.timestamp := by
        have h1 : y.timestamp ≤ x.timestamp := by
          rcases List.mem_cons.mp (hp.mem_iff.mp List.mem_cons_self) with h | h
          · rw [h]; exact Nat.le_refl _
          · exact hb.1 x h
        have h2 : x.timestamp ≤ y.timestamp := by
          rcases List.mem_cons.mp (hp.mem_iff.mpr List.mem_cons_self) with h | h
          · rw [h]; exact Nat.le_refl _
          · exact ha.1 y h
        omega
      -- hence they head the same filtered list
      have hft := hf y.timestamp
      simp only [List.filter_cons, hxy, beq_self_eq_true, if_true, List.cons.injEq] at hft
      obtain ⟨rfl, _⟩ := hft
      refine congrArg _ (ih b' hp.cons_inv ha.2 hb.2 fun t => ?_)
      have := hf t
      simp only [List.filter_cons] at this
      split at this
      · exact (List.cons.inj this).2
      · exact this

theorem stable_sorted_unique (ms a : List PubMetric) (ha : StableSortedByTs ms a) :
    a = sortByTs ms := by
  obtain ⟨hp, hs, hf⟩ := ha
  obtain ⟨hp', hs', hf'⟩ := sortByTs_stable ms
  exact stable_sorted_unique_aux a (sortByTs ms) (hp.trans hp'.symm) hs hs'
    (fun t => (hf t).trans (hf' t).symm)

/-! ### end to end, for any codec that returns the payload handed over

The C12 theorems instantiate the hypothesis by `WireSound`, the C12W theorems by the round trip of
the concrete codec on in-range payloads. -/

section
variable (enc : Payload → Bytes) (dec : Bytes → Option Payload)

theorem single_of_roundtrip (seq now : Nat) (pm : PubMetric) (hwf : pm.WF)
    (h : dec (enc (payloadOf seq now [pm])) = some (payloadOf seq now [pm])) :
    ∃ d e, hostReceiveData dec (enc (payloadOf seq now [pm])) = .data d ∧
      d.seq = seq % 256 ∧ d.timestamp = now ∧ d.metrics = [e] ∧ Delivered pm e :=
  ⟨_, hostEntry pm, hostReceive_of_roundtrip enc dec seq now [pm] h, rfl, rfl, rfl,
    delivered_hostEntry pm hwf⟩

theorem null_absent_of_roundtrip (seq now : Nat) (pm : PubMetric) (hwf : pm.WF)
    (h : dec (enc (payloadOf seq now [pm])) = some (payloadOf seq now [pm]))
    (hnull : pm.value = none) (hh : pm.isHistorical = none) (ht : pm.isTransient = none) :
    ∃ d e, hostReceiveData dec (enc (payloadOf seq now [pm])) = .data d ∧ d.metrics = [e] ∧
      e.1 = pm.id ∧ e.2.value = none ∧ e.2.isHistorical = false ∧ e.2.isTransient = false := by
  obtain ⟨d, e, h1, _, _, h4, hd⟩ := single_of_roundtrip enc dec seq now pm hwf h
  refine ⟨d, e, h1, h4, hd.identifier, ?_, ?_, ?_⟩
  · rw [hd.value, hnull]
  · rw [hd.historical, hh]; rfl
  · rw [hd.transient, ht]; rfl

theorem batch_of_roundtrip (seq now : Nat) (ms : List PubMetric) (hwf : ∀ pm ∈ ms, pm.WF)
    (h : dec (enc (payloadOf seq now ms)) = some (payloadOf seq now ms)) :
    ∃ d, hostReceiveData dec (enc (payloadOf seq now ms)) = .data d ∧
      d.seq = seq % 256 ∧ d.timestamp = now ∧ InOrder Delivered ms d.metrics :=
  ⟨_, hostReceive_of_roundtrip enc dec seq now ms h, rfl, rfl, forall2_delivered ms hwf⟩

theorem unsorted_of_roundtrip (now : Nat) (s : EdgeState) (hs : s.Ready) (ms : List PubMetric)
    (hne : ms ≠ []) (hwf : ∀ pm ∈ ms, pm.WF)
    (h : dec (enc (payloadOf ((s.seq + 1) % 256) now ms))
      = some (payloadOf ((s.seq + 1) % 256) now ms)) :
    ∃ p s' d, publishUnsorted true now s ms = .handedOver p s' ∧
      s'.seq = (s.seq + 1) % 256 ∧
      hostReceiveData dec (enc p) = .data d ∧
      d.seq = (s.seq + 1) % 256 ∧ d.timestamp = now ∧ InOrder Delivered ms d.metrics := by
  refine ⟨_, _, _, publishUnsorted_ready now s hs ms hne, rfl,
    hostReceive_of_roundtrip enc dec _ now ms h, ?_, rfl, forall2_delivered ms hwf⟩
  simp

/-- the sorting variants hand over the sorted batch with the non-sorting code -/
theorem sorted_of_roundtrip (now : Nat) (s : EdgeState) (hs : s.Ready) (ms : List PubMetric)
    (hne : ms ≠ []) (hwf : ∀ pm ∈ ms, pm.WF)
    (h : dec (enc (payloadOf ((s.seq + 1) % 256) now (sortByTs ms)))
      = some (payloadOf ((s.seq + 1) % 256) now (sortByTs ms))) :
    ∃ p s' d sorted, publishSorted true now s ms = .handedOver p s' ∧
      s'.seq = (s.seq + 1) % 256 ∧
      hostReceiveData dec (enc p) = .data d ∧
      d.seq = (s.seq + 1) % 256 ∧ d.timestamp = now ∧
      StableSortedByTs ms sorted ∧ InOrder Delivered sorted d.metrics := by
  have hperm := sortByTs_perm ms
  have hne' : sortByTs ms ≠ [] := by
    intro h; rw [h] at hperm; exact hne (List.Perm.nil_eq hperm).symm
  obtain ⟨p, s', d, h1, h2, h3, h4, h5, h6⟩ := unsorted_of_roundtrip enc dec now s hs
    (sortByTs ms) hne' (fun pm hp => hwf pm (hperm.mem_iff.mp hp)) h
  exact ⟨p, s', d, sortByTs ms, h1, h2, h3, h4, h5, sortByTs_stable ms, h6⟩

end

/-! ### nested property sets: the same along every path -/

theorem decPSList_enc (l : List UPS) : decPSList (l.map encPS) = .ok (l.map hostView) := by
  induction l with
  | nil => rfl
  | cons h t ih => simp [decPSList, decPS_encPS, ih]

theorem entsWF_of_mapGet (m : List UEnt) (hw : entsWF m) (k : Str) (e : Option DT × UVal)
    (hg : mapGet m k = some e) : UVal.WF e.2 := by
  induction m with
  | nil => simp [mapGet] at hg
  | cons x t ih =>
    obtain ⟨k0, d0, v0⟩ := x
    simp only [entsWF] at hw
    by_cases h0 : k0 = k
    · simp only [mapGet, h0, if_true, Option.some.injEq] at hg
      subst hg; exact hw.1
    · simp only [mapGet, h0, if_false] at hg
      exact ih hw.2 hg

theorem setsWF_getElem (l : List (List UEnt)) (hw : setsWF l) (i : Nat) (m : UPS)
    (hg : l[i]? = some m) : UPS.WF m := by
  induction l generalizing i with
  | nil => simp at hg
  | cons s t ih =>
    simp only [setsWF] at hw
    cases i with
    | zero => simp at hg; subst hg; exact hw.1
    | succ j => simp at hg; exact ih hw.2 j hg

theorem wf_keysDistinct (m : UPS) (hw : UPS.WF m) : UPS.KeysDistinct m := by
  unfold UPS.KeysDistinct; rw [← encKeys_eq_map]; exact hw.1

/-- descending one step on the host (with srad's conversions) lands in the host's view of the set
the same step reaches on the edge — and fails exactly where it fails on the edge -/
theorem hostDescend_encVal (v : UVal) (s : Option Nat) :
    hostDescend (encVal v) s = (v.descend s).map hostView := by
  cases v with
  | null => cases s <;> simp [hostDescend, encVal, setOfValue, setsOfValue, UVal.descend]
  | sc x => cases s <;> simp [hostDescend, encVal, setOfValue, setsOfValue, UVal.descend]
  | set es =>
    cases s with
    | none =>
      have := decPS_encPS es
      simp only [encPS] at this
      simp [hostDescend, encVal, setOfValue, UVal.descend, this]
    | some i => simp [hostDescend, encVal, setsOfValue, UVal.descend]
  | sets l =>
    cases s with
    | none => simp [hostDescend, encVal, setOfValue, UVal.descend]
    | some i =>
      simp [hostDescend, encVal, setsOfValue, UVal.descend, encSets_eq_map, decPSList_enc]

theorem descend_wf (v : UVal) (hw : UVal.WF v) (s : Option Nat) (m : UPS)
    (hd : v.descend s = some m) : UPS.WF m := by
  cases v with
  | null => cases s <;> simp [UVal.descend] at hd
  | sc x => cases s <;> simp [UVal.descend] at hd
  | set es =>
    cases s with
    | none =>
      simp [UVal.descend] at hd; subst hd
      unfold UPS.WF; simpa [UVal.WF] using hw
    | some i => simp [UVal.descend] at hd
  | sets l =>
    cases s with
    | none => simp [UVal.descend] at hd
    | some i =>
      simp only [UVal.descend] at hd
      exact setsWF_getElem l (by simpa [UVal.WF] using hw) i m hd

theorem lookup_deep (p : Path) (m : UPS) (hw : UPS.WF m) (k : Str) :
    HMap.lookup p (hostView m) k = (UPS.lookup p m k).map fun e => (e.1, encVal e.2) := by
  induction p generalizing m k with
  | nil => exact mapGet_hostView m (wf_keysDistinct m hw) k
  | cons st p ih =>
    obtain ⟨s, k'⟩ := st
    simp only [HMap.lookup, UPS.lookup]
    rw [mapGet_hostView m (wf_keysDistinct m hw) k]
    cases hg : mapGet m k with
    | none => rfl
    | some e =>
      obtain ⟨dt, v⟩ := e
      simp only [Option.map_some]
      rw [hostDescend_encVal]
      cases hd : v.descend s with
      | none => rfl
      | some m' =>
        simp only [Option.map_some]
        exact ih m' (descend_wf v (entsWF_of_mapGet m hw.2 k (dt, v) hg) s m' hd) k'

theorem leaf_encVal (v : UVal) : (encVal v).leaf = v.leaf := by
  cases v <;> simp [encVal, PVal.leaf, UVal.leaf, encSets_eq_map]

theorem newWithQuality_keysDistinct (q : Quality) : UPS.KeysDistinct (UPS.newWithQuality q) := by
  simp [UPS.KeysDistinct, UPS.newWithQuality]

theorem insert_keysDistinct (m m' : UPS) (k : Str) (dt : DT) (v : UVal)
    (hn : UPS.KeysDistinct m) (hi : UPS.insert m k dt v = some m') : UPS.KeysDistinct m' := by
  unfold UPS.insert at hi
  split at hi
  · cases hi
  · cases hi; exact mapInsert_keys_nodup m k _ hn

theorem insert_keeps_quality (m m' : UPS) (k : Str) (dt : DT) (v : UVal)
    (hi : UPS.insert m k dt v = some m') : mapGet m' qualityKey = mapGet m qualityKey := by
  unfold UPS.insert at hi
  split at hi
  · cases hi
  · rename_i hk
    cases hi
    rw [mapGet_mapInsert]; simp [hk]

/-! ### payload property sets: total, and accepted exactly when acceptable (C19 clause) -/

/-- `r` is `ok` exactly when `P` holds and an error otherwise: never a panic -/
def Decides {α : Type} (r : Res α) (P : Prop) : Prop := (P ∧ ∃ x, r = .ok x) ∨ (¬ P ∧ r = .err)

theorem Decides.ne_panic {α : Type} {r : Res α} {P : Prop} (h : Decides r P) : r ≠ .panic := by
  rcases h with ⟨_, x, h⟩ | ⟨_, h⟩ <;> simp [h]

theorem Decides.ok_iff {α : Type} {r : Res α} {P : Prop} (h : Decides r P) :
    (∃ x, r = .ok x) ↔ P := by
  rcases h with ⟨hp, x, h⟩ | ⟨hp, h⟩ <;> simp [h, hp]

theorem Decides.congr {α : Type} {r : Res α} {P Q : Prop} (h : Decides r P) (hpq : P ↔ Q) :
    Decides r Q :=
  h.imp (fun h => ⟨hpq.mp h.1, h.2⟩) (fun h => ⟨fun q => h.1 (hpq.mpr q), h.2⟩)

theorem pvValue_decides (nu : Option Bool) (v : PVal) :
    Decides (pvValue nu v) (v = PVal.none → nu = some true) := by
  cases v with
  | none =>
    cases nu with
    | none => exact .inr ⟨by simp, rfl⟩
    | some b => cases b <;> first | exact .inr ⟨by simp, rfl⟩ | exact .inl ⟨fun _ => rfl, _, rfl⟩
  | _ => exact .inl ⟨(fun h => nomatch h), _, rfl⟩

theorem pvType_decides (ty : Option Nat) :
    Decides (pvType ty) (∀ c, ty = some c → c < 35) := by
  cases ty with
  | none => exact .inl ⟨(fun _ h => nomatch h), _, rfl⟩
  | some c =>
    simp only [pvType, Option.some.injEq, forall_eq']
    rw [← ofCode_isSome_iff]
    cases DT.ofCode c with
    | none => exact .inr ⟨by simp, rfl⟩
    | some d => exact .inl ⟨rfl, _, rfl⟩

theorem decPV_decides (p : PPV) : Decides (decPV p) (PPV.Acceptable p) := by
  obtain ⟨ty, nu, v⟩ := p
  rcases pvValue_decides nu v with ⟨h1, x, e1⟩ | ⟨h1, e1⟩
  · rcases pvType_decides ty with ⟨h2, d, e2⟩ | ⟨h2, e2⟩
    · exact .inl ⟨⟨h1, h2⟩, (d, x), by simp only [decPV, e1, e2]⟩
    · exact .inr ⟨fun h => h2 h.2, by simp only [decPV, e1, e2]⟩
  · exact .inr ⟨fun h => h1 h.1, by simp only [decPV, e1]⟩

theorem decLoop_decides (ks : List Str) (vs : List PPV) (acc : HMap) (hl : ks.length = vs.length) :
    Decides (decLoop ks vs acc) (∀ p ∈ vs, PPV.Acceptable p) := by
  induction ks generalizing vs acc with
  | nil =>
    cases vs with
    | nil => exact .inl ⟨(fun _ h => nomatch h), _, rfl⟩
    | cons v vs => cases hl
  | cons k ks ih =>
    cases vs with
    | nil => cases hl
    | cons v vs =>
      simp only [List.length_cons, Nat.add_right_cancel_iff] at hl
      simp only [decLoop]
      rcases decPV_decides v with ⟨h, e, he⟩ | ⟨h, he⟩
      · rw [he]
        exact (ih vs _ hl).congr (by simp [h])
      · rw [he]
        exact .inr ⟨fun hall => h (hall v List.mem_cons_self), rfl⟩

theorem decPS_decides (s : PSet) : Decides (decPS s) (PSet.Acceptable s) := by
  obtain ⟨ks, vs⟩ := s
  show Decides (if ks.length ≠ vs.length then Res.err else decLoop ks vs [])
    (ks.length = vs.length ∧ ∀ p ∈ vs, PPV.Acceptable p)
  by_cases hl : ks.length = vs.length
  · rw [if_neg (fun h => h hl)]
    exact (decLoop_decides ks vs [] hl).congr (by simp [hl])
  · rw [if_pos hl]
    exact .inr ⟨fun h => hl h.1, rfl⟩

theorem decPS_ne_panic (s : PSet) : decPS s ≠ .panic := (decPS_decides s).ne_panic

theorem decPS_ok_iff (s : PSet) : (∃ h, decPS s = .ok h) ↔ PSet.Acceptable s :=
  (decPS_decides s).ok_iff

theorem decPSList_decides (l : List PSet) : Decides (decPSList l) (∀ s ∈ l, PSet.Acceptable s) := by
  induction l with
  | nil => exact .inl ⟨nofun, _, rfl⟩
  | cons s t ih =>
    simp only [decPSList]
    rcases decPS_decides s with ⟨h, m, he⟩ | ⟨h, he⟩
    · rw [he]
      rcases ih with ⟨h', r, hr⟩ | ⟨h', hr⟩
      · exact .inl ⟨by simpa [h] using h', _, by rw [hr]⟩
      · exact .inr ⟨fun hall => h' fun s hs => hall s (List.mem_cons_of_mem _ hs), by rw [hr]⟩
    · rw [he]
      exact .inr ⟨fun hall => h (hall s List.mem_cons_self), rfl⟩

theorem decPSList_ne_panic (l : List PSet) : decPSList l ≠ .panic := (decPSList_decides l).ne_panic

end Srad.Metric
