/-
C05. Order: `handleRMsg` and its ghost `appliedSeqs` (the sequence numbers of the messages applied)
follow the same branches, so the applied numbers are consecutive from the expected one. Promptness:
the host's drain loop against the resequencer's `PInv` and the reference run `applyAll`.
-/
import SradModel.Proofs.Host

namespace Srad.Host

/-- effects that carry a message to a store (the ones `C05_effects_bounded` counts) -/
def isMsgEff : Eff → Bool
  | .nodeData _ | .devData _ _ | .devBirth _ _ _ => true
  | _ => false

theorem filter_isMsgEff_timer (te : List Eff) (h : ∀ e ∈ te, e = Eff.timerCancel ∨ e = Eff.timerStart) :
    te.filter isMsgEff = [] :=
  List.filter_eq_nil_iff.mpr (fun e he => by rcases h e he with rfl | rfl <;> simp [isMsgEff])

theorem apply_cnt (s : St) (m : RMsg) : ((apply s m).2.1.filter isMsgEff).length ≤ 1 := by
  cases m with
  | ndata id ans => simp [apply, List.filter, isMsgEff]
  | dbirth d id ans =>
    simp only [apply]
    split <;> split <;> simp [List.filter, isMsgEff]
  | ddeath d id =>
    simp only [apply]
    split <;> simp [List.filter, isMsgEff]
  | ddata d id ans =>
    simp only [apply]
    split <;> simp [List.filter, isMsgEff]

theorem applyAll_cnt (s : St) (l : List RMsg) :
    ((applyAll s l).2.1.filter isMsgEff).length ≤ l.length := by
  induction l generalizing s with
  | nil => exact Nat.le_refl _
  | cons m t ih =>
    have h1 := apply_cnt s m
    rw [applyAll_cons]
    split
    · have := ih (apply s m).1
      simp only [List.filter_append, List.length_append, List.length_cons]
      omega
    · exact Nat.le_trans h1 (by simp)

/-- the messages a step applies are the expected one and the chain it frees: their numbers are
consecutive from the expected number (`Reseq.Chain.inv`), and each adds at most one store-touching effect -/
theorem handleRMsg_seqs (c : Cfg) (s : St) (seq ts : Nat) (m : RMsg) (now : Nat)
    (hinv : Reseq.Inv s.reseq) (hseq : seq < 256) :
    ((handleRMsg c s seq ts m now).2.1.filter isMsgEff).length
        ≤ (appliedSeqs c s (.rmsg seq ts m)).length ∧
    (c.resequence = true →
      (∀ k (hk : k < (appliedSeqs c s (.rmsg seq ts m)).length),
        (appliedSeqs c s (.rmsg seq ts m))[k] = (s.reseq.next + k) % 256) ∧
      (handleRMsg c s seq ts m now).1.reseq.next
        = (s.reseq.next + (appliedSeqs c s (.rmsg seq ts m)).length) % 256) := by
  have hnext : s.reseq.next % 256 = s.reseq.next := Nat.mod_eq_of_lt hinv.1
  rcases handleRMsg_cases c s seq ts m now with ⟨h1, he⟩ | ⟨_, h2, he⟩ | ⟨hf, hl, hres⟩
  · rw [he, appliedSeqs_skip c s seq ts m (Or.inl h1)]; simp [hnext]
  · rw [he, appliedSeqs_skip c s seq ts m (Or.inr h2)]; simp [hnext]
  rcases hres with ⟨hres, he⟩ | hres
  · rw [he, appliedSeqs_pass c s seq ts m hf hl]
    simp only [hres, Bool.not_false, if_true]
    exact ⟨apply_cnt s m, fun h => by cases h⟩
  rcases handleRMsg_char c s seq ts m now hf hl hres with
    ⟨r', hp, he, ha⟩ | ⟨r', hp, he, ha⟩ | ⟨r', ms, r1, hp, hch, hstop, he, ha⟩ <;> rw [he, ha]
  · have := Reseq.process_keeps_next hp nofun
    simp [this, hnext]
  · have := Reseq.process_keeps_next hp nofun
    refine ⟨?_, fun _ => ⟨by simp, ?_⟩⟩
    · split
      · rw [filter_isMsgEff_timer _ (fun e he => Or.inr (startTimer_snd _ _ _ e he))]; simp
      · simp
    · split
      · rw [startTimer_fst_eq]; simp [this, hnext]
      · simp [this, hnext]
  · obtain ⟨_, hn, rfl⟩ := Reseq.process_next_eq hp
    have hi' := Reseq.process_inv s.reseq seq m hinv hseq
    rw [hp] at hi'
    obtain ⟨i1, i2, i3⟩ := hch.inv hi'
    obtain ⟨te, hte, htm⟩ := drained_effs c now (!ms.isEmpty) s [] (m :: ms.map (·.2)) r1
    refine ⟨?_, fun _ => ⟨fun k hk => ?_, ?_⟩⟩
    · have := applyAll_cnt s (m :: ms.map (·.2))
      rw [hte, List.nil_append, List.filter_append, filter_isMsgEff_timer te htm, List.append_nil]
      simpa using this
    · cases k with
      | zero => simp [← hn, hnext]
      | succ k =>
        have := i3 k (by simpa using hk)
        simp only [List.getElem_cons_succ, List.getElem_map, this, Reseq.wadd]; omega
    · rw [drained_reseq_eq i1 hstop, i2]
      simp only [Reseq.wadd, List.length_cons, List.length_map]; omega

theorem step_other_reseq (c : Cfg) (s : St) (i : In) (now wall : Nat)
    (hnb : ∀ ts bd id ans, i ≠ .nbirth ts bd id ans) (hnr : ∀ seq ts m, i ≠ .rmsg seq ts m)
    (hl : (step c s i now wall).1.life = .birthed) :
    (step c s i now wall).1.reseq = s.reseq := by
  have hbody : (body c s i now).1.life = .birthed → (body c s i now).1.reseq = s.reseq := by
    intro hb
    cases i with
    | nbirth ts bd id ans => exact absurd rfl (hnb ts bd id ans)
    | rmsg seq ts m => exact absurd rfl (hnr seq ts m)
    | ndeath bd =>
      show (setStale (cancelTimer s).1 now).1.reseq = s.reseq
      rw [setStale_birthed _ _ hb, cancelTimer_fst]
    | offline => exact congrArg (·.1.reseq) (setStale_birthed s now hb)
    | rebirthReq r => rfl
    | timerFire => simp only [body]; split <;> rfl
  revert hl
  rw [step_eq]
  cases raised c s i now with
  | none => exact hbody
  | some r =>
    intro hl
    obtain ⟨lr, he⟩ := issueRebirth_birthed c _ r now wall hl
    dsimp only at hl ⊢
    rw [he] at hl ⊢
    exact hbody hl

/-! ### `applyAll` -/

theorem apply_obs (s : St) (m : RMsg) :
    ∀ e ∈ (apply s m).2.1, e.observable = true ∧ e ≠ Eff.ncmd :=
  fun e he => ⟨(apply_eff s m e he).2, fun h => by subst h; cases (apply_eff s m _ he).1⟩

theorem applyAll_append (s : St) (l1 l2 : List RMsg) (h : (applyAll s l1).2.2 = none) :
    applyAll s (l1 ++ l2) = ((applyAll (applyAll s l1).1 l2).1,
      (applyAll s l1).2.1 ++ (applyAll (applyAll s l1).1 l2).2.1,
      (applyAll (applyAll s l1).1 l2).2.2) := by
  induction l1 generalizing s with
  | nil => simp [applyAll]
  | cons m t ih =>
    obtain ⟨h1, h2⟩ := applyAll_cons_clean s m t h
    rw [List.cons_append, applyAll_cons_none s m _ h1, applyAll_cons_none s m t h1, ih _ h2]
    simp

theorem applyAll_prefix_clean (s : St) (l1 l2 : List RMsg)
    (h : (applyAll s (l1 ++ l2)).2.2 = none) : (applyAll s l1).2.2 = none := by
  induction l1 generalizing s with
  | nil => rfl
  | cons m t ih =>
    rw [List.cons_append] at h
    obtain ⟨h1, h2⟩ := applyAll_cons_clean s m _ h
    rw [applyAll_cons_none s m t h1]
    exact ih _ h2

theorem SeqP.applyAll_eff (s : St) (l : List RMsg) :
    ∀ e ∈ (applyAll s l).2.1, e.observable = true ∧ e ≠ Eff.ncmd := by
  induction l generalizing s with
  | nil => simp [applyAll]
  | cons m t ih =>
    cases hr : (apply s m).2.2 with
    | none =>
      rw [applyAll_cons_none s m t hr]
      intro e he
      rcases List.mem_append.mp he with he | he
      · exact apply_obs s m e he
      · exact ih _ e he
    | some r =>
      rw [applyAll_cons_some s m t r hr]
      exact apply_obs s m

theorem filter_observable_eq (l : List Eff) (h : ∀ e ∈ l, e.observable = true ∧ e ≠ Eff.ncmd) :
    l.filter Eff.observable = l :=
  List.filter_eq_self.mpr (fun e he => (h e he).1)

theorem filter_timer_nil (te : List Eff) (h : ∀ e ∈ te, e = Eff.timerCancel ∨ e = Eff.timerStart) :
    te.filter Eff.observable = [] ∧ Eff.ncmd ∉ te := by
  refine ⟨?_, ?_⟩
  · rw [List.filter_eq_nil_iff]
    intro e he
    rcases h e he with h | h <;> subst h <;> simp [Eff.observable]
  · intro hmem
    rcases h _ hmem with h | h <;> cases h

/-! ### promptness: the chain a delivery frees, against the resequencer's `PInv` -/

/-- One delivery of message `i` of the session to a birthed node whose resequencer holds the arrivals
`pre`; `t` is a reference state with the same devices. The arrival applies exactly the messages from the
first index missing before it to the first index missing after it, and raises nothing. -/
theorem hostStep_spec (c : Cfg) (msgs : Nat → RMsg) (pre : List Nat) (i : Nat) (s t : St)
    (ts now wall : Nat) (hres : c.resequence = true) (hl : s.life = .birthed) (hfresh : Fresh s ts)
    (hP : Reseq.PInv 1 msgs pre (Reseq.mexOf pre) s.reseq) (hi : i ∉ pre)
    (hiw : i < Reseq.mexOf pre + 256) (hkk1 : Reseq.mexOf pre ≤ Reseq.mexOf (pre ++ [i]))
    (hdev : s.devices = t.devices)
    (hclean : (applyAll t ((List.range' (Reseq.mexOf pre)
      (Reseq.mexOf (pre ++ [i]) - Reseq.mexOf pre)).map msgs)).2.2 = none) :
    (step c s (.rmsg ((1 + i) % 256) ts (msgs i)) now wall).1.devices
      = (applyAll t ((List.range' (Reseq.mexOf pre)
          (Reseq.mexOf (pre ++ [i]) - Reseq.mexOf pre)).map msgs)).1.devices ∧
    Reseq.PInv 1 msgs (pre ++ [i]) (Reseq.mexOf (pre ++ [i]))
      (step c s (.rmsg ((1 + i) % 256) ts (msgs i)) now wall).1.reseq ∧
    Frame s (step c s (.rmsg ((1 + i) % 256) ts (msgs i)) now wall).1 ∧
    (step c s (.rmsg ((1 + i) % 256) ts (msgs i)) now wall).2.filter Eff.observable
      = (applyAll t ((List.range' (Reseq.mexOf pre)
          (Reseq.mexOf (pre ++ [i]) - Reseq.mexOf pre)).map msgs)).2.1 ∧
    Eff.ncmd ∉ (step c s (.rmsg ((1 + i) % 256) ts (msgs i)) now wall).2 := by
  have hk := (Reseq.mexOf_spec pre).2
  obtain ⟨hs1, hs2⟩ := Reseq.mexOf_spec (pre ++ [i])
  have hAB : ∀ j, j ∈ i :: pre ↔ j ∈ pre ++ [i] := fun j => by
    rw [List.mem_cons, List.mem_append, List.mem_singleton, or_comm]
  generalize Reseq.mexOf pre = k at *
  generalize Reseq.mexOf (pre ++ [i]) = k1 at *
  have hR := (handleRMsg_spec c s ((1 + i) % 256) ts (msgs i) now).1
  -- the message raises nothing, so the step is what `handleRMsg` does
  suffices h : (handleRMsg c s ((1 + i) % 256) ts (msgs i) now).2.2 = none ∧
      (handleRMsg c s ((1 + i) % 256) ts (msgs i) now).1.devices
        = (applyAll t ((List.range' k (k1 - k)).map msgs)).1.devices ∧
      Reseq.PInv 1 msgs (pre ++ [i]) k1 (handleRMsg c s ((1 + i) % 256) ts (msgs i) now).1.reseq ∧
      (handleRMsg c s ((1 + i) % 256) ts (msgs i) now).2.1.filter Eff.observable
        = (applyAll t ((List.range' k (k1 - k)).map msgs)).2.1 by
    rw [step_rmsg_eq]
    simp only [h.1]
    exact ⟨h.2.1, h.2.2.1, hR.frame, h.2.2.2, fun hm => by cases hR.plain _ hm⟩
  clear hR
  by_cases hik : i = k
  · subst hik
    obtain ⟨r', hp, hP1⟩ := Reseq.process_next 1 msgs pre i s.reseq hP hk
    rcases handleRMsg_char c s ((1 + i) % 256) ts (msgs i) now hfresh hl hres with
      ⟨_, hp', _⟩ | ⟨_, hp', _⟩ | ⟨_, ms, r1, hp', hch, hstop, he, _⟩ <;>
      rw [show Reseq.process s.reseq ((1 + i) % 256) ((1 + i) % 256, msgs i) = _ from hp] at hp' <;>
      cases hp'
    have hi1 : i + 1 ≤ k1 := Nat.lt_of_le_of_ne hkk1 fun h => hs2 (h ▸ (hAB i).mp (List.mem_cons_self ..))
    obtain ⟨e1, e2, _⟩ := Reseq.PInv.chain hch hP1
    obtain ⟨hle, hend⟩ := Reseq.PInv.chain_end hch hP1 hi1
      (fun j _ h2 => (hAB j).mpr (hs1 j h2)) (fun h => hs2 ((hAB _).mp h))
    -- what is applied: the messages `i, i+1, …`, a prefix of those up to `k1`
    have hl1 : msgs i :: ms.map (·.2) = (List.range' i (ms.length + 1)).map msgs := by
      conv => lhs; rw [e1]
      simp [List.range'_succ, Reseq.runMsg, Function.comp_def]
    have hsplit : List.range' i (k1 - i) = List.range' i (ms.length + 1) ++
        List.range' (i + (ms.length + 1)) (k1 - i - (ms.length + 1)) := by
      rw [List.range'_append_1]; congr 1; omega
    obtain ⟨_, c2⟩ := SeqP.applyAll_congr s t (msgs i :: ms.map (·.2)) hdev
    have hc1 : (applyAll s (msgs i :: ms.map (·.2))).2.2 = none := by
      rw [c2, hl1]
      rw [hsplit, List.map_append] at hclean
      exact applyAll_prefix_clean _ _ _ hclean
    have hk1 : k1 - i = ms.length + 1 := by have := hend (hstop hc1); omega
    rw [hk1, ← hl1]
    obtain ⟨c1, c2⟩ := SeqP.applyAll_congr s t (msgs i :: ms.map (·.2)) hdev
    obtain ⟨te, hte, htm⟩ := drained_effs c now (!ms.isEmpty) s [] (msgs i :: ms.map (·.2)) r1
    refine ⟨by rw [he, drained_reason, hc1], by rw [he, drained_fst, ← c1], ?_, ?_⟩
    · rw [he, drained_reseq_eq e2.2.2.2.1 hstop]
      have := hend (hstop hc1)
      exact Reseq.PInv_congr _ _ _ _ _ _ hAB (this ▸ e2)
    · rw [he, hte, List.nil_append, List.filter_append, (filter_timer_nil te htm).1, List.append_nil,
        filter_observable_eq _ (SeqP.applyAll_eff s _), c2]
  · obtain ⟨r1, hp, hP1⟩ := Reseq.process_ins 1 msgs pre k i s.reseq hP hi hiw hik
    rcases handleRMsg_char c s ((1 + i) % 256) ts (msgs i) now hfresh hl hres with
      ⟨_, hp', _⟩ | ⟨_, hp', he, _⟩ | ⟨_, _, _, hp', _⟩ <;>
      rw [show Reseq.process s.reseq ((1 + i) % 256) ((1 + i) % 256, msgs i) = _ from hp] at hp' <;>
      cases hp'
    have hkeq : k1 = k := by
      rcases Nat.lt_or_ge k k1 with h | h
      · rcases List.mem_cons.mp ((hAB k).mpr (hs1 k h)) with h' | h'
        · exact absurd h'.symm hik
        · exact absurd h' hk
      · omega
    subst hkeq
    have hP2 := Reseq.PInv_congr _ _ _ _ _ _ hAB hP1
    rw [he]
    simp only [Nat.sub_self, List.range'_zero, List.map_nil, applyAll]
    split
    · rw [startTimer_fst_eq]
      exact ⟨rfl, hdev, hP2, (filter_timer_nil _ (fun e h => Or.inr (startTimer_snd _ _ _ e h))).1⟩
    · exact ⟨rfl, hdev, hP2, rfl⟩

theorem prompt_take (c : Cfg) (s0 : St) (ts : Nat → Nat) (msgs : Nat → RMsg)
    (clk : Nat → Nat × Nat) (arr : List Nat)
    (hres : c.resequence = true) (hb : s0.life = .birthed)
    (hstart : s0.reseq = Reseq.setNext Reseq.init 1)
    (hnodup : arr.Nodup) (hwin : Reseq.WindowOk arr) (hfresh : ∀ i ∈ arr, Fresh s0 (ts i))
    (hclean : (applyAll s0 ((List.range (Reseq.mexOf arr)).map msgs)).2.2 = none) :
    ∀ n, n ≤ arr.length →
      Frame s0 (run c s0 ((arr.take n).map (sessEv ts msgs clk))).1 ∧
      (run c s0 ((arr.take n).map (sessEv ts msgs clk))).1.devices
        = (applyAll s0 ((List.range (Reseq.mexOf (arr.take n))).map msgs)).1.devices ∧
      Reseq.PInv 1 msgs (arr.take n) (Reseq.mexOf (arr.take n))
        (run c s0 ((arr.take n).map (sessEv ts msgs clk))).1.reseq ∧
      (run c s0 ((arr.take n).map (sessEv ts msgs clk))).2.filter Eff.observable
        = (applyAll s0 ((List.range (Reseq.mexOf (arr.take n))).map msgs)).2.1 ∧
      Eff.ncmd ∉ (run c s0 ((arr.take n).map (sessEv ts msgs clk))).2 := by
  refine Reseq.delivery_induct arr hnodup hwin (fun pre =>
    Frame s0 (run c s0 (pre.map (sessEv ts msgs clk))).1 ∧
    (run c s0 (pre.map (sessEv ts msgs clk))).1.devices
      = (applyAll s0 ((List.range (Reseq.mexOf pre)).map msgs)).1.devices ∧
    Reseq.PInv 1 msgs pre (Reseq.mexOf pre) (run c s0 (pre.map (sessEv ts msgs clk))).1.reseq ∧
    (run c s0 (pre.map (sessEv ts msgs clk))).2.filter Eff.observable
      = (applyAll s0 ((List.range (Reseq.mexOf pre)).map msgs)).2.1 ∧
    Eff.ncmd ∉ (run c s0 (pre.map (sessEv ts msgs clk))).2) ?_ ?_
  · have h0 : Reseq.mexOf ([] : List Nat) = 0 := by decide
    simp only [List.map_nil, run, h0, List.range_zero, applyAll, List.filter_nil,
      List.not_mem_nil, not_false_eq_true, and_true, true_and]
    refine ⟨Frame.refl s0, ?_⟩
    rw [hstart]
    exact Reseq.PInv_nil 1 msgs _ ⟨by decide, rfl⟩ rfl rfl
  · rintro pre i ⟨iF, idev, iP, ieff, incmd⟩ hiarr hi hw hkk1 hk1arr
    -- applying up to the first missing index raises nothing, before and after this arrival
    have hc1 : (applyAll s0 ((List.range (Reseq.mexOf (pre ++ [i]))).map msgs)).2.2 = none := by
      rw [Reseq.range_split _ _ hk1arr, List.map_append] at hclean
      exact applyAll_prefix_clean _ _ _ hclean
    have hc0 : (applyAll s0 ((List.range (Reseq.mexOf pre)).map msgs)).2.2 = none := by
      rw [Reseq.range_split _ _ hkk1, List.map_append] at hc1
      exact applyAll_prefix_clean _ _ _ hc1
    have happ := applyAll_append s0 ((List.range (Reseq.mexOf pre)).map msgs)
      ((List.range' (Reseq.mexOf pre) (Reseq.mexOf (pre ++ [i]) - Reseq.mexOf pre)).map msgs) hc0
    rw [← List.map_append, ← Reseq.range_split _ _ hkk1] at happ
    obtain ⟨h1, h2, hF, h6, h7⟩ := hostStep_spec c msgs pre i
      (run c s0 (pre.map (sessEv ts msgs clk))).1
      (applyAll s0 ((List.range (Reseq.mexOf pre)).map msgs)).1
      (ts i) (clk i).1 (clk i).2 hres (iF.life.trans hb)
      (by have := hfresh i hiarr; unfold Fresh at this ⊢; rw [iF.birthTs, iF.staleTs]; exact this)
      iP hi hw hkk1 idev (by rw [happ] at hc1; exact hc1)
    rw [List.map_append, run_append, List.map_singleton, run_single]
    simp only [sessEv]
    rw [happ]
    refine ⟨iF.trans hF, h1, h2, by rw [List.filter_append, ieff, h6], fun hmem => ?_⟩
    exact (List.mem_append.mp hmem).elim incmd h7

end Srad.Host