/-
The exchange between the event loop and the node task (`client_state` message out, oneshot reply back) and where
the registered will stands relative to `bdseq` at every point of it: `LoopAt` says it per event-loop pc, `Sync`
is its invariant on top of `P20.Inv`. `Wf` is the two together, what a proof about a trace scanner may assume of
every state it visits (`IsMonitor.reaches`).
-/
import SradModel.Proofs.EonInv

namespace Srad.Eon.P03
open Srad.Eon
open Srad.Eon.P20 (stopPhase willAw nodeBusy)

def SyncP (s : St) : Prop := s.will = some s.bdseq
/-- the node bumped `bdseq` on losing the connection and the loop has not registered the new will yet; the node
is offline till then — once it is online again, NBIRTH reads `bdseq` and the will must be current (`Inv.sync`) -/
def LagP (s : St) : Prop := ∃ w, s.will = some w ∧ s.bdseq = (w + 1) % 256 ∧ s.online = false
/-- all that is left once the shutdown timeout has abandoned a wait (`force*`, `sendStopped`, `done`): the node may
still answer the abandoned Offline message, and nobody registers that will -/
def SL (s : St) : Prop := SyncP s ∨ LagP s
/-- no Offline message is on its way to the node -/
def NoOff (s : St) : Prop := ∀ o, s.cs ≠ some (.offline o)

/-- the Offline message for `o`: still in `cs` / answered with the new bdSeq / dropped -/
def Await (s : St) (o : Nat) (P : Prop) : Prop :=
  (s.cs = some (.offline o) ∧ reply? s o = none ∧ P) ∨
  (s.cs = none ∧ reply? s o = some (some s.bdseq) ∧ LagP s) ∨
  (s.cs = none ∧ reply? s o = some none ∧ P)

def LoopAt (s : St) : LoopPc → Prop
  | .start => s.will = none ∧ s.bdseq = 0 ∧ s.online = false ∧ s.cs = none ∧ s.running = false
  | .sel | .polling | .stopCheck | .stopPolling => SyncP s ∧ NoOff s
  | .sendCs m => SyncP s ∧ NoOff s ∧ (∀ o, m = .offline o → reply? s o = none ∧ o < s.nextOneshot)
  | .stopSendCs o => SyncP s ∧ NoOff s ∧ reply? s o = none ∧ o < s.nextOneshot
  | .awaitWill o | .stopAwaitWill o => Await s o (SyncP s)
  | .forceSendCs o => SL s ∧ s.cs ≠ some (.offline o) ∧ reply? s o = none ∧ o < s.nextOneshot
  | .forceAwaitWill o => Await s o (SL s)
  | .sendStopped | .done => SL s

/-- `poll` returned an Offline and the new will is not registered yet -/
def SoPc : LoopPc → Bool
  | .awaitWill _ | .sendCs (.offline _) | .stopAwaitWill _ | .stopSendCs _ => true
  | _ => false

theorem Await.replied {s : St} {o bd : Nat} {P : Prop} (hA : Await s o P) (hr : reply? s o = some (some bd)) :
    s.cs = none ∧ bd = s.bdseq ∧ LagP s := by
  rcases hA with ⟨-, h, -⟩ | ⟨hc, h, hl⟩ | ⟨-, h, -⟩ <;> rw [hr] at h <;> cases h
  exact ⟨hc, rfl, hl⟩

theorem Await.dropped {s : St} {o : Nat} {P : Prop} (hA : Await s o P) (hr : reply? s o = some none) :
    s.cs = none ∧ P := by
  rcases hA with ⟨-, h, -⟩ | ⟨-, h, -⟩ | ⟨hc, -, hp⟩
  · rw [hr] at h; cases h
  · rw [hr] at h; cases h
  · exact ⟨hc, hp⟩

theorem LoopAt.sl {s : St} {pc : LoopPc} (h : LoopAt s pc) :
    pc = .start ∨ SyncP s ∨ LagP s ∧ (SoPc pc = true ∨ stopPhase pc = true) := by
  -- `LagP` comes from the answered case of `Await` (a `SoPc` or `stopPhase` pc) or from `SL` (a `stopPhase` pc)
  cases pc <;> simp only [LoopAt, Await, SL, SoPc, stopPhase] at h ⊢ <;> grind

theorem NoOff.of_none {s : St} (h : s.cs = none) : NoOff s := fun o h' => by rw [h] at h'; cases h'

/-- The node task takes a message other than Offline off `client_state`. `hon`: it may go online on that occasion
only while the loop is not shutting down, since `LagP` needs it offline. -/
theorem LoopAt.take {s s' : St} {pc : LoopPc} {m : CS} (h : LoopAt s pc) (hcs : s.cs = some m)
    (hm : ∀ o, m ≠ .offline o) (hcs' : s'.cs = none) (hw : s'.will = s.will) (hb : s'.bdseq = s.bdseq)
    (ho : s'.oneshots = s.oneshots) (hn : s'.nextOneshot = s.nextOneshot)
    (hon : s'.online = s.online ∨ stopPhase pc = false) : LoopAt s' pc := by
  cases pc with
  -- the loop cannot be waiting for a reply (`Await` wants `cs` empty or Offline), nor at `start`
  | start | awaitWill | stopAwaitWill | forceAwaitWill => simp only [LoopAt, Await] at h; grind
  -- after the shutdown timeout the will may lag, which `hon` keeps true
  | forceSendCs | sendStopped | done => simp only [LoopAt, SyncP, LagP, SL, reply?, stopPhase] at h hon ⊢; grind
  -- elsewhere the will is current and stays so
  | _ => simp only [LoopAt, SyncP, NoOff, reply?] at h ⊢; grind

theorem LoopAt.sync_of_msg {s : St} {pc : LoopPc} {m : CS} (h : LoopAt s pc) (hcs : s.cs = some m)
    (hst : stopPhase pc = false) : SyncP s := by
  -- a full `cs` rules out `start` and the answered cases of `Await`; everywhere else before the shutdown `SyncP` is stated
  cases pc <;> simp only [LoopAt, NoOff, Await, stopPhase] at h hst <;> grind

/-- The node task takes an Offline message off `client_state` and answers on its oneshot (`hr`): with nothing if it
was offline already, else with the new bdSeq, and then the will lags. -/
theorem LoopAt.answer {s s' : St} {pc : LoopPc} {o : Nat} {r : Option Nat} (h : LoopAt s pc)
    (hcs : s.cs = some (.offline o)) (hcs' : s'.cs = none) (hw : s'.will = s.will)
    (ho : s'.oneshots = s.oneshots ++ [(o, r)]) (hn : s'.nextOneshot = s.nextOneshot)
    (hr : r = none ∧ s'.bdseq = s.bdseq ∧ s'.online = s.online ∨
      r = some s'.bdseq ∧ SyncP s ∧ s'.bdseq = (s.bdseq + 1) % 256 ∧ s'.online = false) :
    LoopAt s' pc := by
  have hre : ∀ o', reply? s o' = none → reply? s' o' = if o = o' then some r else none :=
    fun o' => reply?_snoc ho
  cases pc with
  -- the loop waits for this very reply: the first case of `Await` becomes the second (answered) or the third (dropped)
  | awaitWill | stopAwaitWill | forceAwaitWill => simp only [LoopAt, SyncP, LagP, SL, Await] at h hr ⊢; grind
  -- the message was abandoned by the shutdown timeout: the oneshot the loop uses next is another one
  | forceSendCs | sendStopped | done => simp only [LoopAt, SyncP, LagP, SL] at h hr ⊢; grind
  -- elsewhere no Offline message is in `cs`
  | _ => simp only [LoopAt, NoOff] at h; grind

/-- `sync`: while the node is online the will is current — so NBIRTH, sent only by an online node, carries it -/
structure Sync (s : St) : Prop where
  loop : LoopAt s s.loop
  sync : s.online = true → SyncP s

theorem Sync.init (cd : Nat) : Sync (init cd) := ⟨⟨rfl, rfl, rfl, rfl, rfl⟩, nofun⟩

theorem Sync.step {s s' : St} {o : List Obs} (hB : P20.Inv s) (hI : Sync s) (h : Step s s' o) : Sync s' := by
  have hl : ∀ {pc}, s.loop = pc → LoopAt s pc := fun h => h ▸ hI.loop
  -- a new oneshot gets id `nextOneshot`: no reply carries it yet
  have hfresh : reply? s s.nextOneshot = none := reply?_none_of_lt hB.os_fresh
  cases h with
  | stim x h => rw [h.frame]; exact { hI with }
  | loop h =>
    cases h with
    | start hpc => exact ⟨⟨rfl, .of_none (hl hpc).2.2.2.1⟩, fun _ => rfl⟩
    | stopReq hpc hst => exact { hI with loop := hpc.elim hl hl }
    | poll hpc => exact { hI with loop := hl hpc }
    | polled e rest s' hpc hin hh =>
      obtain ⟨hs, hn⟩ := hl hpc
      cases hh with
      | online => exact { hI with loop := ⟨hs, nofun⟩ }
      | onlineBusy => exact { hI with loop := ⟨hs, hn, nofun⟩ }
      | offline => exact { hI with loop := .inl ⟨rfl, hfresh, hs⟩ }
      | offlineBusy => exact { hI with loop := ⟨hs, hn, fun o h => by cases h; exact ⟨hfresh, Nat.lt_succ_self _⟩⟩ }
      | _ => exact { hI with loop := ⟨hs, hn⟩ }
    | sendCs m hpc hcs hm => exact { hI with loop := ⟨(hl hpc).1, fun o h => hm o (Option.some.inj h)⟩ }
    | sendCsOffline o hpc =>
      obtain ⟨hs, -, hr⟩ := hl hpc
      exact { hI with loop := .inl ⟨rfl, (hr o rfl).1, hs⟩ }
    | will o bd hpc hre =>
      obtain ⟨hcs, rfl, -⟩ := (hl hpc).replied hre
      exact ⟨⟨rfl, .of_none hcs⟩, fun _ => rfl⟩
    | willDropped o hpc hre =>
      obtain ⟨hcs, hs⟩ := (hl hpc).dropped hre
      exact { hI with loop := ⟨hs, .of_none hcs⟩ }
    | stopOffline hpc => exact { hI with loop := .inl (hl hpc).1 }
    | stopPoll hpc | stopPolled _ _ hpc => exact { hI with loop := hl hpc }
    | stopPolledOffline rest hpc => exact { hI with loop := .inl ⟨rfl, hfresh, (hl hpc).1⟩ }
    | stopPolledOfflineBusy rest m hpc =>
      exact { hI with loop := ⟨(hl hpc).1, (hl hpc).2, hfresh, Nat.lt_succ_self _⟩ }
    | stopSendCs o hpc | forceSendCs o hpc =>
      obtain ⟨hp, -, hr, -⟩ := hl hpc
      exact { hI with loop := .inl ⟨rfl, hr, hp⟩ }
    | lastWill o bd hpc hre =>
      obtain ⟨-, rfl, -⟩ := hpc.elim (fun h => (hl h).replied hre) (fun h => (hl h).replied hre)
      exact ⟨.inl rfl, fun _ => rfl⟩
    | lastWillDropped o hpc hre =>
      exact { hI with loop := hpc.elim (fun h => .inl ((hl h).dropped hre).2) (fun h => ((hl h).dropped hre).2) }
    | sendStopped hpc => exact { hI with loop := hl hpc }
  | timeout h =>
    have key : PollingOffline s.loop → SL s := fun hp => by
      have hst := P20.stopPhase_of_polling hp
      rcases hI.loop.sl with h | h | ⟨h, -⟩
      · rw [h] at hst; cases hst
      · exact .inl h
      · exact .inr h
    cases h with
    | force dl _ _ hp => exact { hI with loop := .inl ⟨rfl, hfresh, key hp⟩ }
    | forceBusy dl m _ _ hp =>
      exact { hI with loop := ⟨key hp, fun h => Nat.lt_irrefl _ (hB.cs_fresh _ h), hfresh, Nat.lt_succ_self _⟩ }
  | node dec h =>
    cases h with
    | onlineStopping _ hcs | stopped _ hcs =>
      exact { hI with loop := hI.loop.take hcs nofun rfl rfl rfl rfl rfl (.inl rfl) }
    | onlineDup _ hcs _ hon =>
      exact ⟨hI.loop.take hcs nofun rfl rfl rfl rfl rfl (.inl hon.symm), fun _ => hI.sync hon⟩
    | onlineSub _ hcs hst =>
      -- the node goes online only while the loop is not shutting down
      have hns : stopPhase s.loop = false := by
        cases h : stopPhase s.loop
        · rfl
        · rw [hB.phase_stopping h] at hst; cases hst
      exact ⟨hI.loop.take hcs nofun rfl rfl rfl rfl rfl (.inr hns), fun _ => hI.loop.sync_of_msg hcs hns⟩
    | offlineDup o _ hcs => exact { hI with loop := hI.loop.answer hcs rfl rfl rfl rfl (.inl ⟨rfl, rfl, rfl⟩) }
    | offline o hpc hcs hon =>
      exact ⟨hI.loop.answer hcs rfl rfl rfl rfl (.inr ⟨rfl, hI.sync hon, rfl, rfl⟩), nofun⟩
    | _ => exact { hI with }
  | dev u dec h => rw [h.frame]; exact { hI with }
  | user j dec h => rw [h.frame]; exact { hI with }

/-! ### what the exchange gives a scanner proof

The event loop registers a will at `start` and on an answered oneshot; both times the node is offline, hence
neither birthed nor in a birth. -/

theorem Sync.start_safe {s : St} (hB : P20.Inv s) (hI : Sync s) (h : s.loop = .start) :
    s.birthed = false ∧ nodeBusy s.node = false :=
  have hl : LoopAt s .start := h ▸ hI.loop
  hB.offline hl.2.2.1

theorem Sync.replied_safe {s : St} (hB : P20.Inv s) (hI : Sync s) {o bd : Nat} (ha : willAw s.loop = some o)
    (hr : reply? s o = some (some bd)) : s.birthed = false ∧ nodeBusy s.node = false := by
  have hA : ∃ P, Await s o P := by
    have hl := hI.loop
    cases hp : s.loop <;> rw [hp] at ha hl <;> cases ha <;> exact ⟨_, hl⟩
  obtain ⟨P, hA⟩ := hA
  obtain ⟨-, -, w, -, -, ho⟩ := hA.replied hr
  exact hB.offline ho

/-! ### the invariant a scanner proof assumes -/

end Srad.Eon.P03

namespace Srad.Eon

structure Wf (s : St) : Prop where
  inv : P20.Inv s
  sync : P03.Sync s

theorem Wf.init (cd : Nat) : Wf (init cd) := ⟨P20.Inv_init cd, .init cd⟩

theorem Wf.step {s s' : St} {o : List Obs} (h : Wf s) (hs : Step s s' o) : Wf s' :=
  ⟨h.inv.step hs, h.sync.step h.inv hs⟩

/-- a scanner accepts every trace from the initial state if some relation `R` between node state and scanner
state is kept by every step from a well-formed state -/
theorem IsMonitor.reaches {σ : Type} {ok : σ → List Obs → Bool} {next : σ → Obs → σ} (m : IsMonitor ok next)
    {R : St → σ → Prop} (hstep : ∀ {s q s' o}, Wf s → R s q → Step s s' o → ok q o = true ∧ R s' (o.foldl next q))
    {cd : Nat} {q₀ : σ} (h0 : R (init cd) q₀) {acts : List Act} {s : St} {tr : List Obs}
    (h : Eon.runActs (init cd) acts = some (s, tr)) : ok q₀ tr = true ∧ Wf s ∧ R s (tr.foldl next q₀) :=
  m.runActs (R := fun s q => Wf s ∧ R s q) (fun ⟨hw, hr⟩ hs => ⟨(hstep hw hr hs).1, hw.step hs, (hstep hw hr hs).2⟩)
    ⟨.init cd, h0⟩ h

end Srad.Eon
