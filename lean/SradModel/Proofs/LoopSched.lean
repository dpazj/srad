/-
Behind `Props/C08Sched.lean`: fault-free schedules of the closed loop. "In sync up to what is in flight"
(`UpTo`) is kept by every fault-free action; publishes commute with FIFO deliveries, so a generalised
round is `round`; a schedule in which the clock advances before each NCMD delivery has no stale-tick
delivery, hence no same-tick one; a stale or tracking host with rebirths in flight (`Heal`) heals under
every fault-free interleaving without a same-tick NCMD delivery.
-/
import SradModel.Proofs.LoopReach
import SradModel.Model.LoopSched

namespace Srad.Loop
open Srad Srad.Host

/-! ## in sync up to what is in flight -/

theorem runEnd_append (m : Msg) : ∀ (l : List Msg) (e : Nat), runEnd e (l ++ [m]) = (runEnd e l + 1) % 256 := by
  intro l
  induction l with
  | nil => intro e; rfl
  | cons a t ih => intro e; simp only [List.cons_append, runEnd]; exact ih _

theorem dataRun_append (bts sts : Nat) (names : List Nat) (m : Msg) : ∀ (l : List Msg) (e : Nat),
    dataRun bts sts names e l = true → dataRun bts sts names (runEnd e l) [m] = true →
    dataRun bts sts names e (l ++ [m]) = true := by
  intro l
  induction l with
  | nil => intro e _ h; exact h
  | cons a t ih =>
    intro e h1 h2
    cases a with
    | ndata seq ts id =>
      simp only [dataRun, Bool.and_eq_true] at h1
      simp only [List.cons_append, dataRun, Bool.and_eq_true]
      exact ⟨h1.1, ih _ h1.2 h2⟩
    | ddata dv seq ts id =>
      simp only [dataRun, Bool.and_eq_true] at h1
      simp only [List.cons_append, dataRun, Bool.and_eq_true]
      exact ⟨h1.1, ih _ h1.2 h2⟩
    | nbirth _ _ _ => simp [dataRun] at h1
    | ndeath _ => simp [dataRun] at h1
    | dbirth _ _ _ _ => simp [dataRun] at h1
    | ddeath _ _ _ _ => simp [dataRun] at h1

/-- in sync up to what is in flight (the `Prop` behind `Sys.syncUpTo`, with the configuration and
the node's flag discipline) -/
structure UpTo (d : Nat) (s : Sys) : Prop where
  cfg : s.cfg = Sys.fullCfg d
  nodeConn : s.nodeConn = true
  hostConn : s.hostConn = true
  online : s.node.online = true
  birthed : s.node.birthed = true
  flags : ∀ x ∈ s.node.devs, x.flag = true → x.enabled = true
  track : Track s.host s.host.reseq.next
  toNode : s.toNode = 0
  birthTs : s.host.birthTs ≤ s.clock
  staleTs : s.host.staleTs ≤ s.clock
  devs : ∀ dv ∈ s.node.enabledNames, findDev dv s.host.devices = some .birthed
  only : (s.host.devices.all fun p => decide (p.2 = Life.stale) || s.node.enabledNames.contains p.1) = true
  flight : dataRun s.host.birthTs s.host.staleTs s.node.enabledNames s.host.reseq.next s.toHost = true
  fin : runEnd s.host.reseq.next s.toHost = (s.node.seq + 1) % 256

/-- the ghost quantity that a fault-free step from an `UpTo` state extends by the data effects of
what the node hands over: effects so far, then the data effects of what is in flight -/
def pend (s : Sys) : List Eff := s.effs ++ s.toHost.filterMap Msg.dataEff

def StepOut (s t : Sys) : Prop :=
  ∃ ms, t.sent = s.sent ++ ms ∧ pend t = pend s ++ ms.filterMap Msg.dataEff ∧
    ∀ m ∈ ms, (Msg.dataShape m).isSome = true

theorem StepOut.refl (s : Sys) : StepOut s s := ⟨[], by simp, by simp, by simp⟩

theorem StepOut.trans {a b c : Sys} (h1 : StepOut a b) (h2 : StepOut b c) : StepOut a c := by
  obtain ⟨x, x1, x2, x3⟩ := h1
  obtain ⟨y, y1, y2, y3⟩ := h2
  refine ⟨x ++ y, by rw [y1, x1, List.append_assoc], by rw [y2, x2, List.filterMap_append, List.append_assoc], ?_⟩
  intro m hm
  rcases List.mem_append.mp hm with h | h
  · exact x3 m h
  · exact y3 m h

theorem send_nil (s : Sys) : s.send s.node [] = s := by
  cases s; simp [Sys.send]

theorem tracked_next (h : St) (e : Nat) : (tracked h e).reseq.next = (e + 1) % 256 := rfl

theorem UpTo.deliver {d : Nat} {s : Sys} (h : UpTo d s) :
    UpTo d (s.step (.deliver 0)) ∧ StepOut s (s.step (.deliver 0)) := by
  cases hq : s.toHost with
  | nil =>
    have : s.step (.deliver 0) = s := by simp [Sys.step, hq]
    rw [this]; exact ⟨h, StepOut.refl s⟩
  | cons m t =>
    rw [step_deliver0 s m t h.hostConn hq]
    have hrun := h.flight
    have hfin := h.fin
    rw [hq] at hrun hfin
    have key : ∀ (eff : Eff), Msg.dataEff m = some eff →
        step (Sys.fullCfg d) s.host m.toIn s.clock s.clock = (tracked s.host s.host.reseq.next, [eff]) →
        dataRun s.host.birthTs s.host.staleTs s.node.enabledNames ((s.host.reseq.next + 1) % 256) t = true →
        UpTo d (({ s with toHost := t } : Sys).hostStep m.toIn) ∧
          StepOut s (({ s with toHost := t } : Sys).hostStep m.toIn) := by
      intro eff heff hstep hrun'
      have hne : eff ≠ Eff.ncmd := by
        cases m <;> simp [Msg.dataEff] at heff <;> subst heff <;> simp
      have hS : ({ s with toHost := t } : Sys).hostStep m.toIn =
          { s with toHost := t, host := tracked s.host s.host.reseq.next, effs := s.effs ++ [eff] } := by
        simp only [Sys.hostStep, h.cfg, hstep, h.hostConn, if_true]
        have : List.count Eff.ncmd [eff] = 0 := by
          simp [hne]
        simp [this]
      rw [hS]
      refine ⟨⟨h.cfg, h.nodeConn, h.hostConn, h.online, h.birthed, h.flags,
        tracked_track _ _ h.track, h.toNode, h.birthTs, h.staleTs, h.devs, h.only, hrun', ?_⟩, ?_⟩
      · simp only [runEnd] at hfin
        exact hfin
      · refine ⟨[], by simp, ?_, by simp⟩
        simp only [pend, hq, List.filterMap_cons, heff, List.filterMap_nil, List.append_nil,
          List.append_assoc, List.singleton_append]
    cases m with
    | ndata seq ts id =>
      simp only [dataRun, Bool.and_eq_true, decide_eq_true_eq] at hrun
      obtain ⟨⟨⟨h1, h2⟩, h3⟩, h4⟩ := hrun
      subst h1
      exact key (.nodeData id) rfl (step_track_ndata d s.host _ ts id s.clock h.track h2 h3) h4
    | ddata dv seq ts id =>
      simp only [dataRun, Bool.and_eq_true, decide_eq_true_eq] at hrun
      obtain ⟨⟨⟨⟨h0, h1⟩, h2⟩, h3⟩, h4⟩ := hrun
      subst h1
      have hmem : dv ∈ s.node.enabledNames := by simpa using h0
      exact key (.devData dv id) rfl
        (step_track_ddata_ok d s.host _ ts dv id s.clock h.track h2 h3 (h.devs dv hmem)) h4
    | nbirth _ _ _ => simp [dataRun] at hrun
    | ndeath _ => simp [dataRun] at hrun
    | dbirth _ _ _ _ => simp [dataRun] at hrun
    | ddeath _ _ _ _ => simp [dataRun] at hrun

theorem UpTo.sendData {d : Nat} {s : Sys} (h : UpTo d s) (m : Msg)
    (hm : dataRun s.host.birthTs s.host.staleTs s.node.enabledNames ((s.node.seq + 1) % 256) [m] = true) :
    let n' : Node := { s.node with seq := (s.node.seq + 1) % 256, nextId := s.node.nextId + 1 }
    UpTo d (s.send n' [m]) ∧ StepOut s (s.send n' [m]) := by
  intro n'
  have hsh : (Msg.dataShape m).isSome = true := by
    cases m <;> simp [dataRun] at hm <;> rfl
  refine ⟨⟨h.cfg, h.nodeConn, h.hostConn, h.online, h.birthed, h.flags, h.track, h.toNode, h.birthTs, h.staleTs,
    h.devs, h.only, ?_, ?_⟩, ?_⟩
  · show dataRun _ _ _ _ (s.toHost ++ [m]) = true
    refine dataRun_append _ _ _ m _ _ h.flight ?_
    show dataRun s.host.birthTs s.host.staleTs s.node.enabledNames (runEnd s.host.reseq.next s.toHost) [m] = true
    rw [h.fin]; exact hm
  · show runEnd _ (s.toHost ++ [m]) = _
    rw [runEnd_append]
    show (runEnd s.host.reseq.next s.toHost + 1) % 256 = ((s.node.seq + 1) % 256 + 1) % 256
    rw [h.fin]
  · refine ⟨[m], rfl, ?_, ?_⟩
    · simp only [pend, Sys.send, List.filterMap_append, List.append_assoc]
    · intro x hx
      rw [List.mem_singleton.mp hx]; exact hsh

theorem UpTo.publishNode {d : Nat} {s : Sys} (h : UpTo d s) :
    UpTo d (s.step .publishNode) ∧ StepOut s (s.step .publishNode) := by
  have hp := pubNode_eq s.clock s.node h.online h.birthed
  have : s.step .publishNode = s.send { s.node with seq := (s.node.seq + 1) % 256, nextId := s.node.nextId + 1 }
      [.ndata ((s.node.seq + 1) % 256) s.clock s.node.nextId] := by
    simp only [Sys.step, hp]
  rw [this]
  refine h.sendData _ ?_
  simp [dataRun, h.birthTs, h.staleTs]

/-- a publish on a device metric of the connected, birthed node: nothing, or a DDATA of an enabled device
with the node's next number -/
theorem publishDev_cases (s : Sys) (dv : Nat) (ho : s.node.online = true) (hb : s.node.birthed = true)
    (hfl : ∀ x ∈ s.node.devs, x.flag = true → x.enabled = true) :
    s.step (.publishDev dv) = s ∨
    (dv ∈ s.node.enabledNames ∧ s.step (.publishDev dv) =
      s.send { s.node with seq := (s.node.seq + 1) % 256, nextId := s.node.nextId + 1 }
        [.ddata dv ((s.node.seq + 1) % 256) s.clock s.node.nextId]) := by
  have hnoop : s.node.pubDev dv s.clock = (s.node, []) → s.step (.publishDev dv) = s := by
    intro he; simp only [Sys.step, he]; exact send_nil s
  cases hf : s.node.findDev dv with
  | none => exact .inl (hnoop (by simp [Node.pubDev, hf]))
  | some x =>
    cases hx : x.flag with
    | false => exact .inl (hnoop (by simp [Node.pubDev, hf, hx]))
    | true =>
      obtain ⟨hx1, hx2⟩ := findDev_some _ _ _ hf
      refine .inr ⟨?_, by simp [Sys.step, Node.pubDev, hf, hx, nextSeq_gate s.node ho hb]⟩
      simp only [Node.enabledNames, List.mem_map, List.mem_filter]
      exact ⟨x, ⟨hx1, hfl x hx1 hx⟩, hx2⟩

theorem UpTo.publishDev {d : Nat} {s : Sys} (h : UpTo d s) (dv : Nat) :
    UpTo d (s.step (.publishDev dv)) ∧ StepOut s (s.step (.publishDev dv)) := by
  rcases publishDev_cases s dv h.online h.birthed h.flags with he | ⟨hen, he⟩ <;> rw [he]
  · exact ⟨h, StepOut.refl s⟩
  · exact h.sendData _ (by simp [dataRun, h.birthTs, h.staleTs, hen])

theorem UpTo.advance {d : Nat} {s : Sys} (h : UpTo d s) (k : Nat) :
    UpTo d (s.step (.advance k)) ∧ StepOut s (s.step (.advance k)) := by
  rw [advance_idle s k h.track.timer]
  refine ⟨⟨h.cfg, h.nodeConn, h.hostConn, h.online, h.birthed, h.flags, h.track, h.toNode, ?_, ?_,
    h.devs, h.only, h.flight, h.fin⟩, ⟨[], by simp, by simp [pend], by simp⟩⟩
  · have := h.birthTs; simp only; omega
  · have := h.staleTs; simp only; omega

/-- connecting a side that is connected does nothing -/
theorem connect_noop (s : Sys) (hn : s.nodeConn = true) (hh : s.hostConn = true) (a : Action)
    (ha : a = .hostConnect ∨ a = .nodeConnect) : s.step a = s := by
  rcases ha with rfl | rfl
  · cases s; simp_all [Sys.step]
  · simp [Sys.step, hn]

theorem UpTo.noop {d : Nat} {s : Sys} (h : UpTo d s) (a : Action)
    (ha : a = .deliverNcmd ∨ a = .hostConnect ∨ a = .nodeConnect) : s.step a = s := by
  rcases ha with rfl | ha
  · simp [Sys.step, h.toNode]
  · exact connect_noop s h.nodeConn h.hostConn a ha

theorem UpTo.step {d : Nat} {s : Sys} (h : UpTo d s) (a : Action) (ha : a.ff = true) :
    UpTo d (s.step a) ∧ StepOut s (s.step a) := by
  cases a, ha using Action.ff_cases with
  | publishNode => exact h.publishNode
  | publishDev dv => exact h.publishDev dv
  | deliver => exact h.deliver
  | advance k => exact h.advance k
  | deliverNcmd => rw [h.noop _ (Or.inl rfl)]; exact ⟨h, StepOut.refl s⟩
  | hostConnect => rw [h.noop _ (Or.inr (Or.inl rfl))]; exact ⟨h, StepOut.refl s⟩
  | nodeConnect => rw [h.noop _ (Or.inr (Or.inr rfl))]; exact ⟨h, StepOut.refl s⟩

theorem UpTo.run {d : Nat} (σ : List Action) : ∀ {s : Sys}, UpTo d s → FaultFree σ = true →
    UpTo d (s.run σ) ∧ StepOut s (s.run σ) := by
  induction σ with
  | nil => intro s h _; exact ⟨h, StepOut.refl s⟩
  | cons a t ih =>
    intro s h hff
    simp only [FaultFree, List.all_cons, Bool.and_eq_true] at hff
    obtain ⟨h1, o1⟩ := h.step a hff.1
    obtain ⟨h2, o2⟩ := ih h1 hff.2
    exact ⟨h2, o1.trans o2⟩

theorem deliver0_toHost (s : Sys) : (s.step (.deliver 0)).toHost = s.toHost.drop 1 := by
  cases hq : s.toHost with
  | nil => simp [Sys.step, hq]
  | cons m t =>
    simp only [Sys.step, hq, List.getElem?_cons_zero, List.eraseIdx_cons_zero, Sys.recv, List.drop_one,
      List.tail_cons]
    split <;> rfl

theorem deliverAll_toHost : ∀ (k : Nat) (s : Sys), (Sys.deliverAll k s).toHost = s.toHost.drop k := by
  intro k
  induction k with
  | zero => intro s; rfl
  | succ k ih =>
    intro s
    simp only [Sys.deliverAll]
    rw [ih, deliver0_toHost, List.drop_drop]
    congr 1; omega

theorem flush_toHost (s : Sys) : (Sys.flush s).toHost = [] := by
  unfold Sys.flush
  rw [deliverAll_toHost]; simp

theorem deliverAll_run (k : Nat) : ∀ s : Sys, Sys.deliverAll k s = s.run (List.replicate k (.deliver 0)) := by
  induction k with
  | zero => intro s; rfl
  | succ k ih => intro s; simp only [Sys.deliverAll, List.replicate_succ, Sys.run]; exact ih _

theorem ff_replicate_deliver (k : Nat) : FaultFree (List.replicate k (.deliver 0)) = true := by
  simp [FaultFree, Action.ff]

theorem drain_eq_flush (s : Sys) (h : (Sys.flush s).toNode = 0) : Sys.drain s = Sys.flush s := by
  unfold Sys.drain
  cases hf : s.toNode + s.toHost.length with
  | zero => rfl
  | succ f =>
    show (if (Sys.flush s).toNode = 0 then Sys.flush s else _) = _
    rw [if_pos h]

theorem UpTo.flush {d : Nat} {s : Sys} (h : UpTo d s) :
    UpTo d (Sys.flush s) ∧ (Sys.flush s).toHost = [] ∧ (Sys.flush s).effs = pend s ∧
    (Sys.flush s).sent = s.sent ∧ Sys.drain s = Sys.flush s := by
  have hr : Sys.flush s = s.run (List.replicate s.toHost.length (.deliver 0)) := deliverAll_run _ s
  obtain ⟨h1, ms, o1, o2, _⟩ := h.run (List.replicate s.toHost.length (.deliver 0)) (ff_replicate_deliver _)
  rw [← hr] at h1 o1 o2
  have he := flush_toHost s
  -- nothing was handed over: `sent` only grows by node operations, and `deliver` is none
  have hsent : ∀ (k : Nat) (s : Sys), (Sys.deliverAll k s).sent = s.sent := by
    intro k
    induction k with
    | zero => intro s; rfl
    | succ k ih =>
      intro s
      simp only [Sys.deliverAll]
      rw [ih]
      simp only [Sys.step]
      split
      · rfl
      · simp only [Sys.recv]; split <;> rfl
  have hs : (Sys.flush s).sent = s.sent := hsent _ s
  have hms : ms = [] := by
    rw [hs] at o1
    have := congrArg List.length o1
    simpa using this
  subst hms
  refine ⟨h1, he, ?_, hs, drain_eq_flush s h1.toNode⟩
  simp only [pend, he, List.filterMap_nil, List.append_nil] at o2
  exact o2

theorem devsAll_iff (n : Node) (D : List (Nat × Life)) :
    (n.devs.all fun x => !x.enabled || decide (findDev x.name D = some Life.birthed)) = true ↔
      ∀ dv ∈ n.enabledNames, findDev dv D = some .birthed := by
  simp only [List.all_eq_true, Node.enabledNames, List.mem_map, List.mem_filter]
  constructor
  · rintro h dv ⟨x, ⟨hx, hen⟩, rfl⟩
    simpa [hen] using h x hx
  · intro h x hx
    cases hen : x.enabled with
    | false => rfl
    | true => simp [h x.name ⟨x, ⟨hx, hen⟩, rfl⟩]

theorem flagsOk_iff (s : Sys) : Sys.flagsOk s = true ↔ ∀ x ∈ s.node.devs, x.flag = true → x.enabled = true := by
  simp only [Sys.flagsOk, List.all_eq_true]
  constructor
  · intro h x hx hf; simpa [hf] using h x hx
  · intro h x hx
    cases hf : x.flag with
    | false => rfl
    | true => simp [h x hx hf]

/-- `UpTo` is the configuration, `flagsOk` and `syncUpTo` -/
theorem upTo_iff {d : Nat} {s : Sys} :
    UpTo d s ↔ s.cfg = Sys.fullCfg d ∧ Sys.flagsOk s = true ∧ Sys.syncUpTo s = true := by
  simp only [Sys.syncUpTo, Bool.and_eq_true, decide_eq_true_eq, and_assoc, flagsOk_iff, devsAll_iff]
  constructor
  · intro h
    have hr := h.track.reseq
    exact ⟨h.cfg, h.flags, h.nodeConn, h.hostConn, h.online, h.birthed, h.track.life, by rw [hr], by rw [hr],
      h.track.timer, h.devs, h.only, h.toNode, h.birthTs, h.staleTs, h.flight, h.fin⟩
  · intro ⟨hcfg, hfl, a1, a2, a3, a4, a5, a6, a7, a8, a9, a10, a11, a12, a13, a14, a15⟩
    exact ⟨hcfg, a1, a2, a3, a4, hfl, ⟨a5, reseq_eta _ a6 a7, a8⟩, a11, a12, a13, a9, a10, a14, a15⟩

/-- the in-sync view with a coherent clock: in sync up to nothing in flight -/
theorem upTo_of_view (d : Nat) (s : Sys) (hcfg : s.cfg = Sys.fullCfg d)
    (hfl : ∀ x ∈ s.node.devs, x.flag = true → x.enabled = true) (hco : Coherent s.host s.clock)
    (h : Sys.InSyncView s = true) : UpTo d s := by
  simp only [Sys.InSyncView, Bool.and_eq_true, decide_eq_true_eq, List.isEmpty_iff, and_assoc, devsAll_iff] at h
  obtain ⟨a1, a2, a3, a4, a5, a6, a7, a8, a9, a10, a11⟩ := h
  exact ⟨hcfg, a1, a2, a3, a4, hfl, ⟨a5, by rw [a6], a7⟩, a11, hco.1, hco.2, a8, a9, by rw [a10]; rfl,
    by rw [a10, a6]; rfl⟩

theorem UpTo.view {d : Nat} {s : Sys} (h : UpTo d s) (he : s.toHost = []) : Sys.InSyncView s = true := by
  have hfin := h.fin
  rw [he] at hfin
  have hr := h.track.reseq
  rw [show s.host.reseq.next = _ from hfin] at hr
  simp only [Sys.InSyncView, Bool.and_eq_true, decide_eq_true_eq, List.isEmpty_iff, and_assoc, devsAll_iff]
  exact ⟨h.nodeConn, h.hostConn, h.online, h.birthed, h.track.life, hr, h.track.timer, h.devs, h.only, he, h.toNode⟩

theorem view_flight {s : Sys} (h : Sys.InSyncView s = true) : s.toHost = [] := by
  simp only [Sys.InSyncView, Bool.and_eq_true, List.isEmpty_iff] at h
  exact h.1.2

theorem inSync_split (s : Sys) (last : List Eff) :
    Sys.InSync s last = (Sys.InSyncView s && Sys.lastRoundIs s last) := rfl

/-! ## publishes and FIFO deliveries commute -/

theorem deliver0_empty (s : Sys) (h : s.toHost = []) : s.step (.deliver 0) = s := by simp [Sys.step, h]

/-- a node operation that hands messages over commutes with the delivery of the oldest message in
flight (the operation reads the node and the clock only; the delivery leaves both alone) -/
theorem send_deliver_comm (f : Node → Nat → Node × List Msg) (s : Sys) (hne : s.toHost ≠ []) :
    (s.send (f s.node s.clock).1 (f s.node s.clock).2).step (.deliver 0) =
      (s.step (.deliver 0)).send (f (s.step (.deliver 0)).node (s.step (.deliver 0)).clock).1
        (f (s.step (.deliver 0)).node (s.step (.deliver 0)).clock).2 := by
  cases hq : s.toHost with
  | nil => exact absurd hq hne
  | cons m t =>
    cases hc : s.hostConn <;>
    simp [Sys.step, Sys.send, hq, Sys.recv, hc, Sys.hostStep]

theorem pub_deliver_comm (s : Sys) (a : Action) (ha : a.isPub = true) (hne : s.toHost ≠ []) :
    (s.step a).step (.deliver 0) = (s.step (.deliver 0)).step a := by
  cases a with
  | publishNode => exact send_deliver_comm (fun n c => n.pubNode c) s hne
  | publishDev dv => exact send_deliver_comm (fun n c => n.pubDev dv c) s hne
  | _ => simp [Action.isPub] at ha

theorem flush_deliver0 (s : Sys) : Sys.flush (s.step (.deliver 0)) = Sys.flush s := by
  cases hq : s.toHost with
  | nil => rw [deliver0_empty s hq]
  | cons m t =>
    have h1 : (s.step (.deliver 0)).toHost = t := by rw [deliver0_toHost, hq]; rfl
    unfold Sys.flush
    rw [h1, hq]
    rfl

theorem flush_deliver0_pubs (π : List Action) : ∀ s : Sys, π.all Action.isPub = true →
    Sys.flush ((s.step (.deliver 0)).run π) = Sys.flush (s.run π) := by
  induction π with
  | nil => intro s _; exact flush_deliver0 s
  | cons a t ih =>
    intro s hall
    simp only [List.all_cons, Bool.and_eq_true] at hall
    by_cases he : s.toHost = []
    · rw [deliver0_empty s he]
    · simp only [Sys.run]
      rw [← pub_deliver_comm s a hall.1 he]
      exact ih _ hall.2

theorem isPub_of_pubDel (a : Action) (h : a.isPubDel = true) : a.isPub = true ∨ a = .deliver 0 := by
  cases a with
  | publishNode => exact Or.inl rfl
  | publishDev _ => exact Or.inl rfl
  | deliver k =>
    cases k with
    | zero => exact Or.inr rfl
    | succ k => simp [Action.isPubDel] at h
  | _ => simp [Action.isPubDel] at h

/-- **any interleaving of publishes with FIFO deliveries flushes to the same state as the publishes
alone** (the deliveries moved behind all the publishes) -/
theorem flush_interleave (σ : List Action) : ∀ s : Sys, σ.all Action.isPubDel = true →
    Sys.flush (s.run σ) = Sys.flush (s.run (σ.filter Action.isPub)) := by
  induction σ with
  | nil => intro s _; rfl
  | cons a t ih =>
    intro s hall
    simp only [List.all_cons, Bool.and_eq_true] at hall
    rcases isPub_of_pubDel a hall.1 with hp | rfl
    · simp only [List.filter_cons, hp, if_true, Sys.run]
      exact ih _ hall.2
    · have hnp : Action.isPub (.deliver 0) = false := rfl
      simp only [List.filter_cons, hnp, Bool.false_eq_true, if_false, Sys.run]
      rw [ih _ hall.2]
      exact flush_deliver0_pubs _ s (by simp [List.all_filter])

theorem pubDel_frame (σ : List Action) : ∀ s : Sys, σ.all Action.isPubDel = true →
    (s.run σ).hostConn = s.hostConn ∧ (s.run σ).cfg = s.cfg ∧ (s.run σ).clock = s.clock := by
  induction σ with
  | nil => intro s _; exact ⟨rfl, rfl, rfl⟩
  | cons a t ih =>
    intro s hall
    simp only [List.all_cons, Bool.and_eq_true] at hall
    obtain ⟨i1, i2, i3⟩ := ih (s.step a) hall.2
    have : (s.step a).hostConn = s.hostConn ∧ (s.step a).cfg = s.cfg ∧ (s.step a).clock = s.clock := by
      rcases isPub_of_pubDel a hall.1 with hp | rfl
      · cases a with
        | publishNode => exact ⟨rfl, rfl, rfl⟩
        | publishDev _ => exact ⟨rfl, rfl, rfl⟩
        | _ => simp [Action.isPub] at hp
      · cases hq : s.toHost with
        | nil => rw [deliver0_empty s hq]; exact ⟨rfl, rfl, rfl⟩
        | cons m t =>
          cases hc : s.hostConn <;> simp [Sys.step, hq, Sys.recv, hc, Sys.hostStep]
    simp only [Sys.run]
    exact ⟨i1.trans this.1, i2.trans this.2.1, i3.trans this.2.2⟩

theorem flush_toNode_le (s : Sys) : (Sys.flush s).toNode ≤ s.toNode + s.toHost.length := by
  cases hc : s.hostConn with
  | true =>
    unfold Sys.flush
    rw [deliverAll_eq s.toHost s hc rfl]
    have := feed_count_le s.cfg s.clock s.toHost s.host
    simp only; omega
  | false =>
    have : ∀ (k : Nat) (s : Sys), s.hostConn = false → (Sys.deliverAll k s).toNode = s.toNode := by
      intro k
      induction k with
      | zero => intro s _; rfl
      | succ k ih =>
        intro s hc
        simp only [Sys.deliverAll]
        have h1 : (s.step (.deliver 0)).hostConn = false ∧ (s.step (.deliver 0)).toNode = s.toNode := by
          cases hq : s.toHost with
          | nil => rw [deliver0_empty s hq]; exact ⟨hc, rfl⟩
          | cons m t => simp [Sys.step, hq, Sys.recv, hc]
        rw [ih _ h1.1, h1.2]
    unfold Sys.flush
    rw [this _ s hc]; omega

/-! ## the fuel of `drainNet` -/

theorem flush_flush (s : Sys) : Sys.flush (Sys.flush s) = Sys.flush s := by
  have : (Sys.flush s).toHost = [] := flush_toHost s
  show Sys.deliverAll (Sys.flush s).toHost.length (Sys.flush s) = _
  rw [this]; rfl

theorem drainNet_congr (f : Nat) (t t' : Sys) (h : Sys.flush t = Sys.flush t') :
    Sys.drainNet f t = Sys.drainNet f t' := by
  cases f with
  | zero => exact h
  | succ f =>
    show (if (Sys.flush t).toNode = 0 then Sys.flush t else
      Sys.drainNet f (((Sys.flush t).step (.advance 1)).step .deliverNcmd)) = 
      (if (Sys.flush t').toNode = 0 then Sys.flush t' else
      Sys.drainNet f (((Sys.flush t').step (.advance 1)).step .deliverNcmd))
    rw [h]

theorem drainNet_mono : ∀ (f : Nat) (t : Sys), (Sys.drainNet f t).toNode = 0 → ∀ f', f ≤ f' →
    Sys.drainNet f' t = Sys.drainNet f t := by
  intro f
  induction f with
  | zero =>
    intro t h0 f' _
    cases f' with
    | zero => rfl
    | succ f' =>
      have h0' : (Sys.flush t).toNode = 0 := h0
      show (if (Sys.flush t).toNode = 0 then Sys.flush t else _) = Sys.flush t
      rw [if_pos h0']
  | succ f ih =>
    intro t h0 f' hle
    obtain ⟨f'', rfl⟩ : ∃ f'', f' = f'' + 1 := ⟨f' - 1, by omega⟩
    by_cases hz : (Sys.flush t).toNode = 0
    · show (if (Sys.flush t).toNode = 0 then Sys.flush t else _) =
        (if (Sys.flush t).toNode = 0 then Sys.flush t else _)
      rw [if_pos hz, if_pos hz]
    · have e1 : ∀ g, Sys.drainNet (g + 1) t =
          Sys.drainNet g (((Sys.flush t).step (.advance 1)).step .deliverNcmd) := by
        intro g
        show (if (Sys.flush t).toNode = 0 then Sys.flush t else _) = _
        rw [if_neg hz]; rfl
      rw [e1] at h0 ⊢
      rw [e1]
      exact ih _ h0 f'' (by omega)

/-- two states that flush to the same quiet state `D` from which every rebirth cycle removes one
NCMD: `drain` gives the same result from both, whatever fuel each computes -/
theorem drain_congr (d : Nat) (t t' : Sys) (h : Sys.flush t' = Sys.flush t)
    (hq : Quiet d (Sys.flush t)) (hpre : (Sys.flush t).toNode ≠ 0 →
      CyclePre (Sys.flush t).host (Sys.flush t).node (Sys.flush t).clock) :
    Sys.drain t' = Sys.drain t := by
  have hm : (Sys.drainNet (Sys.flush t).toNode t).toNode = 0 := by
    obtain ⟨r1, r2⟩ := drainNet_spec d (Sys.flush t).toNode t hq (Nat.le_refl _) hpre
    by_cases hz : (Sys.flush t).toNode = 0
    · rw [r1 hz]; exact hz
    · exact (r2 hz).2.1
  have h1 : Sys.drain t = Sys.drainNet (Sys.flush t).toNode t :=
    drainNet_mono _ t hm _ (flush_toNode_le t)
  have hm' : (Sys.drainNet (Sys.flush t).toNode t').toNode = 0 := by
    rw [drainNet_congr _ t' t h]; exact hm
  have h2 : Sys.drain t' = Sys.drainNet (Sys.flush t).toNode t' :=
    drainNet_mono _ t' hm' _ (by have := flush_toNode_le t'; rw [h] at this; exact this)
  rw [h1, h2, drainNet_congr _ t' t h]

theorem run_map_publishDev (L : List Nat) : ∀ s : Sys,
    s.run (L.map Action.publishDev) = L.foldl (fun s d => s.step (.publishDev d)) s := by
  induction L with
  | nil => intro s; rfl
  | cons a t ih => intro s; simp only [List.map_cons, Sys.run, List.foldl_cons]; exact ih _

theorem frun_enabledNames {s t : Sys} (h : FRun s t) : t.node.enabledNames = s.node.enabledNames :=
  sig_enabledNames (frun_sig h)

theorem quiesce_eq (s : Sys) : Sys.quiesce s = Sys.firstPhase s := rfl

theorem pubAll_run (s p : Sys) (hs : FRun s p) :
    Sys.pubAll p = (p.step (.advance 1)).run (Sys.roundPubs s) := by
  have hen : ((p.step (.advance 1)).step .publishNode).node.enabledNames = s.node.enabledNames :=
    frun_enabledNames (hs.trans ((FRun.step _ _).trans (FRun.step _ _)))
  unfold Sys.pubAll Sys.roundPubs
  simp only [Sys.run]
  rw [run_map_publishDev, hen]

/-- **a generalised round is `round`**: the round's publishes interleaved with FIFO deliveries in any
way give the same state and the same "effects since the publishes" as `settle`'s phase order -/
theorem gRound_eq_round (d : Nat) (s : Sys) (hr : Reach d s) (hfew : s.node.enabledNames.length < 255)
    (σ : List Action) (hok : Sys.roundOk s σ = true) : Sys.gRound σ s = Sys.round s := by
  simp only [Sys.roundOk, Bool.and_eq_true, decide_eq_true_eq] at hok
  obtain ⟨hall, hpubs⟩ := hok
  have hp := firstPhase_spec d s hr hfew
  have hst := firstPhase_frun s
  obtain ⟨fq, _, fpre, _, feff⟩ := pubAll_delivered d _ hp.quiet hp.toNode hp.pre hp.good
  have hrun := pubAll_run s _ hst
  have hfl : Sys.flush (((Sys.firstPhase s).step (.advance 1)).run σ) = Sys.flush (Sys.pubAll (Sys.firstPhase s)) := by
    rw [flush_interleave σ _ hall, hpubs, ← hrun]
  have hdr := drain_congr d _ _ hfl fq fpre
  show (Sys.drain (((Sys.firstPhase s).step (.advance 1)).run σ),
      (Sys.drain (((Sys.firstPhase s).step (.advance 1)).run σ)).effs.drop (Sys.firstPhase s).effs.length) =
    (Sys.drain (Sys.pubAll (Sys.firstPhase s)),
      (Sys.drain (Sys.pubAll (Sys.firstPhase s))).effs.drop (Sys.pubAll (Sys.firstPhase s)).effs.length)
  rw [hdr, feff]

theorem Reach.round {d : Nat} {s : Sys} (h : Reach d s) : Reach d (Sys.round s).1 := h.frun (round_frun s)

theorem round_enabledNames (s : Sys) : (Sys.round s).1.node.enabledNames = s.node.enabledNames :=
  frun_enabledNames (round_frun s)

theorem gSettle_eq_settle (d : Nat) : ∀ (σs : List (List Action)) (s : Sys), Reach d s →
    s.node.enabledNames.length < 255 → Sys.roundsOk σs s = true →
    Sys.gSettle σs s = Sys.settle σs.length s := by
  intro σs
  induction σs with
  | nil => intro s _ _ _; rfl
  | cons σ rest ih =>
    intro s hr hfew hok
    simp only [Sys.roundsOk, Bool.and_eq_true] at hok
    have h1 := gRound_eq_round d s hr hfew σ hok.1
    cases rest with
    | nil => simp only [Sys.gSettle, h1]; rfl
    | cons ρ rest' =>
      have h2 := ih (Sys.round s).1 hr.round (by rw [round_enabledNames]; exact hfew) (by rw [← h1]; exact hok.2)
      simp only [Sys.gSettle, h1]
      rw [h2]
      exact (settle_shift s rest'.length).symm

/-! ## the generalised rounds are fault-free schedules -/

theorem pubDel_ff (σ : List Action) (h : σ.all Action.isPubDel = true) : FaultFree σ = true := by
  simp only [FaultFree, List.all_eq_true] at h ⊢
  intro a ha
  rcases isPub_of_pubDel a (h a ha) with hp | rfl
  · cases a <;> first | rfl | (simp [Action.isPub] at hp)
  · rfl

theorem gRound_frun (σ : List Action) (s : Sys) (h : σ.all Action.isPubDel = true) : FRun s (Sys.gRound σ s).1 :=
  (firstPhase_frun s).trans ((FRun.step _ _).trans ((FRun.of_run _ σ (pubDel_ff σ h)).trans (drain_frun _)))

theorem gSettle_frun : ∀ (σs : List (List Action)) (s : Sys), Sys.roundsOk σs s = true → FRun s (Sys.gSettle σs s).1 := by
  intro σs
  induction σs with
  | nil => intro s _; exact FRun.refl s
  | cons σ rest ih =>
    intro s hok
    simp only [Sys.roundsOk, Sys.roundOk, Bool.and_eq_true] at hok
    have h1 := gRound_frun σ s hok.1.1
    cases rest with
    | nil => exact h1
    | cons ρ rest' => exact h1.trans (ih _ hok.2)

theorem Reach.upTo {d : Nat} {s : Sys} (hr : Reach d s) (hv : Sys.InSyncView s = true) : UpTo d s :=
  upTo_of_view d s hr.live.safe.cfg hr.node.flagEn ⟨hr.live.birthTs, hr.live.staleTs⟩ hv

theorem inSync_view (s : Sys) (last : List Eff) (h : Sys.InSync s last = true) : Sys.InSyncView s = true := by
  rw [inSync_split, Bool.and_eq_true] at h
  exact h.1

theorem UpTo.sched {d : Nat} {s : Sys} (h : UpTo d s) (σ : List Action) (hff : FaultFree σ = true) :
    let t := s.run σ
    let ms := t.sent.drop s.sent.length
    Sys.syncUpTo t = true ∧ Sys.flagsOk t = true ∧ t.sent = s.sent ++ ms ∧
    (∀ m ∈ ms, (Msg.dataShape m).isSome = true) ∧
    Sys.drain t = Sys.flush t ∧ Sys.InSyncView (Sys.drain t) = true ∧
    (Sys.drain t).effs = s.effs ++ (s.toHost ++ ms).filterMap Msg.dataEff ∧
    (Sys.drain t).sent = t.sent := by
  intro t ms
  obtain ⟨h1, ms', o1, o2, o3⟩ := h.run σ hff
  have hms : ms = ms' := by
    show (s.run σ).sent.drop s.sent.length = ms'
    rw [o1, List.drop_left]
  obtain ⟨f1, f2, f3, f4, f5⟩ := h1.flush
  refine ⟨(upTo_iff.mp h1).2.2, (upTo_iff.mp h1).2.1, by rw [hms]; exact o1, by rw [hms]; exact o3, f5, ?_, ?_, ?_⟩
  · rw [f5]; exact f1.view f2
  · rw [f5, f3, o2, hms]
    simp only [pend, List.filterMap_append, List.append_assoc]
  · rw [f5, f4]

theorem SyncOk.upTo {d : Nat} {s : Sys} (hq : Quiet d s) (h0 : s.toNode = 0)
    (hs : SyncOk s.host s.node s.clock) : UpTo d s := by
  have hnext : s.host.reseq.next = (s.node.seq + 1) % 256 := by rw [hs.track.reseq]
  exact ⟨hq.cfg, hq.nodeConn, hq.hostConn, hq.node.online, hq.node.birthed,
    fun x hx hf => by rw [← hq.node.flags x hx]; exact hf, by rw [hnext]; exact hs.track,
    h0, hs.birthTs, hs.staleTs, fun dv hd => (hs.devs dv).mpr hd,
    (onlyEnabled_iff _ _).mpr fun dv hp => (hs.devs dv).mp (mem_findDev _ _ _ hp hs.nodup),
    by rw [hq.flight]; rfl, by rw [hq.flight]; exact hnext⟩

/-! ## NCMD deliveries and the birth stamps in the pipeline -/

theorem step_birthTs_lt (c : Cfg) (s : St) (i : In) (now wall B : Nat) (h : s.birthTs < B)
    (hi : ∀ ts bd id ans, i = .nbirth ts bd id ans → ts < B) : (step c s i now wall).1.birthTs < B := by
  have hb : (body c s i now).1.birthTs < B := by
    cases i with
    | nbirth ts bd id ans =>
      simp only [body]
      split
      · exact h
      split
      · exact h
      · exact hi ts bd id ans rfl
    | ndeath bd =>
      show (setStale (cancelTimer s).1 now).1.birthTs < B
      rw [(setStale_fields _ now).1, (cancelTimer_frame s).birthTs]; exact h
    | rmsg seq ts m =>
      show (handleRMsg c s seq ts m now).1.birthTs < B
      rw [(handleRMsg_spec c s seq ts m now).1.frame.birthTs]; exact h
    | offline =>
      show (setStale s now).1.birthTs < B
      rw [(setStale_fields s now).1]; exact h
    | rebirthReq r => exact h
    | timerFire => simp only [body]; split <;> exact h
  rw [step_eq]
  split
  · exact hb
  · rw [(issueRebirth_fields c _ _ now wall).1]; exact hb

theorem advance_fields (s : Sys) (k : Nat) :
    (s.step (.advance k)).toHost = s.toHost ∧ (s.step (.advance k)).node = s.node ∧
    (s.step (.advance k)).host.birthTs = s.host.birthTs ∧ (s.step (.advance k)).clock = s.clock + k ∧
    s.toNode ≤ (s.step (.advance k)).toNode := by
  simp only [Sys.step]
  split
  · split
    · refine ⟨rfl, rfl, ?_, rfl, ?_⟩
      · show (step s.cfg s.host .timerFire (s.clock + k) (s.clock + k)).1.birthTs = _
        simp only [step]
        split
        · exact (issueRebirth_clock _ _ _ _ _).1
        · rfl
      · simp only [Sys.hostStep]; split <;> omega
    · exact ⟨rfl, rfl, rfl, rfl, Nat.le_refl _⟩
  · exact ⟨rfl, rfl, rfl, rfl, Nat.le_refl _⟩

theorem ff_conn (s : Sys) (a : Action) (ha : a.ff = true) (hn : s.nodeConn = true) (hh : s.hostConn = true) :
    (s.step a).nodeConn = true ∧ (s.step a).hostConn = true := by
  cases a, ha using Action.ff_cases with
  | publishNode => exact ⟨hn, hh⟩
  | publishDev _ => exact ⟨hn, hh⟩
  | deliver =>
    cases hq : s.toHost[0]? with
    | none => simp [Sys.step, hq, hn, hh]
    | some m => simp [Sys.step, hq, Sys.recv, hh, Sys.hostStep, hn]
  | advance k =>
    have := advance_frame s k
    exact ⟨this.2.1.trans hn, this.2.2.trans hh⟩
  | deliverNcmd =>
    simp only [Sys.step]
    split
    · exact ⟨hn, hh⟩
    · first | exact ⟨hn, hh⟩ | (split <;> exact ⟨hn, hh⟩)
  | hostConnect => exact ⟨hn, rfl⟩
  | nodeConnect => simp [Sys.step, hn, hh]

theorem staleTick_ne (s : Sys) (a : Action) (h : a ≠ .deliverNcmd) : s.staleTickNcmd a = false := by
  simp [Sys.staleTickNcmd, h]

theorem allBefore_iff (s : Sys) : s.allBirthsBefore = true ↔
    s.host.birthTs < s.clock ∧ ∀ ts bd id, Msg.nbirth ts bd id ∈ s.toHost → ts < s.clock := by
  simp only [Sys.allBirthsBefore, Bool.and_eq_true, decide_eq_true_eq, List.all_eq_true]
  constructor
  · intro ⟨h1, h2⟩
    exact ⟨h1, fun ts bd id hm => by simpa using h2 _ hm⟩
  · intro ⟨h1, h2⟩
    refine ⟨h1, fun m hm => ?_⟩
    cases m <;> first | rfl | (simp; exact h2 _ _ _ hm)

theorem allBefore_send (s : Sys) (r : Node × List Msg) (h : s.allBirthsBefore = true)
    (hr : ∀ m ∈ r.2, (Msg.dataShape m).isSome = true) : (s.send r.1 r.2).allBirthsBefore = true := by
  rw [allBefore_iff] at h ⊢
  refine ⟨h.1, ?_⟩
  intro ts bd id hm
  have hm' : Msg.nbirth ts bd id ∈ s.toHost ++ r.2 := hm
  rcases List.mem_append.mp hm' with hm' | hm'
  · exact h.2 ts bd id hm'
  · have := hr _ hm'
    simp [Msg.dataShape] at this

theorem ticked_noStaleTick (d : Nat) (σ : List Action) : ∀ {s : Sys} {b : Bool}, Reach d s →
    s.nodeConn = true → s.hostConn = true → (b = true → s.allBirthsBefore = true) →
    FaultFree σ = true → ticked b σ = true → Sys.noStaleTick s σ = true := by
  induction σ with
  | nil => intro s b _ _ _ _ _ _; rfl
  | cons a t ih =>
    intro s b hr hn hh hP hff htk
    simp only [FaultFree, List.all_cons, Bool.and_eq_true] at hff
    obtain ⟨ha, hff⟩ := hff
    have hr' : Reach d (s.step a) := hr.frun (FRun.step s a ha)
    obtain ⟨hn', hh'⟩ := ff_conn s a ha hn hh
    simp only [Sys.noStaleTick, Bool.and_eq_true, Bool.not_eq_true']
    cases a, ha using Action.ff_cases with
    | publishNode =>
      exact ⟨staleTick_ne _ _ (by simp),
        ih hr' hn' hh' (fun hb => allBefore_send s _ (hP hb) (pubNode_data _ _)) hff htk⟩
    | publishDev dv =>
      exact ⟨staleTick_ne _ _ (by simp),
        ih hr' hn' hh' (fun hb => allBefore_send s _ (hP hb) (pubDev_data _ _ _)) hff htk⟩
    | deliver =>
      refine ⟨staleTick_ne _ _ (by simp), ih hr' hn' hh' (fun hb => ?_) hff htk⟩
      have hall := (allBefore_iff s).mp (hP hb)
      cases hq : s.toHost with
      | nil => rw [deliver0_empty s hq]; exact hP hb
      | cons m tl =>
        rw [step_deliver0 s m tl hh hq, allBefore_iff]
        refine ⟨?_, fun ts bd id hm => hall.2 ts bd id (by rw [hq]; exact List.mem_cons_of_mem _ hm)⟩
        show (step s.cfg s.host m.toIn s.clock s.clock).1.birthTs < s.clock
        refine step_birthTs_lt _ _ _ _ _ _ hall.1 ?_
        intro ts bd id ans he
        cases m <;> simp only [Msg.toIn] at he <;> cases he
        exact hall.2 ts bd id (by rw [hq]; exact List.mem_cons_self ..)
    | advance k =>
      refine ⟨staleTick_ne _ _ (by simp), ih hr' hn' hh' (fun hb => ?_) hff htk⟩
      obtain ⟨a1, _, a3, a4, _⟩ := advance_fields s k
      rw [allBefore_iff, a1, a3, a4]
      simp only [Bool.or_eq_true, decide_eq_true_eq] at hb
      rcases hb with hb | hb
      · have hall := (allBefore_iff s).mp (hP hb)
        exact ⟨by omega, fun ts bd id hm => by have := hall.2 ts bd id hm; omega⟩
      · refine ⟨by have := hr.live.birthTs; omega, fun ts bd id hm => ?_⟩
        have : ts ≤ s.clock := hr.live.flightTs _ hm
        omega
    | deliverNcmd =>
      simp only [ticked, Bool.and_eq_true] at htk
      obtain ⟨hb, htk⟩ := htk
      refine ⟨?_, ih hr' hn' hh' (fun hb' => by cases hb') hff htk⟩
      simp [Sys.staleTickNcmd, hP hb]
    | hostConnect =>
      refine ⟨staleTick_ne _ _ (by simp), ?_⟩
      have : s.step .hostConnect = s := connect_noop s hn hh _ (.inl rfl)
      rw [this]; exact ih hr hn hh hP hff htk
    | nodeConnect =>
      refine ⟨staleTick_ne _ _ (by simp), ?_⟩
      have : s.step .nodeConnect = s := connect_noop s hn hh _ (.inr rfl)
      rw [this]; exact ih hr hn hh hP hff htk

/-- the newest NBIRTH stamp of the pipeline is the host's own or that of an NBIRTH in flight -/
theorem lastBirthTs_mem : ∀ (l : List Msg) (d : Nat),
    Sys.lastBirthTs d l = d ∨ ∃ bd id, Msg.nbirth (Sys.lastBirthTs d l) bd id ∈ l
  | [], _ => .inl rfl
  | m :: t, d => by
    cases m with
    | nbirth ts bd id =>
      rcases lastBirthTs_mem t ts with h | ⟨bd', id', h⟩
      · exact .inr ⟨bd, id, by simp only [Sys.lastBirthTs]; rw [h]; exact List.mem_cons_self ..⟩
      · exact .inr ⟨bd', id', List.mem_cons_of_mem _ h⟩
    | _ =>
      rcases lastBirthTs_mem t d with h | ⟨bd', id', h⟩
      · exact .inl h
      · exact .inr ⟨bd', id', List.mem_cons_of_mem _ h⟩

/-- a same-tick NCMD delivery is a stale-tick one: the newest stamp is one of the stamps -/
theorem sameTick_stale (s : Sys) (a : Action) (h : s.staleTickNcmd a = false) : s.sameTickNcmd a = false := by
  cases hs : s.sameTickNcmd a with
  | false => rfl
  | true =>
    simp only [Sys.sameTickNcmd, Bool.and_eq_true, decide_eq_true_eq] at hs
    obtain ⟨⟨ha, h0⟩, hle⟩ := hs
    have hall : s.allBirthsBefore = true := by simpa [Sys.staleTickNcmd, ha, h0] using h
    obtain ⟨h1, h2⟩ := (allBefore_iff s).mp hall
    have hp : s.pipeBirthTs = Sys.lastBirthTs s.host.birthTs s.toHost := rfl
    rcases lastBirthTs_mem s.toHost s.host.birthTs with he | ⟨bd, id, hm⟩
    · omega
    · have := h2 _ bd id hm
      omega

theorem noSameTick_of_noStale : ∀ (σ : List Action) (s : Sys), Sys.noStaleTick s σ = true → Sys.noSameTick s σ = true
  | [], _, _ => rfl
  | a :: t, s, h => by
    simp only [Sys.noStaleTick, Sys.noSameTick, Bool.and_eq_true, Bool.not_eq_true'] at h ⊢
    exact ⟨sameTick_stale s a h.1, noSameTick_of_noStale t _ h.2⟩

theorem noSameTick_deliver (k : Nat) : ∀ s : Sys, Sys.noSameTick s (List.replicate k (.deliver 0)) = true := by
  induction k with
  | zero => intro s; rfl
  | succ k ih => intro s; simp [List.replicate_succ, Sys.noSameTick, Sys.sameTickNcmd, ih]

/-! ## healing: a stale (or tracking) host, rebirths in flight, any fault-free interleaving -/

/-- what the host's record says to messages that arrive in order: lifecycle, expected number, stamps,
device table -/
structure Abs where
  life : Life
  next : Nat
  bts : Nat
  sts : Nat
  devs : List (Nat × Life)

def absH (h : St) : Abs := ⟨h.life, h.reseq.next, h.birthTs, h.staleTs, h.devices⟩

/-- the record after an expected message (a stale record stays as it is) -/
def simA (a : Abs) : Msg → Abs
  | .nbirth ts _ _ => ⟨.birthed, 1, ts, a.sts, a.devs.map fun p => (p.1, Life.stale)⟩
  | .ndata _ _ _ => if a.life = .stale then a else { a with next := (a.next + 1) % 256 }
  | .ddata _ _ _ _ => if a.life = .stale then a else { a with next := (a.next + 1) % 256 }
  | .dbirth dv _ _ _ =>
    if a.life = .stale then a else { a with next := (a.next + 1) % 256, devs := birthDev dv a.devs }
  | _ => a

/-- the message is one the record handles without buffering: a newer NBIRTH; or a fresh NDATA /
DDATA / DBIRTH that meets a stale record (answered by an NCMD) or carries the expected number (a
DDATA for a device held birthed) -/
def expA (a : Abs) : Msg → Prop
  | .nbirth ts _ _ => a.bts < ts ∧ a.sts ≤ ts
  | .ndata seq ts _ => a.bts ≤ ts ∧ a.sts ≤ ts ∧ (a.life = .stale ∨ seq = a.next)
  | .ddata dv seq ts _ =>
    a.bts ≤ ts ∧ a.sts ≤ ts ∧ (a.life = .stale ∨ (seq = a.next ∧ findDev dv a.devs = some .birthed))
  | .dbirth _ seq ts _ => a.bts ≤ ts ∧ a.sts ≤ ts ∧ (a.life = .stale ∨ seq = a.next)
  | _ => False

def goodA : Abs → List Msg → Prop
  | _, [] => True
  | a, m :: t => expA a m ∧ goodA (simA a m) t

def endA : Abs → List Msg → Abs
  | a, [] => a
  | a, m :: t => endA (simA a m) t

theorem endA_append (l' : List Msg) : ∀ (l : List Msg) (a : Abs), endA a (l ++ l') = endA (endA a l) l' := by
  intro l
  induction l with
  | nil => intro a; rfl
  | cons m t ih => intro a; exact ih _

theorem goodA_append (l' : List Msg) : ∀ (l : List Msg) (a : Abs),
    goodA a l → goodA (endA a l) l' → goodA a (l ++ l') := by
  intro l
  induction l with
  | nil => intro a _ h; exact h
  | cons m t ih => intro a h1 h2; exact ⟨h1.1, ih _ h1.2 h2⟩

/-- the host's record is calm: reachable-state invariant, no timer, nothing buffered -/
structure Calm (h : St) : Prop where
  inv : HostInv h
  timer : h.timer = .none
  good : h.life = .birthed → h.reseq.buf = [] ∧ h.reseq.mode = .good

theorem Calm.track {h : St} (hc : Calm h) (hb : h.life = .birthed) : Track h h.reseq.next :=
  ⟨hb, reseq_eta _ (hc.good hb).1 (hc.good hb).2, hc.timer⟩

theorem calm_of_track (h : St) (e : Nat) (ht : Track h e) (he : e < 256)
    (hn : (h.devices.map Prod.fst).Nodup) : Calm h :=
  ⟨track_inv h e ht he hn, ht.timer, fun _ => by rw [ht.reseq]; exact ⟨rfl, rfl⟩⟩

theorem life_cases (l : Life) : l = .stale ∨ l = .birthed := by cases l <;> simp

/-- an expected message, handled by the real host actor at any clock reading: the record stays calm
and moves as `simA` says -/
theorem host_expected (d : Nat) (h : St) (m : Msg) (now : Nat) (hc : Calm h) (he : expA (absH h) m) :
    Calm (step (Sys.fullCfg d) h m.toIn now now).1 ∧
    absH (step (Sys.fullCfg d) h m.toIn now now).1 = simA (absH h) m := by
  -- a data or device message: a stale record ignores it (and asks for a rebirth); a birthed one is
  -- given the number it expects, so `hb` says what happens
  have hr : ∀ (seq ts : Nat) (rm : RMsg) (a' : Abs), h.birthTs ≤ ts → h.staleTs ≤ ts →
      (h.life = .stale ∨ seq = h.reseq.next) →
      (h.life = .birthed → Calm (step (Sys.fullCfg d) h (.rmsg h.reseq.next ts rm) now now).1 ∧
        absH (step (Sys.fullCfg d) h (.rmsg h.reseq.next ts rm) now now).1 = a') →
      Calm (step (Sys.fullCfg d) h (.rmsg seq ts rm) now now).1 ∧
      absH (step (Sys.fullCfg d) h (.rmsg seq ts rm) now now).1 = if h.life = .stale then absH h else a' := by
    intro seq ts rm a' h1 h2 h3 hb
    rcases life_cases h.life with hst | hl
    · rw [step_stale_rmsg d h seq ts rm now hst h1 h2, if_pos hst]
      exact ⟨⟨⟨hc.inv.1, hc.inv.2.1, hc.inv.2.2⟩, hc.timer, hc.good⟩, rfl⟩
    · have hseq : seq = h.reseq.next := h3.resolve_left (by rw [hl]; simp)
      rw [hseq, if_neg (by rw [hl]; simp)]
      exact hb hl
  cases m with
  | nbirth ts bd id =>
    obtain ⟨n1, _⟩ := step_nbirth (Sys.fullCfg d) h ts bd id now he.1
    show Calm (step (Sys.fullCfg d) h (.nbirth ts bd id .ok) now now).1 ∧
      absH (step (Sys.fullCfg d) h (.nbirth ts bd id .ok) now now).1 = _
    rw [n1]
    refine ⟨calm_of_track _ 1 ⟨rfl, rfl, rfl⟩ (by omega) ?_, rfl⟩
    simpa [List.map_map, Function.comp_def] using hc.inv.2.2
  | ndata seq ts id =>
    refine hr seq ts (.ndata id .ok) _ he.1 he.2.1 he.2.2 fun hb => ?_
    rw [step_track_ndata d h _ ts id now (hc.track hb) he.1 he.2.1]
    exact ⟨calm_of_track _ _ (tracked_track _ _ (hc.track hb)) (Nat.mod_lt _ (by omega)) hc.inv.2.2, rfl⟩
  | ddata dv seq ts id =>
    refine hr seq ts (.ddata dv id .ok) _ he.1 he.2.1 (he.2.2.imp_right (·.1)) fun hb => ?_
    have hdev : findDev dv h.devices = some .birthed := (he.2.2.resolve_left (by show ¬ h.life = _; rw [hb]; simp)).2
    rw [step_track_ddata_ok d h _ ts dv id now (hc.track hb) he.1 he.2.1 hdev]
    exact ⟨calm_of_track _ _ (tracked_track _ _ (hc.track hb)) (Nat.mod_lt _ (by omega)) hc.inv.2.2, rfl⟩
  | dbirth dv seq ts id =>
    refine hr seq ts (.dbirth dv id .ok) _ he.1 he.2.1 he.2.2 fun hb => ?_
    obtain ⟨q1, _⟩ := step_track_dbirth d h _ ts dv id now (hc.track hb) he.1 he.2.1
    rw [q1]
    have ht' := tracked_track _ _ (hc.track hb)
    exact ⟨calm_of_track _ ((h.reseq.next + 1) % 256) ⟨ht'.life, ht'.reseq, ht'.timer⟩
      (Nat.mod_lt _ (by omega)) (birthDev_nodup dv _ hc.inv.2.2), rfl⟩
  | ndeath _ => exact absurd he id
  | ddeath _ _ _ _ => exact absurd he id

/-- **healing**: both sides connected, the node at rest, the host's record calm, and what is in flight
is handled without buffering when delivered in order, after which the record is stale or in step with
the node; `b`: the clock has advanced since the node's last birth. Any number of NCMDs in flight. -/
structure Heal (d : Nat) (s : Sys) (b : Bool) : Prop where
  cfg : s.cfg = Sys.fullCfg d
  nodeConn : s.nodeConn = true
  hostConn : s.hostConn = true
  node : NodeOk s.node
  calm : Calm s.host
  good : goodA (absH s.host) s.toHost
  inStep : (endA (absH s.host) s.toHost).life = .birthed →
    (endA (absH s.host) s.toHost).next = (s.node.seq + 1) % 256 ∧
    ∀ dv, findDev dv (endA (absH s.host) s.toHost).devs = some .birthed ↔ dv ∈ s.node.enabledNames
  bts : (endA (absH s.host) s.toHost).bts ≤ s.clock
  sts : (endA (absH s.host) s.toHost).sts ≤ s.clock
  tick : b = true → (endA (absH s.host) s.toHost).bts < s.clock

/-- what `Heal` says of the record `E` the host will hold once everything in flight is delivered -/
structure EndOk (E : Abs) (n : Node) (clk : Nat) (b : Bool) : Prop where
  inStep : E.life = .birthed →
    E.next = (n.seq + 1) % 256 ∧ ∀ dv, findDev dv E.devs = some .birthed ↔ dv ∈ n.enabledNames
  bts : E.bts ≤ clk
  sts : E.sts ≤ clk
  tick : b = true → E.bts < clk

theorem Heal.endOk {d : Nat} {s : Sys} {b : Bool} (h : Heal d s b) :
    EndOk (endA (absH s.host) s.toHost) s.node s.clock b :=
  ⟨h.inStep, h.bts, h.sts, h.tick⟩

/-- `Heal` reads the state through its configuration, the connections, the node, the host's record
(calm; what is in flight is expected) and the END of the pipeline only -/
theorem Heal.of {d : Nat} {s t : Sys} {b b' : Bool} (h : Heal d s b) (hcfg : t.cfg = s.cfg)
    (hn : t.nodeConn = s.nodeConn) (hh : t.hostConn = s.hostConn) (hnode : NodeOk t.node)
    (hc : Calm t.host) (hg : goodA (absH t.host) t.toHost)
    (he : EndOk (endA (absH t.host) t.toHost) t.node t.clock b') : Heal d t b' :=
  ⟨hcfg.trans h.cfg, hn.trans h.nodeConn, hh.trans h.hostConn, hnode, hc, hg, he.inStep, he.bts, he.sts, he.tick⟩

theorem EndOk.mono {E : Abs} {n : Node} {clk clk' : Nat} {b : Bool} (h : EndOk E n clk b) (hle : clk ≤ clk')
    (b' : Bool) (hb : b' = true → b = true ∨ clk < clk') : EndOk E n clk' b' :=
  ⟨h.inStep, Nat.le_trans h.bts hle, Nat.le_trans h.sts hle, fun h' => by
    rcases hb h' with hb | hb
    · exact Nat.lt_of_lt_of_le (h.tick hb) hle
    · exact Nat.lt_of_le_of_lt h.bts hb⟩

theorem Heal.weaken {d : Nat} {s : Sys} {b : Bool} (h : Heal d s b) : Heal d s false :=
  h.of rfl rfl rfl h.node h.calm h.good (h.endOk.mono (Nat.le_refl _) false fun hb => nomatch hb)

theorem Heal.setToNode {d : Nat} {s : Sys} {b : Bool} (h : Heal d s b) (k : Nat) :
    Heal d { s with toNode := k } b :=
  h.of rfl rfl rfl h.node h.calm h.good h.endOk

theorem Heal.send {d : Nat} {s : Sys} {b : Bool} (h : Heal d s b) (n' : Node) (ms : List Msg) (b' : Bool)
    (hn : NodeOk n') (hg : goodA (endA (absH s.host) s.toHost) ms)
    (he : EndOk (endA (endA (absH s.host) s.toHost) ms) n' s.clock b') : Heal d (s.send n' ms) b' :=
  h.of rfl rfl rfl hn h.calm (goodA_append ms s.toHost _ h.good hg)
    (by show EndOk (endA (absH s.host) (s.toHost ++ ms)) n' s.clock b'; rw [endA_append]; exact he)

/-- the node's next data message meets the end of the pipeline as an expected message -/
theorem EndOk.data {E : Abs} {n : Node} {clk : Nat} {b : Bool} (h : EndOk E n clk b) (m : Msg)
    (hm : (∃ id, m = .ndata ((n.seq + 1) % 256) clk id) ∨
          (∃ dv id, m = .ddata dv ((n.seq + 1) % 256) clk id ∧ dv ∈ n.enabledNames)) :
    expA E m ∧ EndOk (simA E m) { n with seq := (n.seq + 1) % 256, nextId := n.nextId + 1 } clk b := by
  rcases life_cases E.life with hst | hbi
  · -- a stale record answers with an NCMD and stays as it is
    have hsim : simA E m = E := by
      rcases hm with ⟨id, rfl⟩ | ⟨dv, id, rfl, _⟩ <;> simp [simA, hst]
    rw [hsim]
    refine ⟨?_, ⟨fun hl => (by rw [hst] at hl; cases hl), h.bts, h.sts, h.tick⟩⟩
    rcases hm with ⟨id, rfl⟩ | ⟨dv, id, rfl, _⟩ <;> exact ⟨h.bts, h.sts, Or.inl hst⟩
  · have hns : ¬ E.life = .stale := by rw [hbi]; simp
    obtain ⟨i1, i2⟩ := h.inStep hbi
    have hsim : simA E m = { E with next := (E.next + 1) % 256 } := by
      rcases hm with ⟨id, rfl⟩ | ⟨dv, id, rfl, _⟩ <;> simp [simA, hns]
    rw [hsim]
    refine ⟨?_, ⟨fun _ => ⟨(by show (E.next + 1) % 256 = _; rw [i1]), i2⟩, h.bts, h.sts, h.tick⟩⟩
    rcases hm with ⟨id, rfl⟩ | ⟨dv, id, rfl, hdv⟩
    · exact ⟨h.bts, h.sts, Or.inr i1.symm⟩
    · exact ⟨h.bts, h.sts, Or.inr ⟨i1.symm, (i2 dv).mpr hdv⟩⟩

theorem Heal.sendData {d : Nat} {s : Sys} {b : Bool} (h : Heal d s b) (m : Msg)
    (hm : (∃ id, m = .ndata ((s.node.seq + 1) % 256) s.clock id) ∨
          (∃ dv id, m = .ddata dv ((s.node.seq + 1) % 256) s.clock id ∧ dv ∈ s.node.enabledNames)) :
    Heal d (s.send { s.node with seq := (s.node.seq + 1) % 256, nextId := s.node.nextId + 1 } [m]) b := by
  obtain ⟨k1, k2⟩ := h.endOk.data m hm
  exact h.send _ [m] b
    ⟨h.node.online, h.node.birthed, Nat.mod_lt _ (by omega), h.node.bdseq, h.node.flags, h.node.names, h.node.few⟩
    ⟨k1, trivial⟩ k2

theorem births_sim (clk id0 : Nat) (L : List Nat) : ∀ (i : Nat) (a : Abs), a.life = .birthed →
    a.next = (0 + i) % 256 → a.bts ≤ clk → a.sts ≤ clk →
    goodA a (devMsgs .dbirth clk 0 id0 i L) ∧
    endA a (devMsgs .dbirth clk 0 id0 i L) =
      { a with next := (0 + i + L.length) % 256, devs := birthAll L a.devs } := by
  induction L with
  | nil =>
    intro i a _ hn _ _
    refine ⟨trivial, ?_⟩
    simp only [devMsgs, endA, List.length_nil, Nat.add_zero, birthAll, List.foldl_nil]
    rw [← hn]
  | cons dv t ih =>
    intro i a hl hn h1 h2
    have hns : ¬ a.life = .stale := by rw [hl]; simp
    have hsim : simA a (.dbirth dv ((0 + i) % 256) clk (id0 + i)) =
        { a with next := (a.next + 1) % 256, devs := birthDev dv a.devs } := by
      simp only [simA, hns, if_false]
    obtain ⟨g, e⟩ := ih (i + 1) { a with next := (a.next + 1) % 256, devs := birthDev dv a.devs } hl
      (by simp only; rw [hn]; omega) h1 h2
    refine ⟨⟨⟨h1, h2, Or.inr hn.symm⟩, by rw [hsim]; exact g⟩, ?_⟩
    simp only [devMsgs, endA]
    rw [hsim, e]
    simp only [List.length_cons]
    have he : (0 + (i + 1) + t.length) % 256 = (0 + i + (t.length + 1)) % 256 := by congr 1; omega
    rw [he]
    rfl

theorem Heal.noop {d : Nat} {s : Sys} {b : Bool} (h : Heal d s b) (a : Action)
    (ha : a = .hostConnect ∨ a = .nodeConnect) : s.step a = s := connect_noop s h.nodeConn h.hostConn a ha

theorem Heal.deliver {d : Nat} {s : Sys} {b : Bool} (h : Heal d s b) : Heal d (s.step (.deliver 0)) b := by
  cases hq : s.toHost with
  | nil => rw [deliver0_empty s hq]; exact h
  | cons m t =>
    rw [step_deliver0 s m t h.hostConn hq]
    have hg := h.good
    rw [hq] at hg
    obtain ⟨c1, c2⟩ := host_expected d s.host m s.clock h.calm hg.1
    rw [← h.cfg] at c1 c2
    -- the host moves as `simA` says, so the end of the pipeline is the same
    have he : endA (absH (step s.cfg s.host m.toIn s.clock s.clock).1) t = endA (absH s.host) s.toHost := by
      rw [c2, hq]; rfl
    exact h.of rfl rfl rfl h.node c1
      (by show goodA (absH (step s.cfg s.host m.toIn s.clock s.clock).1) t; rw [c2]; exact hg.2)
      (by show EndOk (endA (absH (step s.cfg s.host m.toIn s.clock s.clock).1) t) s.node s.clock b
          rw [he]; exact h.endOk)

theorem Heal.publishNode {d : Nat} {s : Sys} {b : Bool} (h : Heal d s b) : Heal d (s.step .publishNode) b := by
  have hp := pubNode_eq s.clock s.node h.node.online h.node.birthed
  have : s.step .publishNode = s.send { s.node with seq := (s.node.seq + 1) % 256, nextId := s.node.nextId + 1 }
      [.ndata ((s.node.seq + 1) % 256) s.clock s.node.nextId] := by
    simp only [Sys.step, hp]
  rw [this]
  exact h.sendData _ (Or.inl ⟨_, rfl⟩)

theorem Heal.publishDev {d : Nat} {s : Sys} {b : Bool} (h : Heal d s b) (dv : Nat) :
    Heal d (s.step (.publishDev dv)) b := by
  rcases publishDev_cases s dv h.node.online h.node.birthed
      (fun x hx hf => by rw [← h.node.flags x hx]; exact hf) with he | ⟨hen, he⟩ <;> rw [he]
  · exact h
  · exact h.sendData _ (Or.inr ⟨dv, _, rfl, hen⟩)

theorem Heal.advance {d : Nat} {s : Sys} {b : Bool} (h : Heal d s b) (k : Nat) :
    Heal d (s.step (.advance k)) (b || decide (0 < k)) := by
  rw [advance_idle s k h.calm.timer]
  exact h.of rfl rfl rfl h.node h.calm h.good (h.endOk.mono (Nat.le_add_right _ _) _ fun hb => by
    simp only [Bool.or_eq_true, decide_eq_true_eq] at hb
    exact hb.imp_right fun hk => by show s.clock < s.clock + k; omega)

/-- a rebirth stamped after the record `E`: the NBIRTH is accepted, its DBIRTHs carry 1, 2, …, and the
record it leaves is in step with the reborn node, whatever `E` held -/
theorem rebirth_endOk {E : Abs} {n : Node} {clk : Nat} (hb : E.bts < clk) (hs : E.sts ≤ clk) (hn : NodeOk n) :
    goodA E (.nbirth clk n.bdseq n.nextId :: devMsgs .dbirth clk 0 n.nextId 1 n.enabledNames) ∧
    EndOk (endA E (.nbirth clk n.bdseq n.nextId :: devMsgs .dbirth clk 0 n.nextId 1 n.enabledNames))
      (afterRebirth n) clk false := by
  obtain ⟨g, e⟩ := births_sim clk n.nextId n.enabledNames 1
    ⟨.birthed, 1, clk, E.sts, E.devs.map fun p => (p.1, Life.stale)⟩ rfl rfl (Nat.le_refl _) hs
  refine ⟨⟨⟨hb, hs⟩, g⟩, ?_⟩
  show EndOk (endA ⟨.birthed, 1, clk, E.sts, E.devs.map fun p => (p.1, Life.stale)⟩ _) _ _ _
  rw [e]
  have hfew := hn.few
  exact ⟨fun _ => ⟨by simp only [afterRebirth]; omega, fun dv => findDev_birthAll_stale _ _ dv⟩, Nat.le_refl _, hs,
    fun hb => nomatch hb⟩

theorem Heal.deliverNcmd {d : Nat} {s : Sys} (h : Heal d s true) : Heal d (s.step .deliverNcmd) false := by
  by_cases h0 : s.toNode = 0
  · have : s.step .deliverNcmd = s := by simp [Sys.step, h0]
    rw [this]; exact h.weaken
  · have hs1 : s.step .deliverNcmd =
        ({ s with toNode := s.toNode - 1 } : Sys).send (afterRebirth s.node)
          (.nbirth s.clock s.node.bdseq s.node.nextId ::
            devMsgs .dbirth s.clock 0 s.node.nextId 1 s.node.enabledNames) := by
      simp only [Sys.step, h0, if_false, h.nodeConn, if_true, rebirth_eq _ _ h.node]
    rw [hs1]
    obtain ⟨g, e⟩ := rebirth_endOk (h.tick rfl) h.sts h.node
    exact (h.setToNode (s.toNode - 1)).send _ _ false (afterRebirth_ok _ h.node) g e

theorem endA_bts : ∀ (l : List Msg) (a : Abs), (endA a l).bts = Sys.lastBirthTs a.bts l := by
  intro l
  induction l with
  | nil => intro a; rfl
  | cons m t ih =>
    intro a
    simp only [endA]
    rw [ih]
    cases m <;> simp only [simA, Sys.lastBirthTs] <;> (try split) <;> rfl

theorem pipe_eq (s : Sys) : (endA (absH s.host) s.toHost).bts = s.pipeBirthTs := endA_bts _ _

/-- **every fault-free step that is not a same-tick NCMD delivery preserves `Heal`** -/
theorem Heal.step_ok {d : Nat} {s : Sys} {b : Bool} (h : Heal d s b) (a : Action) (ha : a.ff = true)
    (hns : s.sameTickNcmd a = false) : Heal d (s.step a) false := by
  cases a, ha using Action.ff_cases with
  | publishNode => exact h.publishNode.weaken
  | publishDev dv => exact (h.publishDev dv).weaken
  | deliver => exact h.deliver.weaken
  | advance k => exact (h.advance k).weaken
  | deliverNcmd =>
    by_cases h0 : s.toNode = 0
    · have : s.step .deliverNcmd = s := by simp [Sys.step, h0]
      rw [this]; exact h.weaken
    · have hlt : (endA (absH s.host) s.toHost).bts < s.clock := by
        rw [pipe_eq]
        simp only [Sys.sameTickNcmd, decide_true, Bool.true_and, Bool.and_eq_false_iff,
          decide_eq_false_iff_not] at hns
        rcases hns with hns | hns
        · exact absurd h0 (by simpa using hns)
        · omega
      have h' : Heal d s true :=
        ⟨h.cfg, h.nodeConn, h.hostConn, h.node, h.calm, h.good, h.inStep, h.bts, h.sts, fun _ => hlt⟩
      exact h'.deliverNcmd
  | hostConnect => rw [h.noop _ (Or.inl rfl)]; exact h.weaken
  | nodeConnect => rw [h.noop _ (Or.inr rfl)]; exact h.weaken

theorem Heal.run_ok {d : Nat} (σ : List Action) : ∀ {s : Sys} {b : Bool}, Heal d s b → FaultFree σ = true →
    Sys.noSameTick s σ = true → Heal d (s.run σ) false := by
  induction σ with
  | nil => intro s b h _ _; exact h.weaken
  | cons a t ih =>
    intro s b h hff hns
    simp only [FaultFree, List.all_cons, Bool.and_eq_true] at hff
    simp only [Sys.noSameTick, Bool.and_eq_true, Bool.not_eq_true'] at hns
    exact ih (h.step_ok a hff.1 hns.1) hff.2 hns.2

theorem simA_bts (a : Abs) (m : Msg) :
    (simA a m).bts = match m with | .nbirth ts _ _ => ts | _ => a.bts := by
  cases m <;> simp only [simA] <;> (try split) <;> rfl

/-- along an expected pipeline the birth stamps only grow: the record's own stamp and that of every
NBIRTH in flight are at most the stamp at its end -/
theorem goodA_stamps : ∀ (l : List Msg) (a : Abs), goodA a l →
    a.bts ≤ (endA a l).bts ∧ ∀ ts bd id, Msg.nbirth ts bd id ∈ l → ts ≤ (endA a l).bts
  | [], _, _ => ⟨Nat.le_refl _, fun _ _ _ h => nomatch h⟩
  | m :: t, a, h => by
    obtain ⟨i1, i2⟩ := goodA_stamps t (simA a m) h.2
    have hle : a.bts ≤ (simA a m).bts := by
      rw [simA_bts]
      cases m with
      | nbirth ts bd id => exact Nat.le_of_lt h.1.1
      | _ => exact Nat.le_refl _
    refine ⟨Nat.le_trans hle i1, fun ts bd id hm => ?_⟩
    rcases List.mem_cons.mp hm with rfl | hm
    · rw [simA_bts] at i1; exact i1
    · exact i2 ts bd id hm

theorem Heal.allBefore {d : Nat} {s : Sys} {b : Bool} (h : Heal d s b) (hb : b = true) :
    s.allBirthsBefore = true := by
  obtain ⟨i1, i2⟩ := goodA_stamps s.toHost (absH s.host) h.good
  have := h.tick hb
  exact (allBefore_iff s).mpr
    ⟨Nat.lt_of_le_of_lt i1 this, fun ts bd id hm => Nat.lt_of_le_of_lt (i2 ts bd id hm) this⟩

/-- **every fault-free schedule in which the clock advances before each NCMD delivery preserves
`Heal`**: such a schedule has no stale-tick delivery, hence no same-tick one -/
theorem Heal.run {d : Nat} {s : Sys} {b : Bool} (h : Heal d s b) (hr : Reach d s) (σ : List Action)
    (hff : FaultFree σ = true) (htk : ticked b σ = true) : Heal d (s.run σ) false :=
  h.run_ok σ hff (noSameTick_of_noStale σ s
    (ticked_noStaleTick d σ hr h.nodeConn h.hostConn h.allBefore hff htk))

theorem Heal.quiet {d : Nat} {s : Sys} {b : Bool} (h : Heal d s b) (he : s.toHost = []) :
    Quiet d s ∧ CyclePre s.host s.node s.clock ∧
    (s.host.life = .birthed → SyncOk s.host s.node s.clock) := by
  have hin := h.inStep
  have hb := h.bts
  have hs := h.sts
  rw [he] at hin hb hs
  refine ⟨⟨h.cfg, h.nodeConn, h.hostConn, he, h.node⟩, ⟨h.calm.inv, h.calm.timer, hb, hs⟩, ?_⟩
  intro hl
  obtain ⟨i1, i2⟩ := hin hl
  have ht := h.calm.track hl
  have i1 : s.host.reseq.next = (s.node.seq + 1) % 256 := i1
  rw [i1] at ht
  exact ⟨ht, i2, h.calm.inv.2.2, hb, hs⟩

/-- delivering what is in flight, then the NCMD cycles: in sync — unless the host is still stale and
no NCMD is in flight (then nothing reached the host) -/
theorem Heal.drain {d : Nat} {t : Sys} {b : Bool} (h : Heal d t b) :
    Sys.drain t = Sys.drain (Sys.flush t) ∧ Heal d (Sys.flush t) false ∧ (Sys.flush t).toHost = [] ∧
    ((Sys.flush t).toNode ≠ 0 ∨ (Sys.flush t).host.life = .birthed → Sys.InSyncView (Sys.drain t) = true) ∧
    ((Sys.flush t).toNode = 0 → Sys.drain t = Sys.flush t) := by
  have hr : Sys.flush t = t.run (List.replicate t.toHost.length (.deliver 0)) := deliverAll_run _ t
  have hf := h.run_ok (List.replicate t.toHost.length (.deliver 0)) (ff_replicate_deliver _) (noSameTick_deliver _ t)
  rw [← hr] at hf
  have he := flush_toHost t
  obtain ⟨q, pre, sy⟩ := hf.quiet he
  have hdr : Sys.drain (Sys.flush t) = Sys.drain t :=
    drain_congr d t (Sys.flush t) (flush_flush t) q (fun _ => pre)
  obtain ⟨r1, r2⟩ := drain_quiet d (Sys.flush t) q (fun _ => pre)
  refine ⟨hdr.symm, hf, he, ?_, fun h0 => by rw [← hdr]; exact r1 h0⟩
  intro hor
  rw [← hdr]
  by_cases h0 : (Sys.flush t).toNode = 0
  · rw [r1 h0]
    have hl : (Sys.flush t).host.life = .birthed := by
      rcases hor with hne | hl
      · exact absurd h0 hne
      · exact hl
    exact ((sy hl).upTo q h0).view he
  · obtain ⟨a1, a2, a3⟩ := r2 h0
    exact (a3.upTo a1 a2).view a1.flight

theorem Reach.heal {d : Nat} {s : Sys} (hr : Reach d s) (hfew : s.node.enabledNames.length < 255)
    (hn : s.nodeConn = true) (hh : s.hostConn = true) (he : s.toHost = []) (hst : s.host.life = .stale) :
    Heal d s false := by
  have hon : s.node.online = true := by rw [← hr.conn.conn]; exact hn
  have hok : NodeOk s.node := hr.node.nodeOk hr.live.safe.bd (hr.conn.birthed hon) hfew
  have hinv := hr.live.safe.hostInv
  refine ⟨hr.live.safe.cfg, hn, hh, hok, ⟨hinv, (hinv.2.1 hst).2.1, fun hb => by rw [hst] at hb; cases hb⟩,
    by rw [he]; trivial, ?_, ?_, ?_, fun hb => by cases hb⟩
  · rw [he]; intro hl
    have hl : s.host.life = .birthed := hl
    rw [hst] at hl; cases hl
  · rw [he]; exact hr.live.birthTs
  · rw [he]; exact hr.live.staleTs

theorem Heal.publish_ncmd {d : Nat} {u : Sys} {b : Bool} (h : Heal d u b) (he : u.toHost = [])
    (hst : u.host.life = .stale) : (Sys.flush (u.step .publishNode)).toNode = u.toNode + 1 := by
  have hp := pubNode_eq u.clock u.node h.node.online h.node.birthed
  have hs : u.step .publishNode = u.send { u.node with seq := (u.node.seq + 1) % 256, nextId := u.node.nextId + 1 }
      [.ndata ((u.node.seq + 1) % 256) u.clock u.node.nextId] := by
    simp only [Sys.step, hp]
  have hb : u.host.birthTs ≤ u.clock := by have := h.bts; rwa [he] at this
  have hs' : u.host.staleTs ≤ u.clock := by have := h.sts; rwa [he] at this
  have hq : (u.step .publishNode).toHost = [.ndata ((u.node.seq + 1) % 256) u.clock u.node.nextId] := by
    rw [hs]; simp [Sys.send, he]
  show (Sys.deliverAll (u.step .publishNode).toHost.length (u.step .publishNode)).toNode = _
  rw [deliverAll_eq _ _ (by rw [hs]; exact h.hostConn) rfl, hq, hs]
  show u.toNode + (feed u.cfg u.clock u.host _).2.count Eff.ncmd = _
  -- a stale record answers the NDATA with one NCMD
  rw [h.cfg, (feed_stale d u.clock _ u.host hst hb hs' (by intro m hm; cases List.mem_singleton.mp hm; rfl)).2]
  rfl

/-- from a state on the healing track: after `drain` the in-sync view holds unless the host's record is
still stale with nothing in flight, and after one more publish and `drain` it holds in any case -/
theorem Heal.drain_converges {d : Nat} {t : Sys} {b : Bool} (ht : Heal d t b) (hr : Reach d t) :
    let u := Sys.drain t
    (Sys.InSyncView u = true ∨ (u.host.life = .stale ∧ u.toHost = [] ∧ u.toNode = 0)) ∧
    Sys.InSyncView (Sys.drain (u.step .publishNode)) = true := by
  intro u
  obtain ⟨_, hf, e1, d4, d5⟩ := ht.drain
  by_cases hz : (Sys.flush t).toNode ≠ 0 ∨ (Sys.flush t).host.life = .birthed
  · have hv : Sys.InSyncView u = true := d4 hz
    refine ⟨Or.inl hv, ?_⟩
    have hru : Reach d u := hr.frun (drain_frun _)
    exact ((hru.upTo hv).sched [.publishNode] rfl).2.2.2.2.2.1
  · have h0 : (Sys.flush t).toNode = 0 := by
      apply Classical.byContradiction
      intro hne; exact hz (Or.inl hne)
    have hl : (Sys.flush t).host.life = .stale := by
      rcases life_cases (Sys.flush t).host.life with h | h
      · exact h
      · exact absurd (Or.inr h) hz
    have hu : u = Sys.flush t := d5 h0
    refine ⟨Or.inr (by rw [hu]; exact ⟨hl, e1, h0⟩), ?_⟩
    rw [hu]
    have hn := hf.publish_ncmd e1 hl
    exact hf.publishNode.drain.2.2.2.1 (Or.inl (by rw [hn]; omega))

theorem Heal.converges {d : Nat} {s : Sys} {b : Bool} (hh : Heal d s b) (hr : Reach d s) (σ : List Action)
    (hff : FaultFree σ = true) (htk : ticked b σ = true) :
    let u := Sys.drain (s.run σ)
    (Sys.InSyncView u = true ∨ (u.host.life = .stale ∧ u.toHost = [] ∧ u.toNode = 0)) ∧
    Sys.InSyncView (Sys.drain (u.step .publishNode)) = true :=
  (hh.run hr σ hff htk).drain_converges (hr.frun (FRun.of_run s σ hff))

theorem timerPhase_stale (d : Nat) (s : Sys) (hq : Quiet d s) (ha : ArmedOk s.host s.clock) :
    (Sys.timerPhase s).host.life = .stale := by
  obtain ⟨dl, hdl⟩ := ha.armed
  have htp : Sys.timerPhase s = s.step (.advance (dl - s.clock)) := by simp only [Sys.timerPhase, hdl]
  rw [htp, advance_fire d s _ dl hq.cfg hq.hostConn hdl (by omega) ha.life (by have := ha.birthTs; omega)]
  rfl

theorem SyncOk.heal {d : Nat} {s : Sys} (hq : Quiet d s) (hs : SyncOk s.host s.node s.clock) : Heal d s false := by
  have hnext : s.host.reseq.next = (s.node.seq + 1) % 256 := by rw [hs.track.reseq]
  refine ⟨hq.cfg, hq.nodeConn, hq.hostConn, hq.node,
    calm_of_track _ _ hs.track (Nat.mod_lt _ (by omega)) hs.nodup, by rw [hq.flight]; trivial, ?_, ?_, ?_,
    fun hb => by cases hb⟩
  · rw [hq.flight]; intro _; exact ⟨hnext, hs.devs⟩
  · rw [hq.flight]; exact hs.birthTs
  · rw [hq.flight]; exact hs.staleTs

theorem Reach.heal_of_calm {d : Nat} {s : Sys} (hr : Reach d s) (hfew : s.node.enabledNames.length < 255)
    (hc : Sys.calmPoint s = true) : Heal d s false := by
  simp only [Sys.calmPoint, Bool.and_eq_true, Bool.or_eq_true, decide_eq_true_eq, List.isEmpty_iff] at hc
  obtain ⟨⟨⟨⟨hn, hh⟩, he⟩, ht⟩, hcase⟩ := hc
  rcases hcase with hst | ⟨⟨hrs, hd1⟩, hd2⟩
  · exact hr.heal hfew hn hh he hst
  · have hon : s.node.online = true := by rw [← hr.conn.conn]; exact hn
    have hok : NodeOk s.node := hr.node.nodeOk hr.live.safe.bd (hr.conn.birthed hon) hfew
    have hinv := hr.live.safe.hostInv
    rcases life_cases s.host.life with hst | hlife
    · exact hr.heal hfew hn hh he hst
    have hq : Quiet d s := ⟨hr.live.safe.cfg, hn, hh, he, hok⟩
    refine SyncOk.heal hq ⟨⟨hlife, hrs, ht⟩, ?_, hinv.2.2, hr.live.birthTs, hr.live.staleTs⟩
    intro dv
    constructor
    · exact fun hf => (onlyEnabled_iff _ _).mp hd2 dv (findDev_some_mem dv _ _ hf)
    · exact (devsAll_iff _ _).mp hd1 dv

/-- after a round, once a running reorder timeout has expired, the system is on the healing track -/
theorem Settled.heal {d : Nat} {g : Sys} (h : Settled d g) (hr : Reach d g) : Heal d (Sys.timerPhase g) false := by
  rcases h.host with hs | ha
  · rw [timerPhase_idle _ hs.track.timer]
    exact hs.heal h.quiet
  · obtain ⟨t1, _, _⟩ := timerPhase_spec d _ h.quiet ha
    exact (hr.frun (timerPhase_frun _)).heal t1.node.few t1.nodeConn t1.hostConn t1.flight
      (timerPhase_stale d _ h.quiet ha)

/-- from a calm point, after every fault-free schedule without a same-tick NCMD delivery -/
theorem Reach.calm_converges {d : Nat} {s : Sys} (hr : Reach d s) (hfew : s.node.enabledNames.length < 255)
    (hc : Sys.calmPoint s = true) (σ : List Action) (hff : FaultFree σ = true)
    (hns : Sys.noSameTick s σ = true) :
    let u := Sys.drain (s.run σ)
    (Sys.InSyncView u = true ∨ (u.host.life = .stale ∧ u.toHost = [] ∧ u.toNode = 0)) ∧
    Sys.InSyncView (Sys.drain (u.step .publishNode)) = true :=
  ((hr.heal_of_calm hfew hc).run_ok σ hff hns).drain_converges (hr.frun (FRun.of_run s σ hff))

end Srad.Loop
