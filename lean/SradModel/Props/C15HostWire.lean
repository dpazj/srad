/-
C15HW — the host side of the command path (C15H / M15) for the CONCRETE protobuf codec: the codec
parameters `enc` / `dec` of the `C15H_*` theorems and their hypothesis
`dec (enc p) = some p` ("the codec is the identity on the payload at hand") are replaced by

  encWC p       = encW (toMP p)               -- `Payload::encode_to_vec` on the host
  decWC valid b = (decW valid b).map ofMP     -- `Payload::decode` in the node's client, command-path view

(`Model/HostCmdWire.lean`; `encW` / `decW` are the M13 wire codec for the Sparkplug schema,
`Model/MetricWire.lean`), and the hypothesis is discharged by `C12W_wire_sound`, i.e. by
`M13_sparkplug_payload_roundtrip`.
`C15H_rebirth_request` does not mention the codec and needs no counterpart.

Hypotheses that remain (besides those of C15H: the node is addressable, its task ready): the
values are values of the Rust types —
* `PublishMetric.InRange valid pm` (decidable, `pubOK`): the name is a `String` (`valid`) / the
  alias a `u64`, the timestamp a `u64`, the value a `metric::Value` (`pvOKC`): `u32` / `u64` bit
  patterns, a valid string, not one of the two property-only variants of `Codec.PV`;
* the clock reading is a `u64`;
* `EncFitsC p`: the encoding has fewer than 2^64 bytes (it is a `Vec<u8>`); proved, not assumed,
  for the rebirth request.

Kept abstract, because `HostCmd.WirePayload` does not carry it (stated in `Model/HostCmdWire.lean`):
the CONTENT of a data set value (`PV.dataset`), of a template value beyond its two markers
(`PV.template isDef hasRef`), of metadata and of a property set (presence flags only; the host API
never sets them). `encWC` writes fixed stand-ins for them — the very ones the harness builds
(`DataSet { num_of_columns: Some(0) }`, `template_ref = "ref"`, default metadata / property set) —
and `decWC` reads back the markers of whatever content arrives. For a template with a reference
the stand-in `"ref"` must be a valid string (`valid refStandIn`, part of `pvOKC`). Everything the
command path reads — identifiers, timestamps, scalar / string / bytes values, the payload
timestamp — goes through the real wire format byte for byte.
-/
import SradModel.Proofs.HostCmdWire
import SradModel.Props.C15Host

namespace Srad.HostCmd
open Srad.Codec Srad.Cmd
open Srad.Topic (Verb STATE nodeTopic deviceTopic NameOk)

/-! ### the codec -/

/-- Decoding the bytes written for an in-range command payload gives the payload back: every
identifier, timestamp, value, flag and presence marker, the metrics in order. -/
theorem C15HW_codec_roundtrip (valid : Bytes → Bool) (p : WirePayload) (h : InRangeC valid p) :
    decWC valid (encWC p) = some p :=
  decWC_encWC valid p h

/-- The command path's view of the full payload record a command payload is mapped to is that
command payload (the stand-ins are read back as the markers they stand for). -/
theorem C15HW_view_of_full_record (valid : Bytes → Bool) (p : WirePayload) (h : InRangeC valid p) :
    ofMP (toMP p) = p ∧ Srad.Metric.InRange valid (toMP p) := by
  refine ⟨?_, inRange_toMP valid p h⟩
  have h' : inRangeC valid p = true := h
  simp only [inRangeC, Bool.and_eq_true, List.all_eq_true] at h'
  exact ofMP_toMP valid p h'.1.1.1.2

/-- What `AppClient::metrics_to_payload` builds is in range when the clock reading is a `u64`,
every publish metric is a value of `PublishMetric`, and the encoding fits a `Vec<u8>`. -/
theorem C15HW_host_payload_inRange (valid : Bytes → Bool) (clock : Nat) (ms : List PublishMetric)
    (hc : clock < 2 ^ 64) (hms : ∀ pm ∈ ms, pm.InRange valid)
    (hl : EncFitsC (metricsToPayload clock ms)) : InRangeC valid (metricsToPayload clock ms) :=
  inRangeC_metricsToPayload valid clock ms hc hms hl

/-! ### end to end, through the real bytes -/

/-- **Fidelity, node** (`C15H_node_fidelity` for the concrete codec). For EVERY batch of publish
metrics (any identifiers, values, optional timestamps, also the empty batch), sent blocking or
try_ to the command topic of an addressable node whose node task is alive and idle, encoded by
`Payload::encode_to_vec` and decoded by the node's client: the node's manager is called exactly
once, with the host's clock reading as payload timestamp and exactly the host's metrics — same
identifiers, timestamps and values, same order, none missing, none added; no device manager is
called. -/
theorem C15HW_node_fidelity (valid : Bytes → Bool) (cfg : NodeCfg) (ha : Addressable valid cfg)
    (try_ : Bool) (clock : Nat) (ms : List PublishMetric)
    (hc : clock < 2 ^ 64) (hms : ∀ pm ∈ ms, pm.InRange valid)
    (hl : EncFitsC (metricsToPayload clock ms))
    (decs : List Dec) (st : St) (hr : st.Ready) (hi : st.Inv) :
    let r := endToEnd valid encWC (decWC valid) cfg decs st
      (send try_ clock (.node cfg.group cfg.node) ms)
    r.2.filter Eff.isCmd = [.cmd none clock (ms.map PublishMetric.asDelivered)] ∧
    ∀ e ∈ r.2, ∀ d, e.target? ≠ some (some d) :=
  C15H_node_fidelity valid encWC (decWC valid) cfg ha try_ clock ms
    (decWC_encWC valid _ (inRangeC_metricsToPayload valid clock ms hc hms hl)) decs st hr hi

/-- **Fidelity, device** (`C15H_device_fidelity` for the concrete codec). The same for the
command topic of a registered device `d` (token `k`) of an addressable node, in EVERY node state:
`d`'s manager — and only `d`'s — is called exactly once with the host's clock reading and exactly
the host's metrics; the node state is untouched (in particular no birth). -/
theorem C15HW_device_fidelity (valid : Bytes → Bool) (cfg : NodeCfg) (ha : Addressable valid cfg)
    (d : Bytes) (k : Nat) (hd : NameOk d) (hvd : valid d = true)
    (hk : devToken cfg.devices d = some k)
    (try_ : Bool) (clock : Nat) (ms : List PublishMetric)
    (hc : clock < 2 ^ 64) (hms : ∀ pm ∈ ms, pm.InRange valid)
    (hl : EncFitsC (metricsToPayload clock ms))
    (decs : List Dec) (st : St) (hreg : (st.devs.any fun x => x.name == k) = true) :
    let r := endToEnd valid encWC (decWC valid) cfg decs st
      (send try_ clock (.device cfg.group cfg.node d) ms)
    r.1 = st ∧
    r.2.filter Eff.isCmd = [.cmd (some k) clock (ms.map PublishMetric.asDelivered)] ∧
    ∀ e ∈ r.2, (e.isCmd = true ∨ e.isCb = true) ∧ e.target? = some (some k) :=
  C15H_device_fidelity valid encWC (decWC valid) cfg ha d k hd hvd hk try_ clock ms
    (decWC_encWC valid _ (inRangeC_metricsToPayload valid clock ms hc hms hl)) decs st hreg

/-- **The one thing that is dropped (by design)** (`C15H_unregistered_device_dropped` for the
concrete codec): a DCMD for a device id that is not registered at the addressed node reaches the
node, decodes, and is dropped there: no manager is called, the state is unchanged. -/
theorem C15HW_unregistered_device_dropped (valid : Bytes → Bool) (cfg : NodeCfg)
    (ha : Addressable valid cfg) (d : Bytes) (hd : NameOk d) (hvd : valid d = true)
    (hk : devToken cfg.devices d = none) (try_ : Bool) (clock : Nat) (ms : List PublishMetric)
    (hc : clock < 2 ^ 64) (hms : ∀ pm ∈ ms, pm.InRange valid)
    (hl : EncFitsC (metricsToPayload clock ms)) (decs : List Dec) (st : St) :
    transport valid encWC (decWC valid) cfg (send try_ clock (.device cfg.group cfg.node d) ms)
      = .ignored ∧
    (endToEnd valid encWC (decWC valid) cfg decs st
      (send try_ clock (.device cfg.group cfg.node d) ms)).2 = [] :=
  C15H_unregistered_device_dropped valid encWC (decWC valid) cfg ha d hd hvd hk try_ clock ms
    (decWC_encWC valid _ (inRangeC_metricsToPayload valid clock ms hc hms hl)) decs st

/-- The request of `publish_node_rebirth` is in range for every `u64` clock reading, provided
the constant `Node Control/Rebirth` is a valid string (it is ASCII); its encoding is 27 to 36
bytes long, so nothing about its size is assumed. -/
theorem C15HW_rebirth_payload_inRange (valid : Bytes → Bool) (clock : Nat) (hc : clock < 2 ^ 64)
    (hv : valid rebirthName = true) : InRangeC valid (metricsToPayload clock [rebirthMetric]) := by
  refine inRangeC_metricsToPayload valid clock [rebirthMetric] hc ?_ (encFits_rebirth clock)
  intro pm hpm
  rw [List.mem_singleton.mp hpm]
  simpa [pubOK, rebirthMetric, PublishMetric.newTyped, PublishMetric.new, toProto, pvOKC] using hv

/-- **The request is honoured** (`C15H_rebirth_honoured` for the concrete codec). Sent to an
addressable node whose node task is alive and idle, the bytes of the request of
`publish_node_rebirth` make the node hand over an NBIRTH if and only if the node is birthed and
the request is outside the rebirth cooldown — for every group / node id, `u64` clock reading and
node state; the node's manager is handed the request as well. -/
theorem C15HW_rebirth_honoured (valid : Bytes → Bool) (cfg : NodeCfg) (ha : Addressable valid cfg)
    (clock : Nat) (hc : clock < 2 ^ 64) (hv : valid rebirthName = true)
    (decs : List Dec) (st : St) (hr : st.Ready) (hi : st.Inv) :
    let r := endToEnd valid encWC (decWC valid) cfg decs st
      (publishNodeRebirth clock cfg.group cfg.node)
    ((∃ e ∈ r.2, e.isNBirth = true) ↔ (st.birthed = true ∧ st.cooldown ≤ st.wall - st.last)) ∧
    r.2.filter Eff.isCmd = [.cmd none clock [rebirthMetric.asDelivered]] :=
  C15H_rebirth_honoured valid encWC (decWC valid) cfg ha clock
    (decWC_encWC valid _ (C15HW_rebirth_payload_inRange valid clock hc hv)) decs st hr hi

/-! ### non-vacuity: concrete, non-trivial inputs through the real bytes -/

section Examples

/-- a batch: a named string, an aliased u8 with timestamp, a data set by name, a template
definition with reference by alias, a NaN double -/
def exBatchW : List PublishMetric :=
  [PublishMetric.new (.name [0x78]) (.str [0x68, 0x69]),
   (PublishMetric.newTyped (.alias 7) .u8 (.n 200)).timestamp 33,
   PublishMetric.new (getMetricId [0x6d] none) .dataset,
   PublishMetric.new (.alias 2) (.template (some true) true),
   PublishMetric.new (.alias 3) (.double 0x7ff8000000000001)]

example : ∀ pm ∈ exBatchW, pm.InRange Topic.asciiValid := by decide +kernel
example : EncFitsC (metricsToPayload 5000 exBatchW) := by decide +kernel
example : InRangeC Topic.asciiValid (metricsToPayload 5000 exBatchW) := by decide +kernel
example : Topic.asciiValid rebirthName = true := by decide +kernel

/-- the bytes on the wire -/
example : encWC (metricsToPayload 5000 [PublishMetric.new (.name [0x78]) (.str [0x68, 0x69]),
      PublishMetric.new (.alias 2) (.template (some false) true)]) =
    [8, 136, 39, 18, 7, 10, 1, 120, 122, 2, 104, 105,
     18, 12, 16, 2, 146, 1, 7, 34, 3, 114, 101, 102, 40, 0] := by decide +kernel

/-- the node-fidelity theorem applies to this batch and the C15H example node: every hypothesis
is discharged -/
example :
    let r := endToEnd Topic.asciiValid encWC (decWC Topic.asciiValid) exCfg [] exSt
      (send true 5000 (.node exCfg.group exCfg.node) exBatchW)
    r.2.filter Eff.isCmd = [.cmd none 5000 (exBatchW.map PublishMetric.asDelivered)] ∧
    ∀ e ∈ r.2, ∀ d, e.target? ≠ some (some d) :=
  C15HW_node_fidelity Topic.asciiValid exCfg
    ⟨by unfold NameOk; decide +kernel, by unfold NameOk; decide +kernel, by decide +kernel, by decide +kernel, by decide +kernel⟩
    true 5000 exBatchW (by decide +kernel) (by decide +kernel) (by decide +kernel) [] exSt
    (by unfold St.Ready; decide +kernel) (by unfold St.Inv; decide +kernel)

/-- … and by plain evaluation through the bytes: device `d1` is handed the batch -/
example : (endToEnd Topic.asciiValid encWC (decWC Topic.asciiValid) exCfg [] exSt
    (send false 5000 (.device exCfg.group exCfg.node [0x64, 0x31]) exBatchW)).2 =
    [.cmd (some 1) 5000 (exBatchW.map PublishMetric.asDelivered)] := by decide +kernel

/-- the rebirth request through the bytes: the manager sees it, the node and its devices rebirth -/
example : (endToEnd Topic.asciiValid encWC (decWC Topic.asciiValid) exCfg [] exSt
    (publishNodeRebirth 7000 exCfg.group exCfg.node)).2 =
    [.cmd none 7000 [⟨.name rebirthName, none, some (.bool true)⟩], .nbirth 0 0, .dbirth 0 1, .dbirth 1 2] := by
  decide +kernel

/-- out of range: a property-only value, an alias that is no `u64`, a name that is no string -/
example : ¬ (PublishMetric.new (.alias 1) .pset).InRange Topic.asciiValid := by decide +kernel
example : ¬ (PublishMetric.new (.alias (2 ^ 64)) (.bool true)).InRange Topic.asciiValid := by decide +kernel
example : ¬ (PublishMetric.new (.name [200]) (.bool true)).InRange Topic.asciiValid := by decide +kernel

end Examples

end Srad.HostCmd
