/-
Helper lemmas for M16 (`Props/M16.lean`): the `SimpleMetricManager` state machine of
`Model/SimpleMgr.lean`. Core Lean only.
-/
import SradModel.Model.SimpleMgrSpec
import SradModel.Proofs.Birth

namespace Srad.SimpleMgr
open Srad.Birth Srad.Codec

theorem filterMap_congr_mem {α β} {f g : α → Option β} :
    ∀ {l : List α}, (∀ a ∈ l, f a = g a) → l.filterMap f = l.filterMap g := by
  intro l
  induction l with
  | nil => intro _; rfl
  | cons x t ih =>
    intro h
    have hx := h x (by simp)
    have ht := ih (fun a ha => h a (by simp [ha]))
    simp only [List.filterMap_cons, hx, ht]

/-- in a list with pairwise distinct keys, a member is the only element with its key -/
theorem filter_key_of_mem {α κ} [DecidableEq κ] (key : α → κ) :
    ∀ {l : List α}, (l.map key).Nodup → ∀ {p : α}, p ∈ l →
      l.filter (fun q => decide (key q = key p)) = [p]
  | [], _, _, hp => by cases hp
  | x :: t, hnd, p, hp => by
    obtain ⟨hx, hnd⟩ := List.nodup_cons.1 hnd
    rw [List.filter_cons]
    rcases List.mem_cons.1 hp with rfl | hp
    · -- nothing in the tail has the key of `p`
      have ht : t.filter (fun q => decide (key q = key p)) = [] :=
        List.filter_eq_nil_iff.2 fun q hq hk =>
          hx ((of_decide_eq_true hk : key q = key p) ▸ List.mem_map.2 ⟨q, hq, rfl⟩)
      rw [if_pos (decide_eq_true rfl), ht]
    · have hne : ¬ decide (key x = key p) = true := fun hk =>
        hx ((of_decide_eq_true hk : key x = key p) ▸ List.mem_map.2 ⟨p, hp, rfl⟩)
      rw [if_neg hne, filter_key_of_mem key hnd hp]

theorem find?_key_of_mem {α κ} [DecidableEq κ] (key : α → κ) {l : List α}
    (hnd : (l.map key).Nodup) {p : α} (hp : p ∈ l) :
    l.find? (fun q => decide (key q = key p)) = some p := by
  rw [← List.head?_filter, filter_key_of_mem key hnd hp]; rfl

theorem nodup_of_nodup_map {α β} (f : α → β) : ∀ {l : List α}, (l.map f).Nodup → l.Nodup :=
  fun h => (List.pairwise_map.1 h).imp fun hne hab => hne (congrArg f hab)

/-! ### `HashMap` as an association list -/

theorem collect_go (l : List (MetricId × Name)) :
    ∀ acc : List (MetricId × Name), ((acc ++ l).map (·.1)).Nodup →
      l.foldl (fun acc e => hmInsert acc e.1 e.2) acc = acc ++ l := by
  induction l with
  | nil => intro acc _; simp
  | cons e t ih =>
    intro acc hnd
    have hfresh : acc.any (fun x => decide (x.1 = e.1)) = false := by
      rw [Bool.eq_false_iff]
      intro hc
      obtain ⟨x, hx, hxe⟩ := List.any_eq_true.mp hc
      simp only [decide_eq_true_eq] at hxe
      rw [List.map_append, List.nodup_append] at hnd
      exact hnd.2.2 x.1 (List.mem_map.mpr ⟨x, hx, rfl⟩) e.1 (by simp) hxe
    have hins : hmInsert acc e.1 e.2 = acc ++ [e] := by
      unfold hmInsert
      simp [hfresh]
    simp only [List.foldl_cons, hins]
    rw [ih (acc ++ [e]) (by simpa using hnd)]
    simp

theorem collect_eq_self {l : List (MetricId × Name)} (h : (l.map (·.1)).Nodup) : collect l = l := by
  unfold collect
  rw [collect_go l [] (by simpa using h)]
  simp

theorem hmGet_eq_some {l : List (MetricId × Name)} (h : (l.map (·.1)).Nodup) (k : MetricId)
    (n : Name) : hmGet l k = some n ↔ (k, n) ∈ l := by
  unfold hmGet
  constructor
  · intro hg
    obtain ⟨p, hf, rfl⟩ := Option.map_eq_some_iff.1 hg
    have hk : p.1 = k := by simpa using List.find?_some hf
    exact hk ▸ List.mem_of_find?_eq_some hf
  · intro hm
    exact congrArg (Option.map (·.2)) (find?_key_of_mem (fun e : MetricId × Name => e.1) h hm)

theorem hmGet_eq_none {l : List (MetricId × Name)} (k : MetricId) :
    hmGet l k = none ↔ ∀ n, (k, n) ∉ l := by
  simp only [hmGet, Option.map_eq_none_iff, List.find?_eq_none, decide_eq_true_eq]
  exact ⟨fun h n hm => h _ hm rfl, fun h x hx hk => h x.2 (hk ▸ hx)⟩

/-! ### the loop of `initialise_birth` -/

/-- what a run of the loop over `ents` that did not panic did -/
structure GoOk (cfg : Cfg) (h : Name → Nat) (now : Nat) (bi : Init PV) (ents : List Entry)
    (bi' : Init PV) (toks : List (Entry × MetricId)) : Prop where
  ents : toks.map (·.1) = ents
  metrics : bi'.metrics = bi.metrics ++ toks.map (fun p => birthMetricOf now p.1 p.2)
  fresh : ∀ id ∈ toks.map (·.2), ¬ Used bi id
  nodup : (toks.map (·.2)).Nodup
  shape : ∀ p ∈ toks, IdShape p.1 p.2
  mono : ∀ i, Used bi i → Used bi' i
  obj : bi'.obj = bi.obj

/-- The loop is `Birth.runSimple` (C11's model of `initialise_birth`) on the same entries: when it
gets through, every entry has its token, and initializer and ids are those of `runSimple`; when it
stops, it stops at one of the entries, and `runSimple` panics. -/
theorem birthGo_view {cfg : Cfg} {h : Name → Nat} {now : Nat} :
    ∀ (ents : List Entry) (bi : Init PV),
      match (birthGo cfg h now bi ents).2.2 with
      | none => (birthGo cfg h now bi ents).2.1.map (·.1) = ents ∧
          runSimple cfg h now bi (ents.map toSimple) =
            .ok ((birthGo cfg h now bi ents).1, (birthGo cfg h now bi ents).2.1.map (·.2))
      | some n => n ∈ ents.map (·.name) ∧ runSimple cfg h now bi (ents.map toSimple) = .panic
  | [], bi => ⟨rfl, rfl⟩
  | e :: t, bi => by
    have hsame : registerMetric cfg h bi ⟨(toSimple e).name, (toSimple e).useAlias, (toSimple e).dt, now⟩
        (some (.user (toSimple e).value)) =
        registerMetric cfg h bi (details now e) (some (birthValue e)) := rfl
    simp only [List.map_cons]
    unfold runSimple birthGo
    rw [hsame]
    cases hr : registerMetric cfg h bi (details now e) (some (birthValue e)) with
    | ok p =>
      have ih := birthGo_view (cfg := cfg) (h := h) (now := now) t p.2
      simp only
      cases hf : (birthGo cfg h now p.2 t).2.2 <;> rw [hf] at ih <;> simp only [] at ih ⊢
      · exact ⟨congrArg (e :: ·) ih.1, by rw [ih.2]; rfl⟩
      · exact ⟨List.mem_cons_of_mem _ ih.1, by rw [ih.2]⟩
    | err er => exact ⟨List.mem_cons_self .., rfl⟩
    | panic => exact ⟨List.mem_cons_self .., rfl⟩

theorem accepted_toks (now : Nat) : ∀ toks : List (Entry × MetricId),
    accepted (simpleReqs now ((toks.map (·.1)).map toSimple)) ((toks.map (·.2)).map .ok) =
      toks.map fun p => birthMetricOf now p.1 p.2
  | [] => rfl
  | p :: t => congrArg (birthMetricOf now p.1 p.2 :: ·) (accepted_toks now t)

/-- a run of the loop that did not panic is the scripted manager's run over the entries' calls, all
accepted: what `Birth.Ran` says of the tokens, said of `toks` -/
theorem birthGo_ok {cfg : Cfg} {h : Name → Nat} {now : Nat} (ents : List Entry) (bi : Init PV)
    (hnone : (birthGo cfg h now bi ents).2.2 = none) :
    GoOk cfg h now bi ents (birthGo cfg h now bi ents).1 (birthGo cfg h now bi ents).2.1 := by
  have hv := birthGo_view (cfg := cfg) (h := h) (now := now) ents bi
  rw [hnone] at hv
  obtain ⟨hents, hrs⟩ := hv
  have ran := runReqs_spec ((runSimple_ok now _ bi).2 _ _ hrs)
  generalize (birthGo cfg h now bi ents).2.1 = toks at *
  subst hents
  have hids : okIds ((toks.map (·.2)).map .ok) = toks.map (·.2) := by
    simp [okIds, List.filterMap_map, Function.comp_def]
  refine ⟨rfl, by rw [ran.metrics, accepted_toks], fun id hid hu => ran.fresh id (hids.symm ▸ hid) ?_,
    hids ▸ ran.nodup, fun p hp => ?_, fun i hi => ?_, ran.obj⟩
  · cases id <;> exact hu
  · refine ran.shape (.metric (details now p.1) (some (toProto p.1.ty p.1.value))) p.2 ?_
    simp only [simpleReqs, List.map_map, List.zip_map', List.mem_map]
    exact ⟨p, hp, rfl⟩
  · have := ran.mono i (by cases i <;> exact hi)
    cases i <;> exact this

theorem cmdPairs_cmdLookup (toks : List (Entry × MetricId)) :
    cmdPairs toks = cmdLookup ((toks.map (·.1)).map toSimple) (toks.map (·.2)) := by
  induction toks with
  | nil => rfl
  | cons p t ih =>
    obtain ⟨e, id⟩ := p
    simp only [cmdPairs, cmdLookup, List.map_cons, List.zip_cons_cons, List.filterMap_cons,
      List.filter_cons] at ih ⊢
    cases hcb : e.hasCb
    · simp only [toSimple, hcb, Bool.false_eq_true, if_false]
      exact ih
    · simp only [toSimple, hcb, if_true, List.map_cons]
      rw [← ih]

theorem iterOrder_perm (ms : List Entry) (order : List Name) :
    (iterOrder ms order).Perm (ms.map (·.name)) := by
  unfold iterOrder
  split
  · rename_i hp; exact List.isPerm_iff.mp hp
  · exact List.Perm.refl _

theorem arrange_perm {ms : List Entry} (hnd : (ms.map (·.name)).Nodup) (order : List Name) :
    (arrange ms order).Perm ms := by
  unfold arrange
  have h1 := (iterOrder_perm ms order).filterMap (fun n => ms.find? (fun e => decide (e.name = n)))
  have h2 : (ms.map (·.name)).filterMap (fun n => ms.find? (fun e => decide (e.name = n))) = ms := by
    rw [List.filterMap_map]
    have : ms.filterMap ((fun n => ms.find? (fun e => decide (e.name = n))) ∘ (·.name)) =
        ms.filterMap some := by
      apply filterMap_congr_mem
      intro a ha
      exact find?_key_of_mem (fun e : Entry => e.name) hnd ha
    rw [this, List.filterMap_some]
  rw [h2] at h1
  exact h1

theorem setTokens_names (toks : List (Entry × MetricId)) (ms : List Entry) :
    (setTokens toks ms).map (·.name) = ms.map (·.name) := by
  unfold setTokens
  rw [List.map_map]
  apply List.map_congr_left
  intro e _
  simp only [Function.comp]
  split <;> rfl

theorem poison_names (n : Name) (ms : List Entry) : (poison n ms).map (·.name) = ms.map (·.name) := by
  unfold poison
  rw [List.map_map]
  apply List.map_congr_left
  intro e _
  simp only [Function.comp]
  split <;> rfl

/-- the entries a birth pairs with tokens have pairwise distinct names, like the registered ones -/
theorem toks_keys_nodup {toks : List (Entry × MetricId)} {ms : List Entry}
    (hnd : (ms.map (·.name)).Nodup) (hp : (toks.map (·.1)).Perm ms) :
    (toks.map (fun q => q.1.name)).Nodup := by
  have := (hp.map (·.name)).nodup_iff.mpr hnd
  rwa [List.map_map] at this

theorem setTokens_perm {toks : List (Entry × MetricId)} {ms : List Entry}
    (hnd : (ms.map (·.name)).Nodup) (hp : (toks.map (·.1)).Perm ms) :
    (setTokens toks ms).Perm (toks.map withToken) := by
  have hkeys := toks_keys_nodup hnd hp
  have h1 : (setTokens toks ms).Perm (setTokens toks (toks.map (·.1))) := by
    unfold setTokens
    exact (hp.symm.map _)
  have h2 : setTokens toks (toks.map (·.1)) = toks.map withToken := by
    unfold setTokens
    rw [List.map_map]
    apply List.map_congr_left
    intro p hpm
    simp only [Function.comp]
    rw [find?_key_of_mem (fun q : Entry × MetricId => q.1.name) hkeys hpm]
    rfl
  rw [h2] at h1
  exact h1

theorem withToken_tokens (toks : List (Entry × MetricId)) :
    (toks.map withToken).filterMap (·.token) = toks.map (·.2) := by
  rw [List.filterMap_map]
  have : ((fun e : Entry => e.token) ∘ withToken) = (some ∘ (fun p : Entry × MetricId => p.2)) := by
    funext p; rfl
  rw [this, List.filterMap_eq_map]

theorem Inv.empty {H} : Inv ({} : St H) :=
  ⟨by simp, by simp, by simp, by simp⟩

/-! ### every operation preserves the invariant -/

/-- a change of the entries that leaves name, handler flag and token alone -/
theorem Inv.map_entries {H} {s : St H} (g : Entry → Entry) (hn : ∀ e, (g e).name = e.name)
    (hc : ∀ e, (g e).hasCb = e.hasCb) (ht : ∀ e, (g e).token = e.token) (hi : Inv s) :
    Inv { s with metrics := s.metrics.map g } := by
  have hnames : (s.metrics.map g).map (·.name) = s.metrics.map (·.name) := by
    rw [List.map_map]; apply List.map_congr_left; intro e _; exact hn e
  have htoks : (s.metrics.map g).filterMap (·.token) = s.metrics.filterMap (·.token) := by
    rw [List.filterMap_map]; apply filterMap_congr_mem; intro e _; exact ht e
  refine ⟨by rw [hnames]; exact hi.names, fun hd => by rw [htoks]; exact hi.tokens hd,
    hi.keys, ?_⟩
  intro hd id n
  rw [hi.lookup hd id n]
  constructor
  · rintro ⟨e, he, h1, h2, h3⟩
    exact ⟨g e, List.mem_map.mpr ⟨e, he, rfl⟩, by rw [hn, h1], by rw [hc, h2], by rw [ht, h3]⟩
  · rintro ⟨e', he', h1, h2, h3⟩
    obtain ⟨e, he, rfl⟩ := List.mem_map.mp he'
    exact ⟨e, he, by rw [← hn, h1], by rw [← hc, h2], by rw [← ht, h3]⟩

theorem register_inv {H} {s s' : St H} {n : Name} {ty : STy} {v : SV} {a c b : Bool} (hi : Inv s)
    (hr : register s n ty v a c = .ok (s', b)) : Inv s' := by
  unfold register at hr
  split at hr
  · cases hr
  · split at hr
    · cases hr; exact hi
    · rename_i hd hn
      cases hr
      refine ⟨?_, ?_, hi.keys, ?_⟩
      · rw [List.map_append]
        exact nodup_concat hi.names hn
      · intro hd'
        simp only [List.filterMap_append, List.filterMap_cons, List.filterMap_nil, List.append_nil]
        exact hi.tokens hd'
      · intro hd' id m
        rw [hi.lookup hd' id m]
        constructor
        · rintro ⟨e, he, h⟩; exact ⟨e, by simp [he], h⟩
        · rintro ⟨e, he, h1, h2, h3⟩
          simp only [List.mem_append, List.mem_singleton] at he
          rcases he with he | he
          · exact ⟨e, he, h1, h2, h3⟩
          · rw [he] at h3; cases h3

theorem update_inv {H} {now : Nat} {s s' : St H} {n : Name} {f : SV → SV} {pm : Option PM}
    (hi : Inv s) (hu : update now s n f = .ok (s', pm)) : Inv s' := by
  unfold update at hu
  split at hu
  · cases hu; exact hi
  · split at hu
    · cases hu
    · cases hu
      exact hi.map_entries _ (by intro e; split <;> rfl) (by intro e; split <;> rfl)
        (by intro e; split <;> rfl)

theorem init_inv {H} {s s' : St H} {h : H} (hi : Inv s) (hr : init s h = .ok s') : Inv s' := by
  unfold init at hr
  split at hr
  · cases hr
  · cases hr; exact ⟨hi.names, hi.tokens, hi.keys, hi.lookup⟩

/-- `initialise_birth` with the loop's three results named: a dead manager does nothing, a refused
entry poisons, otherwise the tokens are stored and `cmd_lookup` is rebuilt -/
theorem initialiseBirth_cases {H} (cfg : Cfg) (h : Name → Nat) (now : Nat) (order : List Name)
    (bi : Init PV) (s : St H) :
    ∃ bi' toks fail, birthGo cfg h now bi (arrange s.metrics order) = (bi', toks, fail) ∧
      initialiseBirth cfg h now order bi s =
        if s.dead then ⟨s, none⟩
        else match fail with
          | some n => ⟨{ s with metrics := poison n (setTokens toks s.metrics), dead := true }, none⟩
          | none =>
            ⟨{ s with metrics := setTokens toks s.metrics, lookup := collect (cmdPairs toks) }, some bi'⟩ :=
  ⟨_, _, _, rfl, rfl⟩

theorem cmdPairs_keys_nodup {toks : List (Entry × MetricId)} (hnd : (toks.map (·.2)).Nodup) :
    ((cmdPairs toks).map (·.1)).Nodup := by
  unfold cmdPairs
  rw [List.map_map]
  exact List.Nodup.sublist ((List.filter_sublist (p := fun p : Entry × MetricId => p.1.hasCb)).map
    (fun p : Entry × MetricId => p.2)) hnd

theorem initialiseBirth_ok {H} {cfg : Cfg} {h : Name → Nat} {now : Nat} {order : List Name}
    {bi bi' : Init PV} {s : St H} (hi : Inv s)
    (hb : (initialiseBirth cfg h now order bi s).bi = some bi') :
    s.dead = false ∧
    ∃ toks, GoOk cfg h now bi (arrange s.metrics order) bi' toks ∧
      (toks.map (·.1)).Perm s.metrics ∧
      (initialiseBirth cfg h now order bi s).st =
        { s with metrics := setTokens toks s.metrics, lookup := cmdPairs toks } := by
  obtain ⟨b, toks, fail, hgo, heq⟩ := initialiseBirth_cases cfg h now order bi s
  rw [heq] at hb ⊢
  cases hd : s.dead <;> simp only [hd, Bool.false_eq_true, if_false, if_true] at hb ⊢
  · cases fail with
    | some n => cases hb
    | none =>
      cases hb
      have g := birthGo_ok (arrange s.metrics order) bi (by rw [hgo])
      rw [hgo] at g
      refine ⟨trivial, toks, g, by rw [g.ents]; exact arrange_perm hi.names order, ?_⟩
      rw [collect_eq_self (cmdPairs_keys_nodup g.nodup), ← hd]
  · cases hb

theorem mem_cmdPairs (toks : List (Entry × MetricId)) (id : MetricId) (n : Name) :
    (id, n) ∈ cmdPairs toks ↔ ∃ p ∈ toks, p.1.hasCb = true ∧ p.2 = id ∧ p.1.name = n := by
  unfold cmdPairs
  simp only [List.mem_map, List.mem_filter, Prod.mk.injEq]
  constructor
  · rintro ⟨p, ⟨hp, hcb⟩, h1, h2⟩; exact ⟨p, hp, hcb, h1, h2⟩
  · rintro ⟨p, hp, hcb, h1, h2⟩; exact ⟨p, ⟨hp, hcb⟩, h1, h2⟩

theorem inv_after_birth {H} {s : St H} {toks : List (Entry × MetricId)} (hi : Inv s)
    (hp : (toks.map (·.1)).Perm s.metrics)
    (hnd : (toks.map (·.2)).Nodup) :
    Inv { s with metrics := setTokens toks s.metrics, lookup := cmdPairs toks } := by
  have hperm := setTokens_perm hi.names hp
  refine ⟨?_, ?_, ?_, ?_⟩
  · simp only [setTokens_names]; exact hi.names
  · intro _
    have := (hperm.filterMap (·.token)).nodup_iff.mpr (by rw [withToken_tokens]; exact hnd)
    exact this
  · intro _
    exact cmdPairs_keys_nodup hnd
  · intro _ id n
    simp only
    rw [mem_cmdPairs]
    constructor
    · rintro ⟨p, hpm, hcb, rfl, rfl⟩
      refine ⟨withToken p, hperm.mem_iff.mpr (List.mem_map.mpr ⟨p, hpm, rfl⟩), rfl, hcb, rfl⟩
    · rintro ⟨e, he, h1, h2, h3⟩
      obtain ⟨p, hpm, rfl⟩ := List.mem_map.mp (hperm.mem_iff.mp he)
      simp only [withToken, Option.some.injEq] at h1 h2 h3
      exact ⟨p, hpm, h2, h3, h1⟩

theorem initialiseBirth_inv {H} (cfg : Cfg) (h : Name → Nat) (now : Nat) (order : List Name)
    (bi : Init PV) {s : St H} (hi : Inv s) : Inv (initialiseBirth cfg h now order bi s).st := by
  cases hb : (initialiseBirth cfg h now order bi s).bi with
  | some bi' =>
    obtain ⟨_, toks, g, hp, hst⟩ := initialiseBirth_ok hi hb
    rw [hst]
    exact inv_after_birth hi hp g.nodup
  | none =>
    obtain ⟨b, toks, fail, _, heq⟩ := initialiseBirth_cases cfg h now order bi s
    rw [heq] at hb ⊢
    cases hd : s.dead <;> simp only [hd, Bool.false_eq_true, if_false, if_true] at hb ⊢
    · cases fail with
      | none => cases hb
      | some n =>
        exact ⟨by simp only [poison_names, setTokens_names]; exact hi.names,
          (fun hc => by cases hc), (fun hc => by cases hc), (fun hc => by cases hc)⟩
    · exact hi

theorem step_inv {H} {s : St H} (op : Op H) (hi : Inv s) : Inv (step s op) := by
  cases op with
  | register n ty v a c =>
    simp only [step]
    cases hr : register s n ty v a c with
    | ok p => obtain ⟨s', b⟩ := p; exact register_inv hi hr
    | panic => exact hi
  | birth cfg h now order bi => exact initialiseBirth_inv cfg h now order bi hi
  | update now n f =>
    simp only [step]
    cases hu : update now s n f with
    | ok p => obtain ⟨s', pm⟩ := p; exact update_inv hi hu
    | panic => exact hi
  | publish _ => exact hi
  | command _ => exact hi
  | init h =>
    simp only [step]
    cases hr : init s h with
    | ok s' => exact init_inv hi hr
    | panic => exact hi

theorem run_inv {H} (ops : List (Op H)) : ∀ {s : St H}, Inv s → Inv (run s ops) := by
  induction ops with
  | nil => intro s hi; exact hi
  | cons op t ih => intro s hi; exact ih (step_inv op hi)

/-! ### the command path meets its specification -/

theorem find?_current_none {ms : List Entry} {id : MetricId}
    (hno : ∀ e ∈ ms, e.hasCb = true → e.token ≠ some id) :
    ms.find? (fun e => e.hasCb && decide (e.token = some id)) = none := by
  rw [List.find?_eq_none]
  intro e he hc
  simp only [Bool.and_eq_true, decide_eq_true_eq] at hc
  exact hno e he hc.1 hc.2

theorem lookup_exact {H} {s : St H} (hi : Inv s) (hd : s.dead = false) (id : MetricId) :
    hmGet s.lookup id =
      (s.metrics.find? (fun e => e.hasCb && decide (e.token = some id))).map (·.name) := by
  cases hf : s.metrics.find? (fun e => e.hasCb && decide (e.token = some id)) with
  | none =>
    rw [Option.map_none, hmGet_eq_none]
    intro n hm
    obtain ⟨e, he, _, h2, h3⟩ := (hi.lookup hd id n).mp hm
    have := List.find?_eq_none.mp hf e he
    simp [h2, h3] at this
  | some e =>
    have hpe := List.find?_some hf
    simp only [Bool.and_eq_true, decide_eq_true_eq] at hpe
    exact (hmGet_eq_some (hi.keys hd) id e.name).mpr
      ((hi.lookup hd id e.name).mpr ⟨e, List.mem_of_find?_eq_some hf, rfl, hpe.1, hpe.2⟩)

theorem callbacks_head {H} {s : St H} (hi : Inv s) (hd : s.dead = false) (m : CmdMetric)
    (t : List CmdMetric) :
    callbacks s (m :: t) =
      match route s m with
      | some i => i :: callbacks s t
      | none => callbacks s t := by
  rw [callbacks, lookup_exact hi hd, route]
  cases hf : s.metrics.find? (fun e => e.hasCb && decide (e.token = some m.id)) with
  | none => rfl
  | some e =>
    -- the name found in `cmd_lookup` leads back to the same entry
    simp only [Option.map_some, Option.bind_some,
      find?_key_of_mem (fun x : Entry => x.name) hi.names (List.mem_of_find?_eq_some hf)]
    cases cmdCb e m.value <;> rfl

theorem cmdCb_eq_some_iff (e : Entry) (v : Option PV) (i : Invocation) :
    cmdCb e v = some i ↔ e.hasCb = true ∧ i.name = e.name ∧
      ((v = none ∧ i.value = none) ∨
       (∃ pv sv, v = some pv ∧ fromProto e.ty pv = .ok sv ∧ i.value = some sv)) := by
  obtain ⟨iname, ival⟩ := i
  unfold cmdCb
  cases e.hasCb
  · simp
  cases v with
  | none => simp [eq_comm]
  | some pv => cases hfp : fromProto e.ty pv <;> simp [hfp, eq_comm]

theorem callbacks_eq_route {H} {s : St H} (hi : Inv s) (hd : s.dead = false) :
    ∀ ms : List CmdMetric, callbacks s ms = ms.filterMap (route s) := by
  intro ms
  induction ms with
  | nil => rfl
  | cons m t ih =>
    rw [callbacks_head hi hd, List.filterMap_cons]
    cases route s m with
    | none => exact ih
    | some i => simp only; rw [ih]

end Srad.SimpleMgr
