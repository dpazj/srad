/-
C16 — Host STATE certificate always matches its registered will.
Property theorems only (helper lemmas live in `SradModel/Proofs/HostLoop.lean`).

Setting. `history cfg host now0 steps` is the M10 model of `AppEventLoop::new` at clock reading
`now0` followed by any list of steps; a step is an `Event` handed to `poll` (Online, Offline, a
STATE message of any host, anything else), `AppClient::cancel()`, or one second passing, together
with the `timestamp()` reading of that step (the clock is arbitrary: not even monotone). The
result is the state reached, the flat trace of observable effects (`setWill`, `subscribe`,
`publishState`, `disconnect`) and the `AppEvent`s `poll` returned. `history = none` iff the host
id is invalid (the constructor panics). All theorems are for every subscription configuration
(`AllGroups`, `SingleGroup`, every `Custom` list), every host id and every sequence of steps.
The statements read the *trace* (`lastWill`, `birthOut`, the monitor `Accepted`): none of them
mentions the model's `online` / `published` / `willTs` fields.

Schedule. The model runs the task spawned by `handle_online` to completion inside the step
(a client that accepts calls in order). The race with a client that parks calls is outside C16.
-/
import SradModel.Proofs.HostLoop
import SradModel.Generated.HostLoopTable

namespace Srad.HostLoop

/-- **Construction registers the first will** (timestamp = the clock reading at construction)
and does nothing else; it panics exactly on an invalid host id. -/
theorem C16_new_registers_will (cfg : SubCfg) (host : Str) (now0 : Nat) :
    (validName host = false → history cfg host now0 [] = none) ∧
    (validName host = true → history cfg host now0 [] =
      some ({ willTs := now0 }, [.setWill (stateHostTopic host) now0], [])) := by
  unfold history new updateLastWill
  cases validName host <;> simp [exec]

/-- Extending a history by one step is one `step` from the reached state: the per-step theorems
below therefore describe what any history appends to its trace. -/
theorem C16_history_snoc (cfg : SubCfg) (host : Str) (now0 : Nat) (steps : List Step)
    (s : St) (tr : List Eff) (r : List Ret) (x : Step)
    (h : history cfg host now0 steps = some (s, tr, r)) :
    history cfg host now0 (steps ++ [x]) =
      some ((step cfg host s x.inp x.now).1, tr ++ (step cfg host s x.inp x.now).2.1,
            r ++ (step cfg host s x.inp x.now).2.2) := by
  unfold history at h ⊢
  cases hn : new host now0 with
  | none => simp [hn] at h
  | some p =>
    obtain ⟨s0, e0⟩ := p
    simp only [hn, Option.some.injEq, Prod.mk.injEq] at h
    obtain ⟨rfl, rfl, rfl⟩ := h
    simp [exec_append, exec, List.append_assoc]

/-- **Every history's trace is legal** for the monitor of `HostLoopSpec`: wills are for the
host's own STATE topic; a subscription opens a session only on a registered, unused will and is
followed at once by the birth; every `{online:true}` publish is a blocking publish on the own
STATE topic carrying the registered will's timestamp; `{online:false}` publishes are `try_`
publishes on the own topic. -/
theorem C16_trace_accepted (cfg : SubCfg) (host : Str) (now0 : Nat) (steps : List Step)
    (s : St) (tr : List Eff) (r : List Ret)
    (h : history cfg host now0 steps = some (s, tr, r)) :
    Accepted (stateHostTopic host) tr :=
  inv_accepted _ s tr (history_inv cfg host now0 steps s tr r h)

/-- **The STATE certificate matches the registered will (headline).** Wherever an
`{online:true}` STATE publish occurs in the trace of any history — the birth of a session or a
republished birth — it goes to the host's own STATE topic with a blocking publish, and its
timestamp is that of a will registration `setWill` which precedes it with no other will
registration in between, i.e. of the will registered for that connection. -/
theorem C16_birth_matches_will (cfg : SubCfg) (host : Str) (now0 : Nat) (steps : List Step)
    (s : St) (tr : List Eff) (r : List Ret)
    (h : history cfg host now0 steps = some (s, tr, r))
    (pre post : List Eff) (t : Str) (ts : Nat) (x : Bool)
    (hs : tr = pre ++ Eff.publishState t true ts x :: post) :
    t = stateHostTopic host ∧ x = false ∧
    ∃ p1 p2, pre = p1 ++ Eff.setWill (stateHostTopic host) ts :: p2 ∧
      ∀ e ∈ p2, e.isWill = false := by
  have hacc := C16_trace_accepted cfg host now0 steps s tr r h
  obtain ⟨h1, h2, h3⟩ := accepted_birth _ tr pre post t ts x hacc hs
  refine ⟨h1, h2, ?_⟩
  obtain ⟨p1, t', p2, hp, hn⟩ := (lastWill_iff pre ts).1 h3
  -- the will is for the own topic: the monitor accepts no other
  have : t' = stateHostTopic host := by
    obtain ⟨m, hm, -⟩ := hacc
    subst hs; subst hp
    rw [List.append_assoc] at hm
    obtain ⟨m1, m2, -, h2', -⟩ := monRun_split hm
    exact (monStep_eq_some.1 h2').1.1
  subst this
  exact ⟨p1, p2, hp, hn⟩

/-- **A fresh will is registered before reconnecting.** Between the subscriptions that open any
two sessions of a history there is a will registration. -/
theorem C16_will_refreshed_between_sessions (cfg : SubCfg) (host : Str) (now0 : Nat)
    (steps : List Step) (s : St) (tr : List Eff) (r : List Ret)
    (h : history cfg host now0 steps = some (s, tr, r))
    (a mid post : List Eff) (f1 f2 : List Str)
    (hs : tr = a ++ Eff.subscribe f1 :: (mid ++ Eff.subscribe f2 :: post)) :
    ∃ t ts, Eff.setWill t ts ∈ mid := by
  obtain ⟨e, he, hw⟩ :=
    accepted_between _ tr a mid post f1 f2 (C16_trace_accepted cfg host now0 steps s tr r h) hs
  cases e with
  | setWill t ts => exact ⟨t, ts, he⟩
  | _ => simp [Eff.isWill] at hw

/-- **Coming online = subscribe, then the birth.** Every subscription in the trace of a history
is the configured filter list (`filters cfg`, plus the own STATE topic unless `AllGroups`) and is
immediately followed by the `{online:true}` publish on the own STATE topic (whose timestamp is
the registered will's by `C16_birth_matches_will`). -/
theorem C16_subscribe_then_birth (cfg : SubCfg) (host : Str) (now0 : Nat) (steps : List Step)
    (s : St) (tr : List Eff) (r : List Ret)
    (h : history cfg host now0 steps = some (s, tr, r))
    (a rest : List Eff) (fs : List Str) (hs : tr = a ++ Eff.subscribe fs :: rest) :
    fs = subscribed cfg host ∧
    ∃ ts rest', rest = Eff.publishState (stateHostTopic host) true ts false :: rest' :=
  ⟨history_subscribe cfg host now0 steps s tr r h fs (by simp [hs]),
   accepted_after_subscribe _ tr a rest fs (C16_trace_accepted cfg host now0 steps s tr r h) hs⟩

/-! ### what each step emits (responses), in terms of what the trace so far says -/

/-- **Online while no birth is out opens a session**: exactly `subscribe (configured filters)`
then `publishState own {online:true, timestamp = the last registered will's}`, and `poll`
returns `Online`. (Outside the shutdown drain; without `cancel` the loop never drains, see
`C16_no_cancel_not_draining`.) -/
theorem C16_online_opens_session (cfg : SubCfg) (host : Str) (now0 : Nat) (steps : List Step)
    (s : St) (tr : List Eff) (r : List Ret) (now : Nat)
    (h : history cfg host now0 steps = some (s, tr, r))
    (hd : s.draining = false) (hb : birthOut tr = false) :
    ∃ w, lastWill tr = some w ∧
      (step cfg host s (.ev .online) now).2 =
        ([.subscribe (subscribed cfg host), .publishState (stateHostTopic host) true w false],
         [.online]) := by
  obtain ⟨w, dr, pe, h1, rfl, -⟩ := history_state h
  simp only at hd
  subst hd
  exact ⟨w, h1, by simp [step, handleEvent, handleOnline, subscribed, hb]⟩

/-- **A duplicate Online is silent**: while the birth is out, Online changes nothing, emits
nothing and returns nothing. -/
theorem C16_duplicate_online_silent (cfg : SubCfg) (host : Str) (now0 : Nat) (steps : List Step)
    (s : St) (tr : List Eff) (r : List Ret) (now : Nat)
    (h : history cfg host now0 steps = some (s, tr, r)) (hb : birthOut tr = true) :
    step cfg host s (.ev .online) now = (s, [], []) := by
  obtain ⟨w, dr, pe, -, rfl, -⟩ := history_state h
  cases dr <;> simp [step, handleEvent, handleOnline, hb]

/-- **Going offline registers a fresh will, first and only**: while the birth is out, Offline
emits exactly `setWill own (this step's clock reading)`; afterwards no birth is out (so the next
Online opens a new session on this will); `poll` returns `Offline` (or `Cancelled` when the
Offline ends a shutdown drain). -/
theorem C16_offline_registers_fresh_will (cfg : SubCfg) (host : Str) (now0 : Nat)
    (steps : List Step) (s : St) (tr : List Eff) (r : List Ret) (now : Nat)
    (h : history cfg host now0 steps = some (s, tr, r)) (hb : birthOut tr = true) :
    (step cfg host s (.ev .offline) now).2.1 = [.setWill (stateHostTopic host) now] ∧
    birthOut (tr ++ (step cfg host s (.ev .offline) now).2.1) = false ∧
    lastWill (tr ++ (step cfg host s (.ev .offline) now).2.1) = some now ∧
    (s.draining = false → (step cfg host s (.ev .offline) now).2.2 = [.offline]) ∧
    (s.draining = true → Ret.cancelled ∈ (step cfg host s (.ev .offline) now).2.2) := by
  obtain ⟨w, dr, pe, -, rfl, -⟩ := history_state h
  cases dr <;> cases pe <;>
    simp [step, handleEvent, handleOffline, updateLastWill, endDrain, takeShutdown,
      lastWill_snoc_will, birthOut_snoc_will, hb]

/-- **A duplicate Offline is silent** (no birth out ⇒ nothing changes, nothing is emitted). -/
theorem C16_duplicate_offline_silent (cfg : SubCfg) (host : Str) (now0 : Nat) (steps : List Step)
    (s : St) (tr : List Eff) (r : List Ret) (now : Nat)
    (h : history cfg host now0 steps = some (s, tr, r)) (hb : birthOut tr = false) :
    step cfg host s (.ev .offline) now = (s, [], []) := by
  obtain ⟨w, dr, pe, -, rfl, h4⟩ := history_state h
  cases dr
  · simp [step, handleEvent, handleOffline, hb]
  · simp [hb] at h4

/-- **An `{online:false}` STATE for the own host id is answered once the birth is out**: exactly
one republished birth `publishState own {online:true, timestamp = the session's will}`; the
state is unchanged and `poll` returns nothing. -/
theorem C16_own_offline_state_answered (cfg : SubCfg) (host : Str) (now0 : Nat)
    (steps : List Step) (s : St) (tr : List Eff) (r : List Ret) (now ts : Nat)
    (h : history cfg host now0 steps = some (s, tr, r))
    (hd : s.draining = false) (hb : birthOut tr = true) :
    ∃ w, lastWill tr = some w ∧
      step cfg host s (.ev (.state host false ts)) now =
        (s, [.publishState (stateHostTopic host) true w false], []) := by
  obtain ⟨w, dr, pe, h1, rfl, -⟩ := history_state h
  simp only at hd
  subst hd
  exact ⟨w, h1, by simp [step, handleEvent, hb]⟩

/-- **Any other STATE message is silent**: a foreign host id, an `{online:true}` payload, or an
own `{online:false}` before the birth is out — nothing is emitted, nothing changes. -/
theorem C16_other_state_silent (cfg : SubCfg) (host : Str) (now0 : Nat) (steps : List Step)
    (s : St) (tr : List Eff) (r : List Ret) (now ts : Nat) (h' : Str) (on : Bool)
    (h : history cfg host now0 steps = some (s, tr, r))
    (hc : h' ≠ host ∨ on = true ∨ birthOut tr = false) :
    step cfg host s (.ev (.state h' on ts)) now = (s, [], []) := by
  obtain ⟨w, dr, pe, -, rfl, -⟩ := history_state h
  cases dr
  · rcases hc with hc | hc | hc
    · cases on <;> simp [step, handleEvent, hc]
    · subst hc; simp only [step, handleEvent]; split <;> simp
    · simp [step, handleEvent, hc]
  · simp [step]

/-- Events that are neither Online, Offline nor STATE never touch will or STATE. -/
theorem C16_other_events_silent (cfg : SubCfg) (host : Str) (s : St) (now : Nat) :
    step cfg host s (.ev .other) now = (s, [], []) := by
  cases hd : s.draining <;> simp [step, handleEvent, hd]

/-- **Cancel publishes `{online:false}` and disconnects**: `try_` publish on the own STATE topic
with this step's clock reading, then `disconnect`, nothing else — in every reachable state in
which no earlier `cancel` is still waiting in the shutdown channel. -/
theorem C16_cancel_publishes_offline_then_disconnects (cfg : SubCfg) (host : Str) (s : St)
    (now : Nat) (hp : s.pending = false) :
    (step cfg host s .cancel now).2.1 =
      [.publishState (stateHostTopic host) false now true, .disconnect] := by
  obtain ⟨on, pub, w, dr, pe⟩ := s
  simp only at hp; subst hp
  cases dr <;> cases on <;> simp [step, takeShutdown]

/-- **After cancel, `poll` returns `Cancelled`**: at once when no birth is out (the host is
offline); otherwise the loop drains, and both the next Offline (which still registers its fresh
will, `C16_offline_registers_fresh_will`) and the 1 s timeout end the drain with `Cancelled`;
while draining every other event is dropped without effect. -/
theorem C16_cancel_returns (cfg : SubCfg) (host : Str) (now0 : Nat) (steps : List Step)
    (s : St) (tr : List Eff) (r : List Ret) (now : Nat)
    (h : history cfg host now0 steps = some (s, tr, r)) :
    (s.draining = false → birthOut tr = false → (step cfg host s .cancel now).2.2 = [.cancelled]) ∧
    (s.draining = false → birthOut tr = true →
      (step cfg host s .cancel now).1.draining = true ∧ (step cfg host s .cancel now).2.2 = []) ∧
    (s.draining = true →
      Ret.cancelled ∈ (step cfg host s .timeout now).2.2 ∧
      Ret.cancelled ∈ (step cfg host s (.ev .offline) now).2.2 ∧
      (step cfg host s .timeout now).2.1 = [] ∧
      ∀ e, e ≠ Ev.offline → step cfg host s (.ev e) now = (s, [], [])) := by
  obtain ⟨w, dr, pe, -, rfl, h4⟩ := history_state h
  refine ⟨?_, ?_, ?_⟩
  · intro hd hb; simp only at hd; subst hd
    simp [step, takeShutdown, hb]
  · intro hd hb; simp only at hd; subst hd
    simp [step, takeShutdown, hb]
  · intro hd; simp only at hd; subst hd
    rw [h4 rfl]
    refine ⟨?_, ?_, ?_, ?_⟩
    · cases pe <;> simp [step, endDrain, takeShutdown]
    · cases pe <;> simp [step, handleOffline, updateLastWill, endDrain, takeShutdown]
    · cases pe <;> simp [step, endDrain, takeShutdown]
    · intro e he
      cases e with
      | offline => exact absurd rfl he
      | _ => simp [step]

/-- Without `cancel` among the steps the loop is never draining (so the hypotheses
`draining = false` above hold on every cancel-free history). -/
theorem C16_no_cancel_not_draining (cfg : SubCfg) (host : Str) (now0 : Nat) (steps : List Step)
    (s : St) (tr : List Eff) (r : List Ret)
    (h : history cfg host now0 steps = some (s, tr, r))
    (hx : ∀ x ∈ steps, x.inp ≠ In.cancel) : s.draining = false ∧ s.pending = false :=
  history_induct (P := fun s _ => s.draining = false ∧ s.pending = false) ⟨rfl, rfl⟩
    (fun s _ x hm hs => step_no_cancel cfg host s x.inp x.now hs (hx x hm)) h

/-! ### the subscribed filters cover the configured namespace (MQTT matching: `+` one level,
final `#` the rest) — for arbitrary group / node / device / host strings -/

/-- **Namespace coverage.** For each configuration, every node-level and device-level topic
(`spBv1.0/g/<verb>/n[/d]`, any one-level verb) of a node the configuration asks for — every
group and node for `AllGroups`, every node of the group for `SingleGroup`, every node of each
listed group and each listed group+node for `Custom` — is matched by one of the filters handed
to `subscribe_many`. -/
theorem C16_filters_cover_namespace (cfg : SubCfg) (host t : Str) (h : InNamespace cfg t) :
    Covered (subscribed cfg host) t := by
  obtain ⟨g, v, n, ha, hv, ht⟩ := h
  have hlv := levels_noSlash v hv
  -- the topic's levels, in both shapes
  have hnode : levels (nodeTopic g v n) = [spbv] ++ levels g ++ [v] ++ levels n ++ [] := by
    rw [levels_nodeTopic, hlv]; simp
  have hdev : ∀ d, levels (deviceTopic g v n d) = [spbv] ++ levels g ++ [v] ++ levels n ++ levels d := by
    intro d; rw [levels_deviceTopic, hlv]
  have hnode' : levels (nodeTopic g v n) = [spbv] ++ levels g ++ (v :: levels n) := by
    rw [levels_nodeTopic, hlv]; simp
  have hdev' : ∀ d, levels (deviceTopic g v n d) = [spbv] ++ levels g ++ (v :: (levels n ++ levels d)) := by
    intro d; rw [levels_deviceTopic, hlv]; simp
  cases ha with
  | all =>
    refine ⟨Topic.full.render, by simp [subscribed, subscribeTopics, filters], ?_⟩
    rcases ht with rfl | ⟨d, rfl⟩
    · unfold mqttMatch; rw [hnode']; simpa using full_matches (levels g ++ v :: levels n)
    · unfold mqttMatch; rw [hdev']; simpa using full_matches (levels g ++ v :: (levels n ++ levels d))
  | single =>
    refine ⟨(Topic.group g).render, by simp [subscribed, subscribeTopics, filters], ?_⟩
    rcases ht with rfl | ⟨d, rfl⟩
    · unfold mqttMatch; rw [hnode']; exact group_matches g v _
    · unfold mqttMatch; rw [hdev']; exact group_matches g v _
  | customGroup l _ _ hm =>
    refine ⟨(Topic.group g).render, ?_, ?_⟩
    · simp only [subscribed, subscribeTopics, filters, List.map_append, List.map_map,
        List.mem_append, List.mem_map]
      exact Or.inl ⟨_, hm, rfl⟩
    rcases ht with rfl | ⟨d, rfl⟩
    · unfold mqttMatch; rw [hnode']; exact group_matches g v _
    · unfold mqttMatch; rw [hdev']; exact group_matches g v _
  | customNode l _ _ hm =>
    refine ⟨(Topic.node g n).render, ?_, ?_⟩
    · simp only [subscribed, subscribeTopics, filters, List.map_append, List.map_map,
        List.mem_append, List.mem_map]
      exact Or.inl ⟨_, hm, rfl⟩
    rcases ht with rfl | ⟨d, rfl⟩
    · unfold mqttMatch; rw [hnode]; exact node_matches g n v []
    · unfold mqttMatch; rw [hdev]; exact node_matches g n v _

/-- **The own STATE topic is covered** for every configuration (by `spBv1.0/#` for `AllGroups`,
by the explicit own-topic filter otherwise). -/
theorem C16_filters_cover_own_state (cfg : SubCfg) (host : Str) :
    Covered (subscribed cfg host) (stateHostTopic host) := by
  cases cfg with
  | allGroups =>
    refine ⟨Topic.full.render, by simp [subscribed, subscribeTopics, filters], ?_⟩
    unfold mqttMatch
    rw [levels_stateHostTopic]
    simpa using full_matches (stateLit :: levels host)
  | singleGroup g =>
    exact ⟨stateHostTopic host, by simp [subscribed, subscribeTopics, filters, Topic.render],
      matchLv_refl _⟩
  | custom l =>
    exact ⟨stateHostTopic host, by simp [subscribed, subscribeTopics, filters, Topic.render],
      matchLv_refl _⟩


/-! ### the decision table, regenerated from the compiled crate on every run

`SradModel/Generated/HostLoopTable.lean` is produced by executing the real `AppEventLoop` on
every cell (3 configurations × 12 input prefixes × 9 last inputs; the third outstanding cancel
is left out). A change to any arm of `handle_event` / `handle_online` / `handle_offline` /
`cancel` / `poll` changes a cell and breaks one of these two obligations at `lake build`. -/

/-- the compiled code and the model agree on every cell -/
theorem C16_table_matches_model :
    ∀ r ∈ Srad.Generated.hostLoopTable, modelRow r.cfg r.pre r.inp = some (r.eff, r.ret) := by
  decide +kernel

/-- **C16 holds on every cell of the compiled code's table** (`rowOk` reads the expected
behaviour off the inputs alone): session opening = configured filters then a birth with the
will's timestamp; fresh own will first on going offline; duplicates silent; own offline STATE
answered with the will's timestamp once the birth is out; foreign / online STATE silent; cancel =
`try_` offline publish then disconnect, and `Cancelled` returned at once / on Offline / on
timeout. The table has
exactly one row for each of the 3 × (12 × 9 − 1) cells (`tableComplete` + the length). -/
theorem C16_table_property :
    (∀ r ∈ Srad.Generated.hostLoopTable, rowOk r = true) ∧
    Srad.Generated.hostLoopTable.length = 321 ∧
    tableComplete Srad.Generated.hostLoopTable = true := by
  refine ⟨by decide +kernel, by decide +kernel, ?_⟩
  rw [tableComplete_eq]
  decide +kernel

/-! ### non-vacuity (tests, not the claim) -/

/-- a history with two sessions, a republished birth and a cancel, on a custom configuration -/
example :
    history (.custom [.group ['G'], .node ['G', '2'] ['N']]) ['H'] 100
      [⟨.ev .online, 110⟩, ⟨.ev (.state ['H'] false 1), 120⟩, ⟨.ev .offline, 130⟩,
       ⟨.ev .offline, 135⟩, ⟨.ev .online, 140⟩, ⟨.cancel, 150⟩, ⟨.timeout, 160⟩]
    = some (
      { online := true, published := true, willTs := 130 },
      [.setWill (stateHostTopic ['H']) 100,
       .subscribe (subscribed (.custom [.group ['G'], .node ['G', '2'] ['N']]) ['H']),
       .publishState (stateHostTopic ['H']) true 100 false,
       .publishState (stateHostTopic ['H']) true 100 false,
       .setWill (stateHostTopic ['H']) 130,
       .subscribe (subscribed (.custom [.group ['G'], .node ['G', '2'] ['N']]) ['H']),
       .publishState (stateHostTopic ['H']) true 130 false,
       .publishState (stateHostTopic ['H']) false 150 true,
       .disconnect],
      [.online, .offline, .online, .cancelled]) := by rfl

/-- `birthOut` / `lastWill` hypotheses are satisfiable both ways on reachable traces -/
example : birthOut [.setWill ['t'] 1, .subscribe [], .publishState ['t'] true 1 false] = true ∧
    birthOut [.setWill ['t'] 1, .subscribe [], .publishState ['t'] true 1 false, .setWill ['t'] 2]
      = false ∧
    lastWill [.setWill ['t'] 1, .subscribe [], .publishState ['t'] true 1 false, .setWill ['t'] 2]
      = some 2 := ⟨rfl, rfl, rfl⟩

/-- the namespace predicate is inhabited for each configuration, and the filters are the
expected strings -/
example : InNamespace (.custom [.node ['g'] ['n']]) (deviceTopic ['g'] ['D', 'D', 'A', 'T', 'A'] ['n'] ['d']) :=
  ⟨['g'], ['D', 'D', 'A', 'T', 'A'], ['n'], .customNode _ _ _ (by simp), by decide, Or.inr ⟨['d'], rfl⟩⟩

example : (subscribed (.singleGroup ['g']) ['h']).map String.ofList
    = ["spBv1.0/g/+/#", "spBv1.0/STATE/h"] := by rfl

/-- matching is not trivially true: `+` is one level, a group filter does not match another
group, a node filter does not match another node -/
example : mqttMatch "spBv1.0/g/+/#".toList "spBv1.0/h/NDATA/n".toList = false ∧
    mqttMatch "spBv1.0/g/+/n/#".toList "spBv1.0/g/NDATA/m".toList = false ∧
    mqttMatch "spBv1.0/g/+/n/#".toList "spBv1.0/g/DDATA/n/d".toList = true ∧
    mqttMatch "a/+".toList "a/b/c".toList = false := by decide +kernel

end Srad.HostLoop
