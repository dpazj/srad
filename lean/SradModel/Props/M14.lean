/-
M14 — the rumqttc glue `srad-client-rumqtt` (supporting model; see Model/Rumqtt.lean).
Property theorems only; helper lemmas are in `SradModel/Proofs/Rumqtt.lean`.

All statements about the poll machine hold for EVERY sequence `tr` of rumqttc outcomes
(`RuEv`), every start state `s` where it matters, and every `toEvent`
(= `topic_and_payload_to_event`). Vocabulary: `stepLog f s tr` is the list of `poll_rumqtt`
executions (state before, outcome, state after, returned event, slept); `reports f s tr` the
events the caller of `poll` receives, in order; `finalState`, `sleepCount`.
-/
import SradModel.Proofs.Rumqtt

namespace Srad.Rumqtt
open Srad.StateJson (Bytes)
open Srad.Topic (QoS Verb)

variable {E : Type}

/-- a publish never changes the connection state and never sleeps -/
theorem M14_publish_keeps_state (f : Bytes → Bytes → E) (s : ConnState) (t p : Bytes) :
    pollStep f s (.incomingPublish t p) = (s, some (.message (f t p)), false) :=
  pollStep_incomingPublish f s t p

/-! ### Online -/

/-- **Online is reported exactly for each ConnAck.** In every execution log, a row returns
`Event::Online` iff its rumqttc outcome is a ConnAck; hence the number of Online reports equals
the number of ConnAcks, for every outcome sequence and start state. -/
theorem M14_online_iff_connack (f : Bytes → Bytes → E) (s : ConnState) (tr : List RuEv) :
    (∀ st ∈ stepLog f s tr, st.report = some .online ↔ st.ev = .connAck) ∧
    onlineCount (reports f s tr) = connAckCount tr := by
  constructor
  · intro st h
    rw [(stepLog_row f s tr st h).2.1]
    exact pollStep_online_iff f st.pre st.ev
  · induction tr generalizing s with
    | nil => rfl
    | cons e t ih =>
      cases e with
      | error => cases s <;> simp [ih]
      | _ => simp [ih]

/-! ### Offline -/

/-- **When Offline is reported.** In every execution log a row returns `Event::Offline` iff its
outcome is an incoming DISCONNECT, an outgoing DISCONNECT, or an error met in state `Connected`;
an error met in `Disconnected` or `ManualDisconnected` returns nothing (and the state does not
change). -/
theorem M14_offline_reports (f : Bytes → Bytes → E) (s : ConnState) (tr : List RuEv) :
    ∀ st ∈ stepLog f s tr,
      (st.report = some .offline ↔
        (st.ev = .incomingDisconnect ∨ st.ev = .outgoingDisconnect ∨
          (st.ev = .error ∧ st.pre = .connected))) ∧
      (st.ev = .error → st.pre ≠ .connected → st.report = none ∧ st.post = st.pre) := by
  intro st h
  obtain ⟨hp, hr, _⟩ := stepLog_row f s tr st h
  refine ⟨by rw [hr]; exact pollStep_offline_iff f st.pre st.ev, ?_⟩
  intro he hne
  rw [hr, hp, he]
  cases hs : st.pre <;> simp_all [pollStep]

/-- **Connected implies the last connection report was Online** (and conversely): starting as
`EventLoop::new` does (`Disconnected`), after any outcome sequence the state is `Connected` iff
the last Online/Offline event returned by `poll` is Online. -/
theorem M14_connected_implies_last_report_online (f : Bytes → Bytes → E) (tr : List RuEv) :
    finalState f .disconnected tr = .connected ↔
      lastConn (reports f .disconnected tr) = some true := by
  rw [finalState_connected_iff]; simp

/-- the same characterisation without model states: an error makes `poll` return Offline iff the
last Online/Offline returned before it was Online -/
theorem M14_offline_reports_history (f : Bytes → Bytes → E) (pre post : List RuEv) :
    reports f .disconnected (pre ++ .error :: post) =
      reports f .disconnected pre ++
        (if lastConn (reports f .disconnected pre) = some true then [.offline] else []) ++
        reports f (finalState f .disconnected (pre ++ [.error])) post := by
  have hc := M14_connected_implies_last_report_online f pre
  have : pre ++ RuEv.error :: post = (pre ++ [RuEv.error]) ++ post := by simp
  rw [this, reports_append, reports_append]
  congr 1
  congr 1
  simp only [← hc]
  cases finalState f .disconnected pre <;> simp [reports]

/-! ### no Offline storm -/

/-- **No Offline storm: the exact count.** Take the outcomes `seg` between two ConnAcks (so the
stretch starts in `Connected`, right after an Online). The number of Offline reports in it is the
number of DISCONNECT events (incoming + outgoing) plus one if the first loss indication of the
stretch is an error — errors never produce more than ONE Offline per connection, however many
follow; only DISCONNECT packets events can add further ones. -/
theorem M14_no_offline_storm (f : Bytes → Bytes → E) (seg : List RuEv)
    (hseg : ∀ e ∈ seg, e ≠ .connAck) :
    offlineCount (reports f .connected seg) =
      discCount seg + (if firstLoss seg = some .error then 1 else 0) := by
  simpa using offlineCount_stretch f .connected seg hseg

/-- corollaries: at most `discCount + 1`; without DISCONNECT events at most one Offline between
two Onlines; and no Online inside the stretch -/
theorem M14_no_offline_storm_bound (f : Bytes → Bytes → E) (seg : List RuEv)
    (hseg : ∀ e ∈ seg, e ≠ .connAck) :
    offlineCount (reports f .connected seg) ≤ discCount seg + 1 ∧
    (discCount seg = 0 → offlineCount (reports f .connected seg) ≤ 1) ∧
    onlineCount (reports f .connected seg) = 0 := by
  have hc : connAckCount seg = 0 := by
    unfold connAckCount
    rw [List.length_eq_zero_iff, List.filter_eq_nil_iff]
    intro e he
    cases e <;> first | exact absurd rfl (hseg _ he) | nofun
  have h := M14_no_offline_storm f seg hseg
  have ho := (M14_online_iff_connack f .connected seg).2
  refine ⟨?_, ?_, by omega⟩
  · rw [h]; split <;> omega
  · intro h0; rw [h, h0]; split <;> omega

/-- the stretch between two Online reports, in the output: for outcomes
`a ++ connAck :: seg ++ connAck :: b` with `seg` ConnAck-free the reports are
`… Online, reports(Connected, seg), Online …` -/
theorem M14_between_onlines (f : Bytes → Bytes → E) (s : ConnState) (a seg b : List RuEv) :
    reports f s (a ++ .connAck :: (seg ++ .connAck :: b)) =
      reports f s a ++ .online :: (reports f .connected seg ++ .online :: reports f .connected b) := by
  rw [reports_append]
  congr 1
  simp only [reports, pollStep]
  congr 1
  rw [reports_append]
  congr 1

/-- global form, for every outcome sequence from `EventLoop::new`'s state: Offline reports never
exceed Online reports plus DISCONNECT events -/
theorem M14_offline_le (f : Bytes → Bytes → E) (s : ConnState) (tr : List RuEv) :
    offlineCount (reports f s tr) ≤
      onlineCount (reports f s tr) + discCount tr + (if s = .connected then 1 else 0) := by
  induction tr generalizing s with
  | nil => simp [reports, offlineCount]
  | cons e t ih =>
    have h := ih (pollStep f s e).1
    cases e with
    | error => cases s <;> simp at h ⊢ <;> omega
    | _ => simp at h ⊢ <;> omega

/-- duplicates ARE possible: a broker DISCONNECT surfaced as an event followed by the client's
own disconnect gives two Offline in a row -/
example : reports (fun _ _ => ()) .disconnected [.connAck, .incomingDisconnect, .outgoingDisconnect] =
    [.online, .offline, .offline] := by decide

/-- and so do two `disconnect()` calls on one connection (observed on the real crate, harness
op `cdisc twice`) -/
example : reports (fun _ _ => ()) .disconnected [.connAck, .outgoingDisconnect, .outgoingDisconnect] =
    [.online, .offline, .offline] := by decide

/-- while repeated errors do not: one Offline, then silence (and a sleep per further error) -/
example : reports (fun _ _ => ()) .disconnected [.connAck, .error, .error, .error, .connAck] =
    [.online, .offline, .online] ∧
    sleepCount (fun _ _ => ()) .disconnected [.connAck, .error, .error, .error, .connAck] = 2 := by
  decide

/-! ### publishes -/

/-- **Publish pass-through.** Whatever the state and whatever else happens, the message events
returned by `poll` are exactly `topic_and_payload_to_event (topic, payload)` of the incoming
PUBLISH outcomes, unchanged and in order. -/
theorem M14_publish_passthrough (f : Bytes → Bytes → E) (s : ConnState) (tr : List RuEv) :
    (reports f s tr).filterMap msgOf = tr.filterMap (pubOf f) := by
  induction tr generalizing s with
  | nil => rfl
  | cons e t ih =>
    cases e with
    | error => cases s <;> simp [ih, msgOf, pubOf, List.filterMap_cons]
    | _ => simp [ih, msgOf, pubOf, List.filterMap_cons]

/-! ### manual disconnect, sleeping -/

/-- **After a manual disconnect errors are silent.** Once `Outgoing::Disconnect` was seen, any
run of errors / other events returns nothing to the caller, never sleeps, and leaves the state
`ManualDisconnected` (rumqttc keeps reconnecting at once; only a ConnAck or a DISCONNECT event
ends the silence). -/
theorem M14_manual_disconnect_then_error_is_silent (f : Bytes → Bytes → E) (s : ConnState)
    (tr : List RuEv) (h : ∀ e ∈ tr, e = .error ∨ e = .otherEvent) :
    reports f s (.outgoingDisconnect :: tr) = [.offline] ∧
    sleepCount f s (.outgoingDisconnect :: tr) = 0 ∧
    finalState f s (.outgoingDisconnect :: tr) = .manualDisconnected := by
  obtain ⟨h1, h2, h3⟩ := stutter f .manualDisconnected false tr
    fun e he => by rcases h e he with rfl | rfl <;> rfl
  simp [sleepCount, finalState, h1, h2, h3]

/-- **The 1 s sleep.** A row sleeps iff it is an error met in `Disconnected`; in particular never
on the error that ends a connection and never after a manual disconnect. -/
theorem M14_sleep_iff (f : Bytes → Bytes → E) (s : ConnState) (tr : List RuEv) :
    ∀ st ∈ stepLog f s tr, st.slept = true ↔ (st.ev = .error ∧ st.pre = .disconnected) := by
  intro st h
  rw [(stepLog_row f s tr st h).2.2]
  cases st.ev with
  | error => cases st.pre <;> simp
  | _ => simp

/-- `n` failed reconnects in a row while `Disconnected`: `n` sleeps, nothing reported -/
theorem M14_reconnect_errors_sleep (f : Bytes → Bytes → E) (n : Nat) :
    reports f .disconnected (List.replicate n .error) = [] ∧
    sleepCount f .disconnected (List.replicate n .error) = n ∧
    finalState f .disconnected (List.replicate n .error) = .disconnected := by
  simpa using stutter f .disconnected true (List.replicate n .error)
    fun e he => by rw [List.eq_of_mem_replicate he]; rfl

/-- `EventLoop::poll` returns the first report of the remaining outcomes: iterating `pollLoop`
yields `reports` -/
theorem M14_poll_loop (f : Bytes → Bytes → E) (s : ConnState) (tr : List RuEv) :
    match pollLoop f s tr with
    | some (s', ev, rest, _) =>
        reports f s tr = ev :: reports f s' rest ∧ finalState f s tr = finalState f s' rest
    | none => reports f s tr = [] := by
  induction tr generalizing s with
  | nil => simp [pollLoop, reports]
  | cons e t ih =>
    have := ih (pollStep f s e).1
    simp only [pollLoop, reports, finalState]
    cases hr : (pollStep f s e).2.1 with
    | some ev => simp
    | none =>
      simp only
      cases hp : pollLoop f (pollStep f s e).1 t with
      | none => simp [hp] at this; simpa using this
      | some q =>
        obtain ⟨s', ev, rest, n⟩ := q
        simp [hp] at this
        simpa using this

/-! ### the pure conversions -/

/-- `qos_to_mqtt_qos` keeps the level: wire value 0 for AtMostOnce, 1 for AtLeastOnce; it never
produces QoS 2 -/
theorem M14_qos_mapping :
    (qosToMqtt .atMostOnce).wire = 0 ∧ (qosToMqtt .atLeastOnce).wire = 1 ∧
    ∀ q, qosToMqtt q ≠ .exactlyOnce := by
  refine ⟨rfl, rfl, ?_⟩
  intro q; cases q <;> decide

/-- **The wire QoS / retain table**: NBIRTH, NDATA, NCMD = (0, false); NDEATH, DBIRTH, DDEATH =
(1, false); DDATA, DCMD = (0, false); STATE = (1, true) — for every topic string and payload. -/
theorem M14_qos_retain_table (t p : Bytes) :
    ((wirePublish (.node .birth) t p).qos.wire, (wirePublish (.node .birth) t p).retain) = (0, false) ∧
    ((wirePublish (.node .data) t p).qos.wire, (wirePublish (.node .data) t p).retain) = (0, false) ∧
    ((wirePublish (.node .cmd) t p).qos.wire, (wirePublish (.node .cmd) t p).retain) = (0, false) ∧
    ((wirePublish (.node .death) t p).qos.wire, (wirePublish (.node .death) t p).retain) = (1, false) ∧
    ((wirePublish (.device .birth) t p).qos.wire, (wirePublish (.device .birth) t p).retain) = (1, false) ∧
    ((wirePublish (.device .death) t p).qos.wire, (wirePublish (.device .death) t p).retain) = (1, false) ∧
    ((wirePublish (.device .data) t p).qos.wire, (wirePublish (.device .data) t p).retain) = (0, false) ∧
    ((wirePublish (.device .cmd) t p).qos.wire, (wirePublish (.device .cmd) t p).retain) = (0, false) ∧
    ((wirePublish .state t p).qos.wire, (wirePublish .state t p).retain) = (1, true) :=
  ⟨rfl, rfl, rfl, rfl, rfl, rfl, rfl, rfl, rfl⟩

/-- the same table as a decided finite table over all nine kinds -/
theorem M14_qos_retain_table_all :
    ([PubKind.node .birth, .node .data, .node .cmd, .node .death, .device .birth, .device .death,
      .device .data, .device .cmd, .state].map
        fun k => ((qosToMqtt (pubQosRetain k).1).wire, (pubQosRetain k).2)) =
    [(0, false), (0, false), (0, false), (1, false), (1, false), (1, false), (0, false), (0, false),
      (1, true)] := by decide

/-- topic string and payload bytes go to rumqttc unchanged, for every kind -/
theorem M14_publish_faithful (k : PubKind) (t p : Bytes) :
    (wirePublish k t p).topic = t ∧ (wirePublish k t p).payload = p ∧
    (publishRequest k t p = none ↔ validTopic t = false) := by
  refine ⟨rfl, rfl, ?_⟩
  unfold publishRequest
  cases validTopic t <;> simp

/-- **The will is converted faithfully**: topic, payload bytes, QoS level and retain flag of the
registered `LastWill` are those of the rumqttc will; no will properties; and the CONNECT of every
connection carries the will of the last `set_last_will` before it (the one given in the user's
`MqttOptions` if there was none), for every sequence of `set_last_will` / poll activity. -/
theorem M14_will_faithful {X : Type} (o : ConnOpts X) (w : LastWill) (pre post : List Call) :
    (convertWill w).topic = w.topic ∧ (convertWill w).message = w.payload ∧
    (convertWill w).qos.wire = (match w.qos with | .atMostOnce => 0 | .atLeastOnce => 1) ∧
    (convertWill w).retain = w.retain ∧ (convertWill w).hasProperties = false ∧
    (setLastWill o w).will = some (convertWill w) ∧
    (connectLog o (pre ++ .connect :: post))[(connectLog o pre).length]? =
      some { o with will := lastWillOf o.will pre } := by
  refine ⟨rfl, rfl, by cases w with | mk t r q p => cases q <;> rfl, rfl, rfl, rfl, ?_⟩
  rw [connectLog_append, optsAfter_eq]
  simp [connectLog]

/-- **Connect options**: from `EventLoop::new` on, every CONNECT says clean start = true and
session expiry interval = 0, whatever the user's options said and whatever wills are registered;
the remaining options are the user's. -/
theorem M14_connect_options {X : Type} (o : ConnOpts X) (calls : List Call) :
    ∀ c ∈ connectLog (newOptions o) calls,
      c.cleanStart = true ∧ c.sessionExpiry = some 0 ∧ c.other = o.other := by
  have gen : ∀ (o' : ConnOpts X), o'.cleanStart = true → o'.sessionExpiry = some 0 →
      o'.other = o.other →
      ∀ c ∈ connectLog o' calls, c.cleanStart = true ∧ c.sessionExpiry = some 0 ∧ c.other = o.other := by
    induction calls with
    | nil => intro o' _ _ _ c hc; simp [connectLog] at hc
    | cons x t ih =>
      intro o' h1 h2 h3 c hc
      cases x with
      | setLastWill w => exact ih (setLastWill o' w) h1 h2 h3 c (by simpa [connectLog] using hc)
      | connect =>
        simp only [connectLog, List.mem_cons] at hc
        rcases hc with hc | hc
        · subst hc; exact ⟨h1, h2, h3⟩
        · exact ih o' h1 h2 h3 c hc
      | other => exact ih o' h1 h2 h3 c (by simpa [connectLog] using hc)
  exact gen (newOptions o) rfl rfl rfl

/-- **Subscribe filters**: `subscribe_many` sends one request with one filter per `TopicFilter`,
in order, path = the topic's string, QoS level kept, default subscription options; the three
wildcard topics are `spBv1.0/<g>/+/<n>/#`, `spBv1.0/<id>/+/#`, `spBv1.0/#`. -/
theorem M14_subscribe_filters (tfs : List TopicFilter) :
    (subscribeRequest tfs).length = tfs.length ∧
    ∀ i (h : i < tfs.length),
      ((subscribeRequest tfs)[i]?).map (·.path) = some (topicString tfs[i].topic) ∧
      ((subscribeRequest tfs)[i]?).map (·.qos) = some (qosToMqtt tfs[i].qos) ∧
      ((subscribeRequest tfs)[i]?).map (·.nolocal) = some false := by
  refine ⟨by simp [subscribeRequest], ?_⟩
  intro i h
  simp [subscribeRequest, List.getElem?_map, List.getElem?_eq_getElem h, convertFilter]

/-- the full-queue rule of the `try_` variants: of `n` calls made while nobody drains the queue,
exactly the first `cap - queued` succeed -/
theorem M14_try_publish_capacity (cap queued n : Nat) :
    tryMany cap queued n =
      List.replicate (min n (cap - queued)) true ++ List.replicate (n - min n (cap - queued)) false := by
  induction n generalizing queued with
  | zero => simp [tryMany]
  | succ n ih =>
    unfold tryMany
    by_cases h : queued < cap
    · simp only [tryAccepts, h, decide_true, if_true]
      rw [ih (queued + 1)]
      have h1 : min (n + 1) (cap - queued) = min n (cap - (queued + 1)) + 1 := by omega
      have h2 : n + 1 - min (n + 1) (cap - queued) = n - min n (cap - (queued + 1)) := by omega
      rw [h2, h1, List.replicate_succ]; rfl
    · simp only [tryAccepts, h, decide_false]
      rw [ih queued]
      have h0 : cap - queued = 0 := by omega
      simp [h0, List.replicate_succ]

/-! ### non-vacuity: concrete runs -/

/-- a session: connect, a publish, socket loss, two failed reconnects, connect, manual
disconnect, an error, a reconnect -/
example :
    let tr : List RuEv := [.connAck, .incomingPublish [1] [2], .otherEvent, .error, .error, .error,
      .connAck, .outgoingDisconnect, .error, .connAck]
    reports (fun t p => (t, p)) .disconnected tr =
      [.online, .message ([1], [2]), .offline, .online, .offline, .online] ∧
    sleepCount (fun t p => (t, p)) .disconnected tr = 2 ∧
    finalState (fun t p => (t, p)) .disconnected tr = .connected ∧
    firstLoss [RuEv.otherEvent, .error, .error] = some .error := by decide

/-- the hypotheses of the storm theorem are satisfiable by a stretch with both kinds of loss -/
example : (∀ e ∈ [RuEv.otherEvent, .error, .incomingDisconnect, .error], e ≠ RuEv.connAck) ∧
    offlineCount (reports (fun _ _ => ()) .connected [.otherEvent, .error, .incomingDisconnect, .error]) = 2 := by
  decide

/-- the silent-error theorem's hypothesis is satisfiable -/
example : reports (fun _ _ => ()) .connected [.outgoingDisconnect, .error, .otherEvent, .error] = [.offline] := by
  decide

/-- the will of the second CONNECT is the second registration -/
example :
    let w1 : LastWill := { topic := [1], retain := false, qos := .atLeastOnce, payload := [7] }
    let w2 : LastWill := { topic := [1], retain := false, qos := .atLeastOnce, payload := [8] }
    let o : ConnOpts Unit := newOptions { cleanStart := false, sessionExpiry := some 30, will := none, other := () }
    (connectLog o [.setLastWill w1, .connect, .other, .setLastWill w2, .connect]).map (·.will) =
      [some (convertWill w1), some (convertWill w2)] ∧
    (connectLog o [.connect]).map (fun c => (c.cleanStart, c.sessionExpiry)) = [(true, some 0)] := by
  decide

example : topicString (.node [0x67] [0x6e]) =
    [0x73, 0x70, 0x42, 0x76, 0x31, 0x2e, 0x30, 0x2f, 0x67, 0x2f, 0x2b, 0x2f, 0x6e, 0x2f, 0x23] := by decide

example : tryMany 2 0 4 = [true, true, false, false] ∧ tryMany 0 0 2 = [false, false] := by decide

example : publishRequest (.node .data) [0x61, 0x2b] [] = none ∧
    (publishRequest (.node .death) [0x61] [1]).map (fun w => (w.qos.wire, w.retain)) = some (1, false) := by
  decide

end Srad.Rumqtt
